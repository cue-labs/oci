/-
The fingerprints of `AuthShape.lean` against the facts regenerated from the source, for the
functions that both the token properties (C10) and the confinement properties (C11) rest on.
Each property file checks the functions only it rests on itself, so that a change to one of
those does not concern the other property. The facts of one file are proved in one
declaration, one `rfl` per function, each evaluating `fingerprint` on the regenerated tables.
-/
import OciModel.AuthShape
namespace OciModel.AuthShape

/-- The functions that set the `Authorization` header have, in the working tree, the guards,
calls, returns and assignments of the functions the transport model mirrors. -/
structure AuthorizationFingerprints : Prop where
  registry_init : fingerprint "registry.init" = some AuthShape.registry_init
  registry_setAuthorization : fingerprint "registry.setAuthorization" = some AuthShape.registry_setAuthorization
  registry_setAuthorizationFromChallenge :
    fingerprint "registry.setAuthorizationFromChallenge" = some AuthShape.registry_setAuthorizationFromChallenge

theorem authorization_fingerprints : AuthorizationFingerprints where
  registry_init := rfl
  registry_setAuthorization := rfl
  registry_setAuthorizationFromChallenge := rfl

end OciModel.AuthShape
