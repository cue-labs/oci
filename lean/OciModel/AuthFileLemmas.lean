/-
Lemmas about `OciModel/AuthFile.lean` (property C19): maps as association lists, `urlHost`,
the sorting of `derivedFrom`, `decodeAuth` on what was encoded, and the loop of
`decodeConfigFile`. The table after any set `S` of visited document keys is characterised
by `Inv`; from it follow `decodeWith_equiv` (the order of visiting does not matter) and, for
a complete pass (`Admissible`), what the finished table holds for each kind of host.
-/
import OciModel.AuthFile
namespace OciModel.AuthFile

/-! ### Maps -/

theorem lookup_insert (k k' : Bytes) (v : AuthConfig) (m : Auths) :
    (insert k v m).lookup k' = if k' = k then some v else m.lookup k' := by
  simp only [insert, List.lookup_cons]
  by_cases h : k' = k
  · simp [h]
  · have : (k' == k) = false := by simpa using h
    simp [h, this]

theorem lookup_initAuths (orig : List (Bytes × Entry)) (k : Bytes) :
    (initAuths orig).lookup k = (orig.lookup k).map fun e => { derivedFrom := [], e := e } := by
  induction orig with
  | nil => simp [initAuths]
  | cons p rest ih =>
    obtain ⟨k0, e0⟩ := p
    simp only [initAuths, List.map_cons, List.lookup_cons] at ih ⊢
    cases h : (k == k0) <;> simp [ih]

/-! ### `urlHost`, `hasSS` -/

theorem mem_of_hasSS {l : Bytes} (h : hasSS l = true) : (47 : UInt8) ∈ l := by
  fun_induction hasSS l with
  | case1 => simp at h
  | case2 => simp at h
  | case3 a b rest ih =>
    simp only [Bool.or_eq_true, Bool.and_eq_true, beq_iff_eq] at h
    rcases h with ⟨ha, _⟩ | h
    · simp [ha]
    · exact List.mem_cons_of_mem _ (ih h)

theorem not_mem_urlHost (u : Bytes) : (47 : UInt8) ∉ urlHost u := by
  intro h
  have := List.all_eq_true.mp List.all_takeWhile _ h
  simp at this

/-- A derived host never looks like a URL: visiting it cannot derive anything further. -/
theorem hasSS_urlHost (u : Bytes) : hasSS (urlHost u) = false := by
  cases h : hasSS (urlHost u)
  · rfl
  · exact absurd (mem_of_hasSS h) (not_mem_urlHost u)

/-- The test `addr1 == addr` in `decodeConfigFile` never succeeds after
`strings.Contains(addr, "//")` did. -/
theorem urlHost_ne_of_hasSS {u : Bytes} (h : hasSS u = true) : urlHost u ≠ u := by
  intro e
  have := not_mem_urlHost u
  rw [e] at this
  exact this (mem_of_hasSS h)

/-! ### Sorting -/

theorem insertSorted_perm (k : Bytes) (l : List Bytes) : (insertSorted k l).Perm (k :: l) := by
  induction l with
  | nil => simp [insertSorted]
  | cons x xs ih =>
    simp only [insertSorted]
    split
    · exact List.Perm.refl _
    · exact ((List.Perm.cons x ih).trans (List.Perm.swap k x xs))

theorem sortKeys_perm (l : List Bytes) : (sortKeys l).Perm l := by
  induction l with
  | nil => simp [sortKeys]
  | cons x xs ih =>
    have : sortKeys (x :: xs) = insertSorted x (sortKeys xs) := rfl
    rw [this]
    exact (insertSorted_perm x _).trans (List.Perm.cons x ih)

/-! ### `decodeEntry` -/

/-- The entry as it is stored once its key has been visited. -/
def decoded (e : Entry) : Entry := (decodeEntry e).getD e

theorem decodeEntry_decoded {e e' : Entry} (h : decodeEntry e = some e') :
    decodeEntry e' = some e' := by
  unfold decodeEntry at h ⊢
  by_cases ha : e.auth = []
  · simp [ha] at h; subst h; simp [ha]
  · simp only [ha, if_false] at h
    cases hd : decodeAuth e.auth with
    | none => simp [hd] at h
    | some up =>
      obtain ⟨u, p⟩ := up
      simp only [hd, Option.some.injEq] at h
      subst h
      simp [ha, hd]

theorem decoded_of_some {e e' : Entry} (h : decodeEntry e = some e') : decoded e = e' := by
  simp [decoded, h]

/-! ### The invariant -/

/-- `k` is an original key. -/
def inOrig (orig : List (Bytes × Entry)) (k : Bytes) : Bool := (orig.lookup k).isSome

theorem inOrig_of_lookup {orig : List (Bytes × Entry)} {k e} (h : orig.lookup k = some e) :
    inOrig orig k = true := by
  simp [inOrig, h]

/-- `k` is a URL-form key deriving host `h`. -/
def isUrlKeyFor (h k : Bytes) : Bool := hasSS k && urlHost k == h

/-- The visited URL-form keys deriving `h`. -/
def urlKeys (S : List Bytes) (h : Bytes) : List Bytes := S.filter (isUrlKeyFor h)

/-- What the table looks like after exactly the original keys in `S` have been visited
(and any number of derived keys). -/
structure Inv (orig : List (Bytes × Entry)) (S : List Bytes) (m : Auths) : Prop where
  /-- original keys keep their own entry, never marked as derived; decoded once visited -/
  origKey : ∀ k e, orig.lookup k = some e →
    m.lookup k = some { derivedFrom := [], e := if k ∈ S then decoded e else e }
  /-- every visited entry decoded (otherwise the loop has returned) -/
  visitedOk : ∀ k, k ∈ S → ∀ e, orig.lookup k = some e → (decodeEntry e).isSome = true
  /-- other hosts: present iff some visited URL-form key derives them; `derivedFrom` is
  those keys; the credentials are those of one of them -/
  derived : ∀ h, orig.lookup h = none →
    match m.lookup h with
    | none => urlKeys S h = []
    | some ac => ac.derivedFrom.Perm (urlKeys S h) ∧ urlKeys S h ≠ [] ∧
        ∃ k, k ∈ urlKeys S h ∧ ∃ e, orig.lookup k = some e ∧ ac.e = decoded e

theorem Inv.congr {orig S m m'} (hI : Inv orig S m) (h : ∀ k, m'.lookup k = m.lookup k) :
    Inv orig S m' := by
  refine ⟨fun k e hk => ?_, hI.visitedOk, fun k hk => ?_⟩
  · rw [h]; exact hI.origKey k e hk
  · rw [h]; exact hI.derived k hk

theorem Inv.lookup_eq_none_iff {orig S m h} (hI : Inv orig S m) (hh : orig.lookup h = none) :
    m.lookup h = none ↔ urlKeys S h = [] := by
  have d := hI.derived h hh
  cases hl : m.lookup h with
  | none => rw [hl] at d; simp [d]
  | some ac => rw [hl] at d; simp [d.2.1]

theorem Inv.of_lookup_some {orig S m h ac} (hI : Inv orig S m) (hh : orig.lookup h = none)
    (hl : m.lookup h = some ac) :
    ac.derivedFrom.Perm (urlKeys S h) ∧
      ∃ k, k ∈ urlKeys S h ∧ ∃ e, orig.lookup k = some e ∧ ac.e = decoded e := by
  have d := hI.derived h hh
  rw [hl] at d
  exact ⟨d.1, d.2.2⟩

theorem inv_init (orig : List (Bytes × Entry)) : Inv orig [] (initAuths orig) := by
  refine ⟨fun k e hk => ?_, fun k hk => by simp at hk, fun h hh => ?_⟩
  · simp [lookup_initAuths, hk]
  · simp [lookup_initAuths, hh, urlKeys]

theorem urlKeys_append (S : List Bytes) (k h : Bytes) :
    urlKeys (S ++ [k]) h = urlKeys S h ++ (if isUrlKeyFor h k then [k] else []) := by
  simp only [urlKeys, List.filter_append, List.filter_cons, List.filter_nil]

theorem visit_nonorig {orig S m k} (hI : Inv orig S m) (hk : orig.lookup k = none) :
    ∃ m', visit m k = some m' ∧ ∀ h, m'.lookup h = m.lookup h := by
  cases hm : m.lookup k with
  | none => exact ⟨m, by simp [visit, hm], fun _ => rfl⟩
  | some ac =>
    obtain ⟨_, k0, hk0, e, he, hace⟩ := hI.of_lookup_some hk hm
    obtain ⟨hk0S, hurl⟩ := List.mem_filter.mp hk0
    obtain ⟨e', he'⟩ := Option.isSome_iff_exists.mp (hI.visitedOk k0 hk0S e he)
    have hdec : decodeEntry ac.e = some ac.e := by
      rw [hace, decoded_of_some he']; exact decodeEntry_decoded he'
    simp only [isUrlKeyFor, Bool.and_eq_true, beq_iff_eq] at hurl
    have hss : hasSS k = false := hurl.2 ▸ hasSS_urlHost k0
    refine ⟨insert k ac m, by simp [visit, hm, hdec, hss], fun h => ?_⟩
    rw [lookup_insert]
    split
    · next hh => rw [hh, hm]
    · rfl

/-- What the visit of a document key `k` whose entry decodes to `e'` has to do to the lookups
for the invariant to hold with `k` added: document keys read as after `f.Auths[k] = ac`,
hosts that `k` does not derive are untouched, and a host outside the document that `k`
derives records `k` as well and has the credentials of one of its keys. -/
theorem Inv.step {orig S m k e e'} {m' : Auths} (hI : Inv orig S m) (hk : orig.lookup k = some e)
    (hde : decodeEntry e = some e')
    (horig : ∀ k', inOrig orig k' = true →
      m'.lookup k' = if k' = k then some { derivedFrom := [], e := e' } else m.lookup k')
    (hother : ∀ h, orig.lookup h = none → isUrlKeyFor h k = false → m'.lookup h = m.lookup h)
    (hnew : ∀ h, orig.lookup h = none → isUrlKeyFor h k = true →
      ∃ ac, m'.lookup h = some ac ∧ ac.derivedFrom.Perm (urlKeys S h ++ [k]) ∧
        ∃ k0, k0 ∈ urlKeys S h ++ [k] ∧ ∃ e0, orig.lookup k0 = some e0 ∧ ac.e = decoded e0) :
    Inv orig (S ++ [k]) m' := by
  refine ⟨fun k' e'' hk' => ?_, fun k' hk' e'' he'' => ?_, fun h hh => ?_⟩
  · rw [horig k' (inOrig_of_lookup hk')]
    by_cases hkk : k' = k
    · subst hkk
      rw [hk] at hk'
      cases hk'
      simp [decoded_of_some hde]
    · simp [hkk, hI.origKey k' e'' hk']
  · rcases List.mem_append.mp hk' with h | h
    · exact hI.visitedOk k' h e'' he''
    · obtain rfl : k' = k := by simpa using h
      rw [hk] at he''
      cases he''
      simp [hde]
  · cases hu : isUrlKeyFor h k with
    | false =>
      simpa only [hother h hh hu, urlKeys_append, hu, Bool.false_eq_true, if_false, List.append_nil]
        using hI.derived h hh
    | true =>
      obtain ⟨ac, hl, hp, hw⟩ := hnew h hh hu
      rw [hl, urlKeys_append, hu]
      exact ⟨hp, by simp, hw⟩

theorem Inv.not_orig {orig S m h} (hI : Inv orig S m)
    (hn : ∀ ac, m.lookup h = some ac → ac.derivedFrom ≠ []) : orig.lookup h = none := by
  cases ho : orig.lookup h with
  | none => rfl
  | some e => exact absurd rfl (hn _ (hI.origKey h e ho))

theorem visit_orig {orig S m k e} (hI : Inv orig S m) (hk : orig.lookup k = some e)
    (hkS : k ∉ S) :
    (decodeEntry e = none → visit m k = none) ∧
    ∀ e', decodeEntry e = some e' → ∃ m', visit m k = some m' ∧ Inv orig (S ++ [k]) m' := by
  have hmk := hI.origKey k e hk
  simp only [hkS, if_false] at hmk
  refine ⟨fun hde => by simp [visit, hmk, hde], fun e' hde => ?_⟩
  -- the map after `f.Auths[addr] = ac`
  let m1 := insert k { derivedFrom := [], e := e' } m
  have hm1 : ∀ h, m1.lookup h = if h = k then some { derivedFrom := [], e := e' } else m.lookup h :=
    fun h => lookup_insert k h _ m
  have hm1other : ∀ h, orig.lookup h = none → m1.lookup h = m.lookup h := fun h hh => by
    rw [hm1, if_neg]
    intro e0; rw [e0, hk] at hh; cases hh
  -- the case where no host outside the document is derived from this key
  have plain : (∀ h, orig.lookup h = none → isUrlKeyFor h k = false) → Inv orig (S ++ [k]) m1 :=
    fun hn => hI.step hk hde (fun k' _ => hm1 k') (fun h hh _ => hm1other h hh)
      (fun h hh hu => by rw [hn h hh] at hu; cases hu)
  cases hss : hasSS k with
  | false =>
    exact ⟨m1, by simp [visit, hmk, hde, hss, m1], plain fun h _ => by simp [isUrlKeyFor, hss]⟩
  | true =>
    have hne : urlHost k ≠ k := urlHost_ne_of_hasSS hss
    have hurl : ∀ h, isUrlKeyFor h k = true ↔ h = urlHost k := by
      intro h
      simp only [isUrlKeyFor, hss, Bool.true_and, beq_iff_eq]
      exact eq_comm
    -- the case of a second assignment, to the derived host, which is not in the document
    have derive : ∀ ac2 : AuthConfig, orig.lookup (urlHost k) = none →
        ac2.derivedFrom.Perm (urlKeys S (urlHost k) ++ [k]) →
        (∃ k0, k0 ∈ urlKeys S (urlHost k) ++ [k] ∧ ∃ e0, orig.lookup k0 = some e0 ∧ ac2.e = decoded e0) →
        Inv orig (S ++ [k]) (insert (urlHost k) ac2 m1) := by
      intro ac2 ho hp hw
      have hm2 : ∀ h, (insert (urlHost k) ac2 m1).lookup h =
          if h = urlHost k then some ac2 else m1.lookup h := fun h => lookup_insert _ h _ m1
      refine hI.step hk hde (fun k' hk' => ?_) (fun h hh hu => ?_) (fun h hh hu => ?_)
      · rw [hm2, if_neg, hm1]
        intro e0; rw [e0, inOrig, ho] at hk'; cases hk'
      · rw [hm2, if_neg, hm1other h hh]
        intro e0; rw [(hurl h).mpr e0] at hu; cases hu
      · rw [(hurl h).mp hu, hm2, if_pos rfl]
        exact ⟨ac2, rfl, hp, hw⟩
    cases hl : m.lookup (urlHost k) with
    | some ac1 =>
      by_cases hdf : ac1.derivedFrom = []
      · -- an explicit entry: not overridden
        refine ⟨m1, by simp [visit, hmk, hde, hss, hne, m1, lookup_insert, hl, hdf], plain fun h hh => ?_⟩
        cases hu : isUrlKeyFor h k with
        | false => rfl
        | true =>
          rw [(hurl h).mp hu] at hh
          have p := (hI.of_lookup_some hh hl).1
          rw [hdf] at p
          rw [(hI.lookup_eq_none_iff hh).mpr p.nil_eq.symm] at hl
          cases hl
      · -- a host derived before: one more key recorded, credentials kept
        have ho := hI.not_orig (h := urlHost k) fun ac ha => by rw [hl] at ha; cases ha; exact hdf
        obtain ⟨hp, k0, hk0, e0, he0, hace⟩ := hI.of_lookup_some ho hl
        let ac2 : AuthConfig := { ac1 with derivedFrom := sortKeys (ac1.derivedFrom ++ [k]) }
        exact ⟨insert (urlHost k) ac2 m1, by simp [visit, hmk, hde, hss, hne, m1, ac2, lookup_insert, hl, hdf],
          derive ac2 ho ((sortKeys_perm _).trans (hp.append_right [k]))
            ⟨k0, List.mem_append_left _ hk0, e0, he0, hace⟩⟩
    | none =>
      -- first URL-form key for this host
      have ho := hI.not_orig (h := urlHost k) fun ac ha => by rw [hl] at ha; cases ha
      let ac2 : AuthConfig := { derivedFrom := sortKeys ([] ++ [k]), e := e' }
      refine ⟨insert (urlHost k) ac2 m1, by simp [visit, hmk, hde, hss, hne, m1, ac2, lookup_insert, hl],
        derive ac2 ho ?_ ⟨k, by simp, e, hk, (decoded_of_some hde).symm⟩⟩
      rw [(hI.lookup_eq_none_iff ho).mp hl]
      exact sortKeys_perm _

/-- The original keys of a visiting sequence, in visiting order. -/
def origPart (orig : List (Bytes × Entry)) (v : List Bytes) : List Bytes := v.filter (inOrig orig)

/-- `decodeEntry` fails on the original entry of `k`. -/
def BadKey (orig : List (Bytes × Entry)) (k : Bytes) : Prop :=
  ∃ e, orig.lookup k = some e ∧ decodeEntry e = none

theorem visitAll_inv {orig} (v : List Bytes) : ∀ {S m}, Inv orig S m →
    (S ++ origPart orig v).Nodup →
    match visitAll m v with
    | none => ∃ k, k ∈ origPart orig v ∧ BadKey orig k
    | some m' => Inv orig (S ++ origPart orig v) m' := by
  induction v with
  | nil => intro S m hI _; simpa [visitAll, origPart] using hI
  | cons k ks ih =>
    intro S m hI hnd
    cases hk : orig.lookup k with
    | none =>
      have hop : origPart orig (k :: ks) = origPart orig ks := by simp [origPart, inOrig, hk]
      obtain ⟨m', hv, hl⟩ := visit_nonorig hI hk
      rw [hop] at hnd ⊢
      simp only [visitAll, hv]
      exact ih (hI.congr hl) hnd
    | some e =>
      have hop : origPart orig (k :: ks) = k :: origPart orig ks := by simp [origPart, inOrig, hk]
      rw [hop] at hnd ⊢
      have hkS : k ∉ S := fun h => (List.nodup_append.mp hnd).2.2 k h k (by simp) rfl
      obtain ⟨hnone, hsome⟩ := visit_orig hI hk hkS
      cases hde : decodeEntry e with
      | none =>
        simp only [visitAll, hnone hde]
        exact ⟨k, by simp, e, hk, hde⟩
      | some e' =>
        obtain ⟨m', hv, hI'⟩ := hsome e' hde
        simp only [visitAll, hv]
        have := ih hI' (by simpa using hnd)
        revert this
        cases visitAll m' ks with
        | none => exact fun ⟨k', hk', hb⟩ => ⟨k', List.mem_cons_of_mem _ hk', hb⟩
        | some m'' => intro this; simpa using this

/-! ### Lookups in the finished table -/

theorem Inv.not_badKey {orig S m k} (hI : Inv orig S m) (hk : k ∈ S) : ¬ BadKey orig k := by
  intro ⟨e, he, hb⟩
  have := hI.visitedOk k hk e he
  simp [hb] at this

theorem tableLookup_of_lookup_eq {m₁ m₂ : Auths} {h : Bytes} (e : m₁.lookup h = m₂.lookup h) :
    tableLookup m₁ h = tableLookup m₂ h := by
  simp [tableLookup, e]

theorem tableLookup_collision {m : Auths} {h : Bytes} {ac : AuthConfig}
    (hl : m.lookup h = some ac) (hlen : ac.derivedFrom.length > 1) : tableLookup m h = none := by
  simp only [tableLookup, hl, Option.getD_some]
  split
  · rfl
  · simp

theorem eq_of_mem_of_length_le_one {α} {l : List α} {a b : α} (hl : l.length ≤ 1) (ha : a ∈ l)
    (hb : b ∈ l) : a = b := by
  match l, hl, ha, hb with
  | [x], _, ha, hb => simp at ha hb; rw [ha, hb]
  | [], _, ha, _ => simp at ha
  | _ :: _ :: _, hl, _, _ => simp at hl

theorem Inv.tableLookup_eq {orig S₁ S₂ m₁ m₂} (h₁ : Inv orig S₁ m₁) (h₂ : Inv orig S₂ m₂)
    (hp : S₁.Perm S₂) (h : Bytes) : tableLookup m₁ h = tableLookup m₂ h := by
  cases ho : orig.lookup h with
  | some e =>
    apply tableLookup_of_lookup_eq
    rw [h₁.origKey h e ho, h₂.origKey h e ho]
    simp [hp.mem_iff]
  | none =>
    have hU : (urlKeys S₁ h).Perm (urlKeys S₂ h) := hp.filter _
    have hnone : m₁.lookup h = none ↔ m₂.lookup h = none := by
      rw [h₁.lookup_eq_none_iff ho, h₂.lookup_eq_none_iff ho, ← List.length_eq_zero_iff,
        ← List.length_eq_zero_iff, hU.length_eq]
    cases l₁ : m₁.lookup h with
    | none => exact tableLookup_of_lookup_eq (l₁.trans (hnone.mp l₁).symm)
    | some ac₁ =>
      cases l₂ : m₂.lookup h with
      | none => rw [hnone.mpr l₂] at l₁; cases l₁
      | some ac₂ =>
        obtain ⟨p₁, k₁, hk₁, e₁, he₁, ha₁⟩ := h₁.of_lookup_some ho l₁
        obtain ⟨p₂, k₂, hk₂, e₂, he₂, ha₂⟩ := h₂.of_lookup_some ho l₂
        have hlen : ac₁.derivedFrom.length = ac₂.derivedFrom.length :=
          (p₁.trans (hU.trans p₂.symm)).length_eq
        by_cases hgt : ac₁.derivedFrom.length > 1
        · rw [tableLookup_collision l₁ hgt, tableLookup_collision l₂ (hlen ▸ hgt)]
        · -- exactly one URL-form key: both tables took its credentials
          have hk : k₁ = k₂ :=
            eq_of_mem_of_length_le_one (by rw [← p₁.length_eq]; omega) hk₁ (hU.mem_iff.mpr hk₂)
          subst hk
          rw [he₁] at he₂
          cases he₂
          have he : ac₁.e = ac₂.e := ha₁.trans ha₂.symm
          simp only [tableLookup, l₁, l₂, Option.getD_some, he, hlen]  -- hlen rewrites the length test

theorem decodeWith_inv_of_nodup {orig v} (hnd : (origPart orig v).Nodup) :
    match decodeWith orig v with
    | none => ∃ k, k ∈ origPart orig v ∧ BadKey orig k
    | some m => Inv orig (origPart orig v) m := by
  have r := visitAll_inv v (inv_init orig) (by simpa using hnd)
  rwa [List.nil_append] at r

/-- Outcomes of two loads are equivalent: both fail, or both succeed with tables that
answer every lookup identically. -/
def LoadEquiv : Option Auths → Option Auths → Prop
  | none, none => True
  | some a, some b => ∀ h, tableLookup a h = tableLookup b h
  | _, _ => False

theorem decodeWith_equiv (orig : List (Bytes × Entry)) (v₁ v₂ : List Bytes)
    (hnd : (origPart orig v₁).Nodup) (hp : (origPart orig v₁).Perm (origPart orig v₂)) :
    LoadEquiv (decodeWith orig v₁) (decodeWith orig v₂) := by
  have r₁ := decodeWith_inv_of_nodup hnd
  have r₂ := decodeWith_inv_of_nodup (hp.nodup_iff.mp hnd)
  revert r₁ r₂
  cases decodeWith orig v₁ <;> cases decodeWith orig v₂ <;> intro r₁ r₂
  · trivial
  -- a bad key in one sequence is a visited key of the other
  · obtain ⟨k, hk, hb⟩ := r₁
    exact r₂.not_badKey (hp.mem_iff.mp hk) hb
  · obtain ⟨k, hk, hb⟩ := r₂
    exact r₁.not_badKey (hp.mem_iff.mpr hk) hb
  · exact fun h => r₁.tableLookup_eq r₂ hp h

/-! ### Admissible visiting sequences -/

/-- A visiting sequence the Go loop can follow: every key of the document is produced
exactly once; keys that are not in the document (hosts inserted by the loop itself) may
be produced anywhere, any number of times. -/
def Admissible (orig : List (Bytes × Entry)) (v : List Bytes) : Prop :=
  (origPart orig v).Nodup ∧ ∀ k, inOrig orig k = true → k ∈ v

theorem mem_keys_of_inOrig {orig : List (Bytes × Entry)} {k : Bytes} (h : inOrig orig k = true) :
    k ∈ orig.map Prod.fst := by
  obtain ⟨p, hp, hk⟩ := List.lookup_isSome_iff.mp h
  exact List.mem_map.mpr ⟨p, hp, (beq_iff_eq.mp hk).symm⟩

theorem admissible_of_keys {orig : List (Bytes × Entry)} {v : List Bytes}
    (hnd : (origPart orig v).Nodup) (hall : ∀ k ∈ orig.map Prod.fst, k ∈ v) : Admissible orig v :=
  ⟨hnd, fun k hk => hall k (mem_keys_of_inOrig hk)⟩

theorem Admissible.mem_origPart {orig v k} (h : Admissible orig v) :
    k ∈ origPart orig v ↔ inOrig orig k = true := by
  simp only [origPart, List.mem_filter]
  exact ⟨And.right, fun i => ⟨h.2 k i, i⟩⟩

theorem Admissible.perm {orig v₁ v₂} (h₁ : Admissible orig v₁) (h₂ : Admissible orig v₂) :
    (origPart orig v₁).Perm (origPart orig v₂) :=
  (List.perm_ext_iff_of_nodup h₁.1 h₂.1).mpr fun _ => h₁.mem_origPart.trans h₂.mem_origPart.symm

theorem Admissible.mem_urlKeys {orig v host k} (h : Admissible orig v) :
    k ∈ urlKeys (origPart orig v) host ↔
      inOrig orig k = true ∧ hasSS k = true ∧ urlHost k = host := by
  simp only [urlKeys, List.mem_filter, h.mem_origPart, isUrlKeyFor, Bool.and_eq_true, beq_iff_eq]

theorem Admissible.inv {orig v m} (h : Admissible orig v) (hm : decodeWith orig v = some m) :
    Inv orig (origPart orig v) m := by
  have r := decodeWith_inv_of_nodup h.1
  rwa [hm] at r

/-! ### `decodeAuth` round trip -/

theorem cutColon_append (u p : Bytes) (h : (58 : UInt8) ∉ u) :
    cutColon (u ++ 58 :: p) = some (u, p) := by
  induction u with
  | nil => rfl
  | cons c cs ih =>
    rw [List.mem_cons, not_or] at h
    simp [cutColon, Ne.symm h.1, ih h.2]

theorem dropNul_id {p : Bytes} (h : p.head? ≠ some 0) : dropNul p = p := by
  cases p with
  | nil => rfl
  | cons a as =>
    have : a ≠ 0 := by simpa using h
    simp [dropNul, this]

theorem trimNul_id {p : Bytes} (h₁ : p.head? ≠ some 0) (h₂ : p.getLast? ≠ some 0) :
    trimNul p = p := by
  unfold trimNul
  rw [dropNul_id h₁, dropNul_id (by rwa [List.head?_reverse]), List.reverse_reverse]

/-! ### Characterisation of the finished table (statements repeated in `Props/C19.lean`) -/

theorem load_fails_iff (orig : List (Bytes × Entry)) (v : List Bytes) (h : Admissible orig v) :
    decodeWith orig v = none ↔ ∃ k, BadKey orig k := by
  constructor
  · intro e
    have r := decodeWith_inv_of_nodup h.1
    rw [e] at r
    exact r.imp fun _ => And.right
  · intro ⟨k, e, he, hb⟩
    cases hm : decodeWith orig v with
    | none => rfl
    | some m =>
      exact absurd ⟨e, he, hb⟩ ((h.inv hm).not_badKey (h.mem_origPart.mpr (inOrig_of_lookup he)))

theorem explicit_wins (orig : List (Bytes × Entry)) (v : List Bytes) (h : Admissible orig v)
    (m : Auths) (hm : decodeWith orig v = some m) (host : Bytes) (e : Entry)
    (he : orig.lookup host = some e) :
    m.lookup host = some { derivedFrom := [], e := decoded e } := by
  rw [(h.inv hm).origKey host e he, if_pos (h.mem_origPart.mpr (inOrig_of_lookup he))]

theorem collision_fails (orig : List (Bytes × Entry)) (v : List Bytes) (h : Admissible orig v)
    (m : Auths) (hm : decodeWith orig v = some m) (host k₁ k₂ : Bytes)
    (hne : k₁ ≠ k₂) (hx : orig.lookup host = none)
    (i₁ : inOrig orig k₁ = true) (i₂ : inOrig orig k₂ = true)
    (s₁ : hasSS k₁ = true) (s₂ : hasSS k₂ = true)
    (u₁ : urlHost k₁ = host) (u₂ : urlHost k₂ = host) :
    tableLookup m host = none := by
  have r := h.inv hm
  have m₁ := h.mem_urlKeys.mpr ⟨i₁, s₁, u₁⟩
  have m₂ := h.mem_urlKeys.mpr ⟨i₂, s₂, u₂⟩
  cases hl : m.lookup host with
  | none => rw [(r.lookup_eq_none_iff hx).mp hl] at m₁; cases m₁
  | some ac =>
    have p := (r.of_lookup_some hx hl).1
    refine tableLookup_collision hl (Nat.lt_of_not_le fun hle => hne ?_)
    exact eq_of_mem_of_length_le_one (p.length_eq ▸ hle) m₁ m₂

theorem single_url_key (orig : List (Bytes × Entry)) (v : List Bytes) (h : Admissible orig v)
    (m : Auths) (hm : decodeWith orig v = some m) (host k : Bytes) (e : Entry)
    (hx : orig.lookup host = none) (hk : orig.lookup k = some e)
    (s : hasSS k = true) (u : urlHost k = host)
    (uniq : ∀ k', inOrig orig k' = true → hasSS k' = true → urlHost k' = host → k' = k) :
    m.lookup host = some { derivedFrom := [k], e := decoded e } := by
  have r := h.inv hm
  have hkU := h.mem_urlKeys.mpr ⟨inOrig_of_lookup hk, s, u⟩
  have hall : ∀ k', k' ∈ urlKeys (origPart orig v) host → k' = k := fun k' hk' =>
    have ⟨i', s', u'⟩ := h.mem_urlKeys.mp hk'
    uniq k' i' s' u'
  have hnd : (urlKeys (origPart orig v) host).Nodup := h.1.filter _
  have hU : urlKeys (origPart orig v) host = [k] := by
    match hu : urlKeys (origPart orig v) host, hnd, hkU, hall with
    | [], _, a, _ => simp at a
    | [x], _, a, _ => simp at a; rw [a]
    | x :: y :: _, nd, _, al =>
      have hx := al x (by simp)
      have hy := al y (by simp)
      simp [hx, hy] at nd
  cases hl : m.lookup host with
  | none => rw [(r.lookup_eq_none_iff hx).mp hl] at hkU; cases hkU
  | some ac =>
    obtain ⟨p, k0, hk0, e0, he0, ha⟩ := r.of_lookup_some hx hl
    rw [hU] at p hk0
    obtain rfl : k0 = k := by simpa using hk0
    rw [hk] at he0
    cases he0
    obtain ⟨df, ee⟩ := ac
    obtain rfl : df = [k0] := List.perm_singleton.mp p
    obtain rfl : ee = decoded e := ha
    rfl

theorem absent_host (orig : List (Bytes × Entry)) (v : List Bytes) (h : Admissible orig v)
    (m : Auths) (hm : decodeWith orig v = some m) (host : Bytes)
    (hx : orig.lookup host = none)
    (none_derives : ∀ k, inOrig orig k = true → hasSS k = true → urlHost k ≠ host) :
    m.lookup host = none ∧ tableLookup m host = some {} := by
  have hl : m.lookup host = none := by
    refine ((h.inv hm).lookup_eq_none_iff hx).mpr (List.eq_nil_iff_forall_not_mem.mpr fun k hk => ?_)
    have ⟨i, s, u⟩ := h.mem_urlKeys.mp hk
    exact none_derives k i s u
  exact ⟨hl, by simp [tableLookup, hl]⟩

end OciModel.AuthFile
