/-
The real codec of composite upload IDs as an instance of `Unify.Codec`, and its relation to the
stand-in codec (`&id0&id1`) of the C15 line protocol (`Driver/Unify.lean`, `harness/c15.go`:
`c15Composite`): the harness's translation `toReal` commutes with splitting and joining and is
injective on the IDs it is applied to, and every operation fans out to the same member calls under either
codec (`fan_toReal`). That whole histories agree is `run_translation` in `UnifyIDSim.lean`.
-/
import OciModel.Unify
import OciModel.UnifyID
import OciModel.UnifyIDLemmas
import OciModel.Driver.Unify
namespace OciModel.UnifyID
open OciModel OciModel.Json OciModel.Unify

/-- base64url (raw) and `encoding/json` on `[]string`, as `ociunify` uses them. -/
def realCodec : Codec where
  b64enc := B64Url.encode
  b64dec := B64Url.decode
  jsonEnc := goStrList
  jsonDec := decodeStrList

theorem joinID_real (a b : Bytes) : joinID realCodec a b = encodeID a b := rfl

theorem splitID_real (id : Bytes) : splitID realCodec id = decodeID id := by
  unfold splitID decodeID decodeIDE realCodec
  simp only
  cases B64Url.decode id with
  | none => rfl
  | some data =>
    simp only
    cases decodeStrList data with
    | none => rfl
    | some l =>
      match l with
      | [] => rfl
      | [_] => rfl
      | [_, _] => rfl
      | _ :: _ :: _ :: _ => rfl

/-! ## The stand-in -/

abbrev standin : Codec := OciModel.Driver.Unify.codec
abbrev amp : UInt8 := OciModel.Driver.Unify.amp
abbrev splitAmp := OciModel.Driver.Unify.splitAmp

def NoAmp (s : Bytes) : Prop := amp ∉ s

instance (s : Bytes) : Decidable (NoAmp s) := inferInstanceAs (Decidable (¬ _))

theorem splitAmp_cons_amp (s : Bytes) : splitAmp (amp :: s) = [] :: splitAmp s := by
  simp [Driver.Unify.splitAmp]

theorem splitAmp_ne_nil (s : Bytes) : splitAmp s ≠ [] := by
  induction s with
  | nil => simp [Driver.Unify.splitAmp]
  | cons c s ih =>
    simp only [Driver.Unify.splitAmp, List.foldr_cons] at ih ⊢
    split
    · simp
    · split <;> simp

theorem splitAmp_cons_other (c : UInt8) (hc : c ≠ amp) (s : Bytes) :
    ∃ cur rest, splitAmp s = cur :: rest ∧ splitAmp (c :: s) = (c :: cur) :: rest := by
  cases h : splitAmp s with
  | nil => exact absurd h (splitAmp_ne_nil s)
  | cons cur rest =>
    refine ⟨cur, rest, rfl, ?_⟩
    simp only [Driver.Unify.splitAmp, List.foldr_cons] at h ⊢
    rw [if_neg hc, h]

theorem splitAmp_noamp_append (a : Bytes) (ha : NoAmp a) (s : Bytes) :
    splitAmp (a ++ amp :: s) = a :: splitAmp s := by
  induction a with
  | nil => exact splitAmp_cons_amp s
  | cons c a ih =>
    have hc : c ≠ amp := fun h => ha (by simp [h])
    have ha' : NoAmp a := fun h => ha (by simp [h])
    obtain ⟨cur, rest, h1, h2⟩ := splitAmp_cons_other c hc (a ++ amp :: s)
    rw [List.cons_append, h2]
    rw [ih ha'] at h1
    cases h1; rfl

theorem splitAmp_noamp (a : Bytes) (ha : NoAmp a) : splitAmp a = [a] := by
  induction a with
  | nil => simp [Driver.Unify.splitAmp]
  | cons c a ih =>
    have hc : c ≠ amp := fun h => ha (by simp [h])
    have ha' : NoAmp a := fun h => ha (by simp [h])
    obtain ⟨cur, rest, h1, h2⟩ := splitAmp_cons_other c hc a
    rw [h2]
    rw [ih ha'] at h1
    cases h1; rfl

theorem splitAmp_enc : ∀ (l : List Bytes), (∀ p ∈ l, NoAmp p) → l ≠ [] →
    splitAmp (standin.jsonEnc l) = [] :: l
  | [], _, h => absurd rfl h
  | [a], hl, _ => by
    have : standin.jsonEnc [a] = amp :: a := by simp [Driver.Unify.codec]
    rw [this, splitAmp_cons_amp, splitAmp_noamp a (hl a (by simp))]
  | a :: b :: l, hl, _ => by
    have e : standin.jsonEnc (a :: b :: l) = amp :: (a ++ standin.jsonEnc (b :: l)) := by
      simp [Driver.Unify.codec]
    have e2 : standin.jsonEnc (b :: l) = amp :: (b ++ standin.jsonEnc l) := by simp [Driver.Unify.codec]
    have ih := splitAmp_enc (b :: l) (fun p hp => hl p (by simp [hp])) (by simp)
    rw [e2, splitAmp_cons_amp] at ih
    have ih' := (List.cons.inj ih).2
    rw [e, splitAmp_cons_amp, e2, splitAmp_noamp_append a (hl a (by simp)), ih']

theorem standin_jsonDec (x : Bytes) :
    standin.jsonDec x =
      match splitAmp x with
      | [] :: parts => if parts.isEmpty then none else some parts
      | _ => none := rfl

theorem standin_dec_enc (l : List Bytes) (hl : ∀ p ∈ l, NoAmp p) (hne : l ≠ []) :
    standin.jsonDec (standin.jsonEnc l) = some l := by
  have h := splitAmp_enc l hl hne
  rw [standin_jsonDec, h]
  cases l with
  | nil => exact absurd rfl hne
  | cons a l => simp

theorem standin_dec_enc_pair (a b : Bytes) (ha : NoAmp a) (hb : NoAmp b) :
    standin.jsonDec (standin.jsonEnc [a, b]) = some [a, b] :=
  standin_dec_enc [a, b] (by intro p hp; simp at hp; rcases hp with rfl | rfl <;> assumption) (by simp)

/-- The parts joined by `&`. -/
def joinAmp : List Bytes → Bytes
  | [] => []
  | h :: t => h ++ t.flatMap (fun b => amp :: b)

theorem joinAmp_splitAmp (s : Bytes) : joinAmp (splitAmp s) = s ∧ ∀ p ∈ splitAmp s, NoAmp p := by
  induction s with
  | nil => simp [Driver.Unify.splitAmp, joinAmp, NoAmp]
  | cons c s ih =>
    by_cases hc : c = amp
    · subst hc
      rw [splitAmp_cons_amp]
      cases h : splitAmp s with
      | nil => exact absurd h (splitAmp_ne_nil s)
      | cons cur rest =>
        rw [h] at ih
        refine ⟨?_, ?_⟩
        · have := ih.1
          simp only [joinAmp, List.flatMap_cons, List.nil_append, List.cons_append] at this ⊢
          rw [this]
        · intro p hp
          simp at hp
          rcases hp with rfl | rfl | hp
          · simp [NoAmp]
          · exact ih.2 _ (by simp)
          · exact ih.2 p (by simp [hp])
    · obtain ⟨cur, rest, h1, h2⟩ := splitAmp_cons_other c hc s
      rw [h2]
      rw [h1] at ih
      refine ⟨?_, ?_⟩
      · have := ih.1
        simp only [joinAmp, List.cons_append] at this ⊢
        rw [this]
      · intro p hp
        simp at hp
        rcases hp with rfl | hp
        · have := ih.2 cur (by simp)
          intro hm
          simp at hm
          rcases hm with hm | hm
          · exact hc hm.symm
          · exact this hm
        · exact ih.2 p (by simp [hp])

theorem standin_dec_spec {x : Bytes} {parts : List Bytes} (h : standin.jsonDec x = some parts) :
    x = standin.jsonEnc parts ∧ parts ≠ [] ∧ ∀ p ∈ parts, NoAmp p := by
  rw [standin_jsonDec] at h
  obtain ⟨hj, hn⟩ := joinAmp_splitAmp x
  split at h
  · rename_i ps heq
    split at h
    · simp at h
    · rename_i hne
      simp at h
      subst h
      rw [heq] at hj hn
      refine ⟨?_, ?_, fun p hp => hn p (by simp [hp])⟩
      · simp only [joinAmp, List.nil_append] at hj
        rw [← hj]; rfl
      · intro he; simp [he] at hne
  · simp at h

/-! ## The translation of the harness -/

/-- `c15Composite` of `harness/c15.go`: an ID written `&a&b…` in a protocol line is handed to the real
unifier as base64url(JSON [a,b,…]); anything else as it is. -/
def toReal (x : Bytes) : Bytes :=
  match standin.jsonDec x with
  | some parts => B64Url.encode (goStrList parts)
  | none => x

/-- The IDs the translation is applied to with a meaning: `&`-separated well-formed UTF-8. -/
def Dom (x : Bytes) : Prop := ∃ parts, standin.jsonDec x = some parts ∧ ∀ p ∈ parts, ValidUtf8 p

theorem map_sanitize_valid (l : List Bytes) (h : ∀ p ∈ l, ValidUtf8 p) : l.map sanitize = l := by
  induction l with
  | nil => rfl
  | cons a l ih =>
    simp [sanitize_valid a (h a (by simp)), ih (fun p hp => h p (by simp [hp]))]

def pairOf : List Bytes → Option (Bytes × Bytes)
  | [a, b] => some (a, b)
  | _ => none

theorem splitID_standin_of_dec {x : Bytes} {parts : List Bytes} (h : standin.jsonDec x = some parts) :
    splitID standin x = pairOf parts := by
  have : splitID standin x = (match standin.jsonDec x with | some [a, b] => some (a, b) | _ => none) := rfl
  rw [this, h]
  match parts with
  | [] => rfl
  | [_] => rfl
  | [_, _] => rfl
  | _ :: _ :: _ :: _ => rfl

theorem decodeID_toReal_of_dec {x : Bytes} {parts : List Bytes} (h : standin.jsonDec x = some parts) :
    decodeID (toReal x) = pairOf (parts.map sanitize) := by
  simp only [toReal, h, decodeID, decodeIDE_encode_list]
  match parts.map sanitize with
  | [] => rfl
  | [_] => rfl
  | [_, _] => rfl
  | _ :: _ :: _ :: _ => rfl

theorem toReal_split {x : Bytes} (hx : Dom x) : decodeID (toReal x) = splitID standin x := by
  obtain ⟨parts, hd, hv⟩ := hx
  rw [decodeID_toReal_of_dec hd, splitID_standin_of_dec hd, map_sanitize_valid parts hv]

theorem toReal_join (a b : Bytes) (ha : NoAmp a) (hb : NoAmp b) :
    toReal (joinID standin a b) = encodeID a b := by
  have h := standin_dec_enc_pair a b ha hb
  have : joinID standin a b = standin.jsonEnc [a, b] := rfl
  simp only [toReal, this, h, encodeID]

theorem joinID_toReal (a b : Bytes) (ha : NoAmp a) (hb : NoAmp b) :
    joinID realCodec a b = toReal (joinID standin a b) := by
  rw [toReal_join a b ha hb]; rfl

theorem splitID_toReal {x : Bytes} (hx : Dom x) : splitID realCodec (toReal x) = splitID standin x := by
  rw [splitID_real, toReal_split hx]

theorem b64_encode_inj {x y : Bytes} (h : B64Url.encode x = B64Url.encode y) : x = y := by
  have := congrArg B64Url.decode h
  simpa [B64Url.decode_encode] using this

theorem toReal_inj {x y : Bytes} (hx : Dom x) (hy : Dom y) (h : toReal x = toReal y) : x = y := by
  obtain ⟨ps, hdx, hvx⟩ := hx
  obtain ⟨qs, hdy, hvy⟩ := hy
  simp only [toReal, hdx, hdy] at h
  have h1 := congrArg decodeStrList (b64_encode_inj h)
  rw [decodeStrList_goStrList, decodeStrList_goStrList, map_sanitize_valid ps hvx, map_sanitize_valid qs hvy] at h1
  have : ps = qs := by simpa using h1
  subst this
  rw [(standin_dec_spec hdx).1, (standin_dec_spec hdy).1]

/-- The translation applied to the upload ID of an operation. -/
def mapID (f : Bytes → Bytes) : Mem.Op → Mem.Op := OciModel.Driver.Unify.mapID f

/-- The upload ID an operation carries, if any. -/
def opID : Mem.Op → Option Bytes
  | .resume _ id _ => some id
  | .wWrite _ id _ => some id
  | .wSize _ id => some id
  | .wCancel _ id => some id
  | .wCommit _ id _ => some id
  | _ => none

theorem fan_toReal (op : Mem.Op) (h : ∀ id, opID op = some id → Dom id) :
    fan realCodec (mapID toReal op) = fan standin op := by
  cases op <;> simp only [mapID, Driver.Unify.mapID, fan] <;>
    (rw [splitID_real, toReal_split (h _ rfl)])

end OciModel.UnifyID
