/-
Lemmas about the token-response decoder and its consumer (`TokenDecode.lean`): members of different
fields commute, type errors, canonical documents, the arithmetic of lifetimes, and the link to the
transport model's `finish`.
-/
import OciModel.TokenDecode
import OciModel.ManifestDecodeLemmas
import OciModel.AuthTransport
namespace OciModel.TokenDecode
open OciModel OciModel.Json OciModel.ManifestDecode

/-! ## Member order -/

theorem tokStep_comm (a b : Bytes × JVal) (f g : TokField) (ha : lookupField tokenTable a.1 = some f)
    (hb : lookupField tokenTable b.1 = some g) (hne : f ≠ g) :
    ∀ w, (tokStep w a).bind (tokStep · b) = (tokStep w b).bind (tokStep · a) := by
  simp only [tokStep, ha, hb]
  cases f <;> cases g <;> first
    | exact absurd rfl hne    -- the same field
    | exact setter_comm _ _ _ _ (fun _ _ => by rfl) (fun _ _ => by rfl) (fun _ _ _ => by rfl)    -- two stored fields

/-! ## Type errors -/

theorem decodeVal_bad_member (l₁ l₂ : List (Bytes × JVal)) (kv : Bytes × JVal) (h : ∀ w, tokStep w kv = none) :
    decodeVal (.obj (l₁ ++ kv :: l₂)) = none := by
  simp only [decodeVal, List.foldlM_append, List.foldlM_cons]
  cases List.foldlM tokStep {} l₁ with
  | none => rfl
  | some w => simp [h w]

theorem digitsVal_digits {t : Bytes} {n : Nat} (h : digitsVal t = some n) : ∀ c ∈ t, isDigit c = true := by
  unfold digitsVal at h
  split at h
  · cases h
  · by_cases hall : t.all isDigit = true
    · exact List.all_eq_true.mp hall
    · rw [if_neg hall] at h; cases h

/-- `strconv.ParseInt` takes digits only, after an optional minus sign. -/
theorem parseInt64_digits (t : Bytes) (n : Int) (h : parseInt64 t = some n) :
    ∀ c ∈ t, isDigit c = true ∨ c.toNat = 0x2D := by
  unfold parseInt64 at h
  match t, h with
  | c :: rest, h =>
    dsimp only at h
    by_cases hc : c.toNat = 0x2D
    · rw [if_pos hc] at h
      cases hd : digitsVal rest with
      | none => rw [hd] at h; cases h
      | some m =>
        intro x hx
        rcases List.mem_cons.mp hx with rfl | hx
        · exact Or.inr hc
        · exact Or.inl (digitsVal_digits hd x hx)
    · rw [if_neg hc] at h
      cases hd : digitsVal (c :: rest) with
      | none => rw [hd] at h; cases h
      | some m => exact fun x hx => Or.inl (digitsVal_digits hd x hx)

theorem decodeVal_not_num (v : JVal) (w : WireToken) (h : decodeVal v = some w) : ∀ x, v ≠ .num x := by
  intro x e; subst e; simp [decodeVal] at h

/-! ## Canonical documents -/

theorem setStr_str (s cur : Bytes) : setStr (.str s) cur = some s := rfl

theorem decodeVal_tokenJ (w : WireToken) (h : w.OK) : decodeVal (tokenJ w) = some w := by
  have hk1 : lookupField tokenTable (strBytes "token") = some .token := by decide +kernel
  have hk2 : lookupField tokenTable (strBytes "access_token") = some .accessToken := by decide +kernel
  have hk3 : lookupField tokenTable (strBytes "refresh_token") = some .refreshToken := by decide +kernel
  have hk4 : lookupField tokenTable (strBytes "expires_in") = some .expiresIn := by decide +kernel
  have hi := parseInt64_intText w.expiresIn h.2.2.2.1 h.2.2.2.2
  simp [decodeVal, tokenJ, tokStep, hk1, hk2, hk3, hk4, setStr, setInt, hi]

theorem wf_tokenJ (w : WireToken) (h : w.OK) : WF (tokenJ w) := by
  simp only [tokenJ, WF, WFM]
  exact ⟨by decide +kernel, h.1, by decide +kernel, h.2.1, by decide +kernel, h.2.2.1, by decide +kernel, numOK_intText _,
    trivial⟩

theorem depth_tokenJ (w : WireToken) : depth (tokenJ w) = 1 := by
  simp [tokenJ, depth, depthM]

/-! ## Lifetimes -/

theorem wrap64_exact (n : Int) (h1 : -9223372036 ≤ n) (h2 : n ≤ 9223372036) : wrap64 (n * second) = n * second := by
  unfold wrap64 second
  omega

theorem clampSeconds_range (n : Int) : -9223372036 ≤ clampSeconds n ∧ clampSeconds n ≤ 9223372036 := by
  unfold clampSeconds maxSeconds
  omega

theorem clampSeconds_exact (n : Int) (h1 : -9223372036 ≤ n) (h2 : n ≤ 9223372036) : clampSeconds n = n := by
  unfold clampSeconds maxSeconds
  omega

theorem clampSeconds_hi (n : Int) (h : 9223372036 ≤ n) : clampSeconds n = 9223372036 := by
  unfold clampSeconds maxSeconds
  omega

theorem clampSeconds_lo (n : Int) (h : n ≤ -9223372036) : clampSeconds n = -9223372036 := by
  unfold clampSeconds maxSeconds
  omega

theorem clampSeconds_neg (n : Int) (h : n < 0) : clampSeconds n ≤ -1 := by
  unfold clampSeconds maxSeconds
  omega

theorem clampSeconds_pos (n : Int) (h : 0 < n) : 1 ≤ clampSeconds n := by
  unfold clampSeconds maxSeconds
  omega

/-- The clamp is monotone: a server that states a longer lifetime never gets a shorter one. -/
theorem clampSeconds_mono (a b : Int) (h : a ≤ b) : clampSeconds a ≤ clampSeconds b := by
  unfold clampSeconds maxSeconds
  omega

/-- The `int64` product of the clamped number of seconds never wraps. -/
theorem wrap64_clamp (n : Int) : wrap64 (clampSeconds n * second) = clampSeconds n * second :=
  wrap64_exact _ (clampSeconds_range n).1 (clampSeconds_range n).2

/-- The lifetime of every non-zero `expires_in`, without `int64` in it. -/
theorem lifetimeNs_eq (n : Int) (h0 : n ≠ 0) : lifetimeNs n = clampSeconds n * second := by
  simp [lifetimeNs, h0, wrap64_clamp]

theorem lifetimeNs_exact (n : Int) (h0 : n ≠ 0) (h1 : -9223372036 ≤ n) (h2 : n ≤ 9223372036) :
    lifetimeNs n = n * second := by
  rw [lifetimeNs_eq n h0, clampSeconds_exact n h1 h2]

theorem lifetimeNs_neg (n : Int) (h : n < 0) : lifetimeNs n ≤ -second := by
  rw [lifetimeNs_eq n (by omega)]
  have := clampSeconds_neg n h
  unfold second
  omega

theorem lifetimeNs_pos (n : Int) (h : 0 < n) : second ≤ lifetimeNs n := by
  rw [lifetimeNs_eq n (by omega)]
  have := clampSeconds_pos n h
  unfold second
  omega

-- F41: the product without the clamp; the `…_before_F41` statements of `Props/C10T.lean` are about it
/-- `time.Duration(tok.ExpiresIn) * time.Second` on the unclamped `expires_in`: the `int64` product wraps. -/
def lifetimeNsBeforeF41 (expiresIn : Int) : Int :=
  if expiresIn = 0 then 60 * second else wrap64 (expiresIn * second)

/-! ## The transport model's `finish` -/

theorem pickToken_eq (w : WireToken) : Auth.pickToken w.token w.accessToken = pickAccess w := rfl

/-- The lifetime of the transport model (seconds, a natural number, then milliseconds) is this model's
lifetime (nanoseconds) for EVERY `expires_in` that is not negative. -/
theorem lifeOf_eq (w : WireToken) (h0 : 0 ≤ w.expiresIn) :
    ((Auth.lifeOf w.expiresIn.toNat * 1000 : Nat) : Int) * 1000000 = lifetimeNs w.expiresIn := by
  by_cases hz : w.expiresIn = 0
  · simp [hz, Auth.lifeOf, lifetimeNs, Auth.defaultExpirySec, second]
  · have hn : w.expiresIn.toNat ≠ 0 := by omega
    have hc : ((w.expiresIn.toNat : Nat) : Int) = w.expiresIn := Int.toNat_of_nonneg h0
    rw [lifetimeNs_eq w.expiresIn hz]
    simp only [Auth.lifeOf, hn, if_false, second, Auth.maxExpirySec]
    by_cases hb : w.expiresIn ≤ 9223372036
    · rw [clampSeconds_exact _ (by omega) hb, Nat.min_eq_left (by omega)]
      omega
    · rw [clampSeconds_hi _ (by omega), Nat.min_eq_right (by omega)]
      omega

end OciModel.TokenDecode
