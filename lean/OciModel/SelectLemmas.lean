/-
Helper lemmas for C12 (model in `OciModel/Select.lean`).
-/
import OciModel.Select

namespace OciModel.Select
open OciModel.Generated.Select OciModel.Generated

variable {ε ρ σ : Type}

theorem firstFail_none_iff (check : Policy ε) (env : Env) (gs : List RGuard) :
    firstFail check env gs = none ↔ ∀ g ∈ gs, check (g.val env) g.kind = none := by
  induction gs with
  | nil => simp [firstFail]
  | cons g gs ih =>
    simp only [firstFail, List.mem_cons, forall_eq_or_imp]
    cases h : check (g.val env) g.kind with
    | none => simp [ih]
    | some e => simp

theorem firstFail_some (check : Policy ε) (env : Env) (gs : List RGuard) (e : ε)
    (h : firstFail check env gs = some e) : ∃ g ∈ gs, check (g.val env) g.kind = some e := by
  induction gs with
  | nil => simp [firstFail] at h
  | cons g gs ih =>
    simp only [firstFail] at h
    cases hc : check (g.val env) g.kind with
    | none =>
      rw [hc] at h
      obtain ⟨g', hm, hg'⟩ := ih h
      exact ⟨g', List.mem_cons_of_mem _ hm, hg'⟩
    | some e' =>
      rw [hc] at h
      simp at h
      exact ⟨g, List.mem_cons_self, by rw [hc, h]⟩

theorem firstFail_append_of_pass (check : Policy ε) (env : Env) (pre rest : List RGuard)
    (h : ∀ g ∈ pre, check (g.val env) g.kind = none) :
    firstFail check env (pre ++ rest) = firstFail check env rest := by
  induction pre with
  | nil => rfl
  | cons g gs ih =>
    simp only [List.cons_append, firstFail, h g List.mem_cons_self]
    exact ih (fun g' hg' => h g' (List.mem_cons_of_mem _ hg'))

theorem firstFail_congr {c1 c2 : Policy ε} {env : Env} {gs : List RGuard}
    (h : ∀ g ∈ gs, c1 (g.val env) g.kind = c2 (g.val env) g.kind) : firstFail c1 env gs = firstFail c2 env gs := by
  induction gs with
  | nil => rfl
  | cons g gs ih =>
    simp only [firstFail, h g List.mem_cons_self, ih fun g' hg' => h g' (List.mem_cons_of_mem _ hg')]

theorem feed_filterCb (check : Policy ε) (k : Kind) (cb : σ → Ev ε → σ × Bool) (evs : List (Ev ε)) (s : σ) :
    (feed (filterCb check k cb) evs s).1 = (feed cb (visible check k evs) s).1 := by
  induction evs generalizing s with
  | nil => simp [feed, visible]
  | cons e es ih =>
    cases e with
    | error e =>
      simp only [feed, filterCb, visible]
      cases hcb : cb s (.error e) with
      | mk s' go => cases go <;> simp
    | item n =>
      simp only [visible]
      cases hc : check n k with
      | some e' => simp [feed, filterCb, hc, ih]
      | none =>
        simp only [feed, filterCb, hc]
        cases hcb : cb s (.item n) with
        | mk s' go => cases go <;> simp [ih]

theorem feed_count_le (cb : σ → Ev ε → σ × Bool) (evs : List (Ev ε)) (s : σ) :
    (feed cb evs s).2 ≤ evs.length := by
  induction evs generalizing s with
  | nil => simp [feed]
  | cons e es ih =>
    simp only [feed]
    cases hcb : cb s e with
    | mk s' go =>
      cases go
      · simp
      · have := ih s'
        simp
        omega

theorem feed_collect_all (evs acc : List (Ev ε)) :
    (feed (collectCb 0) evs acc).1 = acc ++ evs := by
  induction evs generalizing acc with
  | nil => simp [feed]
  | cons e es ih => simp [feed, collectCb, ih]

theorem feed_collect (k : Nat) (evs acc : List (Ev ε)) (h : acc.length < k) :
    (feed (collectCb k) evs acc).1 = acc ++ evs.take (k - acc.length) := by
  induction evs generalizing acc with
  | nil => simp [feed]
  | cons e es ih =>
    have hk : (k == 0) = false := by simp; omega
    by_cases h2 : acc.length + 1 < k
    · have ih' := ih (acc ++ [e]) (by simp; omega)
      have e1 : k - acc.length = (k - (acc ++ [e]).length) + 1 := by simp; omega
      simp only [feed, collectCb, hk, Bool.false_or, h2, decide_true, if_true]
      rw [ih', e1]
      simp
    · have e1 : k - acc.length = 1 := by omega
      simp [feed, collectCb, hk, h2, e1]

theorem rowOk_unfold (r : Row) (h : RowOk r = true) (ips : List String)
    (hips : ifaceParamNames r.method = some ips) :
    r.shapeKnown = true ∧ r.callee = r.method ∧ r.callArgs = r.params ∧ ips.length = r.params.length ∧
    (resolve r.guards).isSome = true ∧ resolve r.guards = specGuards r.method ips r.params ∧
    (if r.method = "Repositories" then r.shape = "filter" ∧ r.filterKind = "AccessRead" else r.shape = "direct") := by
  simp only [RowOk, hips, Bool.and_eq_true, beq_iff_eq] at h
  obtain ⟨⟨⟨⟨hk, hc⟩, ha⟩, ⟨⟨hl, hs⟩, hg⟩⟩, hsh⟩ := h
  refine ⟨hk, hc, ha, hl, hs, hg, ?_⟩
  by_cases hm : r.method = "Repositories" <;> simpa [hm] using hsh

theorem call_of_rowOk (r : Row) (h : RowOk r = true) (hm : r.method ≠ "Repositories")
    (check : Policy ε) (backend : Call → ρ) (env : Env)
    (ips : List String) (hips : ifaceParamNames r.method = some ips)
    (gs : List RGuard) (hgs : specGuards r.method ips r.params = some gs) :
    call check backend env r =
      match firstFail check env gs with
      | some e => ⟨.rejected e, []⟩
      | none => ⟨.returned (backend ⟨r.method, r.params.map env⟩), [⟨r.method, r.params.map env⟩]⟩ := by
  obtain ⟨hk, hc, ha, _, _, hres, hsh⟩ := rowOk_unfold r h ips hips
  rw [if_neg hm] at hsh
  cases hff : firstFail check env gs <;> simp [call, hk, hsh, hres.trans hgs, hc, ha, hff]

theorem repositories_of_rowOk (r : Row) (h : RowOk r = true) (hm : r.method = "Repositories")
    (check : Policy ε) (backend : Call → List (Ev ε)) (env : Env) (cb : σ → Ev ε → σ × Bool) (s : σ) :
    repositories check backend env r cb s =
      match check (strBytes "*") .list with
      | some e => some ((cb s (.error e)).1, [], 0)
      | none =>
        some ((feed (filterCb check .read cb) (backend ⟨"Repositories", r.params.map env⟩) s).1,
          [⟨"Repositories", r.params.map env⟩],
          (feed (filterCb check .read cb) (backend ⟨"Repositories", r.params.map env⟩) s).2) := by
  cases hips : ifaceParamNames r.method with
  | none => simp [RowOk, hips] at h
  | some ips =>
    obtain ⟨hk, hc, ha, _, _, hres, hsh⟩ := rowOk_unfold r h ips hips
    rw [if_pos hm] at hsh
    have hg : groupKind "Repositories" = some .list := by decide +kernel
    have hres : resolve r.guards = some [⟨"*", true, .list⟩] := by simp [hres, hm, specGuards, hg]
    rw [hm] at hc
    cases hch : check (strBytes "*") .list <;>
      simp [repositories, hk, hsh, hres, kindOf, firstFail, RGuard.val, hc, ha, hch]

end OciModel.Select
