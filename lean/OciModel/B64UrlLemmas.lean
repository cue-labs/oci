/-
Lemmas about the concrete base64url codec (`OciModel/B64Url.lean`): the round trip
`decode (encode x) = some x`, and that an encoding is slash-free and non-empty for a
non-empty input — the three facts the request-codec theorems assume of their
`b64`/`unb64` parameters.
-/
import OciModel.B64Url
import OciModel.Base64
namespace OciModel.B64Url

/-- The 6-bit groups of the input. -/
def vals : Bytes → List Nat
  | [] => []
  | [a] => [a.toNat / 4, (a.toNat % 4) * 16]
  | [a, b] => [a.toNat / 4, (a.toNat % 4) * 16 + b.toNat / 16, (b.toNat % 16) * 4]
  | a :: b :: c :: rest =>
    a.toNat / 4 :: ((a.toNat % 4) * 16 + b.toNat / 16) ::
      ((b.toNat % 16) * 4 + c.toNat / 64) :: (c.toNat % 64) :: vals rest

theorem encode_eq_map (x : Bytes) : encode x = (vals x).map encChar := by
  induction x using vals.induct with
  | case1 => rfl
  | case2 a => rfl
  | case3 a b => rfl
  | case4 a b c rest ih => simp [encode, vals, ih]

theorem vals_lt (x : Bytes) : ∀ n ∈ vals x, n < 64 := by
  induction x using vals.induct with
  | case1 => simp [vals]
  | case2 a =>
    simp only [vals, List.mem_cons, List.not_mem_nil, or_false]
    rintro n (rfl | rfl)
    · exact (Base64.sextets_lt a 0 0).1
    · exact (Base64.sextets_lt a 0 0).2.1
  | case3 a b =>
    simp only [vals, List.mem_cons, List.not_mem_nil, or_false]
    rintro n (rfl | rfl | rfl)
    · exact (Base64.sextets_lt a b 0).1
    · exact (Base64.sextets_lt a b 0).2.1
    · exact (Base64.sextets_lt a b 0).2.2.1
  | case4 a b c rest ih =>
    simp only [vals, List.mem_cons]
    rintro n (rfl | rfl | rfl | rfl | h)
    · exact (Base64.sextets_lt a b c).1
    · exact (Base64.sextets_lt a b c).2.1
    · exact (Base64.sextets_lt a b c).2.2.1
    · exact (Base64.sextets_lt a b c).2.2.2
    · exact ih n h

theorem decChar_encChar : ∀ n, n < 64 → decChar (encChar n) = some n := by decide +kernel
theorem encChar_alphabet : ∀ n, n < 64 →
    encChar n ≠ 47 ∧ encChar n ≠ 13 ∧ encChar n ≠ 10 := by decide +kernel

/-- The bytes come back from their sextets: the regrouping is that of `Base64` (`byte0`, `byte1`, `byte2`). -/
theorem decodeVals_vals (x : Bytes) : decodeVals (vals x) = some x := by
  induction x using vals.induct with
  | case1 => rfl
  | case2 a => exact congrArg (fun x => some [x]) (Base64.byte0_eq' a)
  | case3 a b =>
    show some [Base64.byte0 _ _, Base64.byte1 _ _] = _
    rw [Base64.byte0_eq, Base64.byte1_eq']
  | case4 a b c rest ih =>
    show (decodeVals (vals rest)).map (fun r => Base64.byte0 _ _ :: Base64.byte1 _ _ :: Base64.byte2 _ _ :: r) = _
    rw [ih, Base64.byte0_eq, Base64.byte1_eq, Base64.byte2_eq]
    rfl

theorem mapM_decChar (vs : List Nat) (h : ∀ n ∈ vs, n < 64) :
    (vs.map encChar).mapM decChar = some vs := by
  induction vs with
  | nil => rfl
  | cons v vs ih =>
    simp only [List.map_cons, List.mapM_cons, decChar_encChar v (h v (by simp)),
      ih (fun n hn => h n (List.mem_cons_of_mem _ hn))]
    rfl

/-- `base64.RawURLEncoding`: decoding an encoding gives the input back. -/
theorem decode_encode (x : Bytes) : decode (encode x) = some x := by
  have hf : (encode x).filter (fun c => c != 13 && c != 10) = encode x := by
    rw [List.filter_eq_self]
    intro c hc
    rw [encode_eq_map] at hc
    obtain ⟨n, hn, rfl⟩ := List.mem_map.mp hc
    have := encChar_alphabet n (vals_lt x n hn)
    simp [this.2.1, this.2.2]
  unfold decode
  simp only [hf]
  rw [encode_eq_map, mapM_decChar _ (vals_lt x)]
  exact decodeVals_vals x

theorem encode_no_slash (x : Bytes) : (47 : UInt8) ∉ encode x := by
  intro hc
  rw [encode_eq_map] at hc
  obtain ⟨n, hn, h⟩ := List.mem_map.mp hc
  exact (encChar_alphabet n (vals_lt x n hn)).1 h

theorem encode_ne_nil (x : Bytes) (h : x ≠ []) : encode x ≠ [] := by
  match x, h with
  | [a], _ => simp [encode]
  | [a, b], _ => simp [encode]
  | a :: b :: c :: rest, _ => simp [encode]

end OciModel.B64Url
