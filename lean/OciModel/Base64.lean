/-
Standard-alphabet base64 with `=` padding on byte lists, as Go's
`base64.StdEncoding` (`EncodeToString` / `DecodeString`).

`decode` mirrors `(*Encoding).Decode` + `decodeQuantum` for `StdEncoding`
(padding required, not strict):
* `\r` and `\n` are skipped wherever they occur (also between and after padding);
* any other byte outside the alphabet is an error, `=` is accepted only as the
  third/fourth character of the last quantum, and nothing but `\r`/`\n` may follow it;
* input that ends inside a quantum is an error (padding is required);
* the unused low bits of the last sextet before padding are NOT checked
  (`StdEncoding` is not strict), so e.g. `QQ==` and `QR==` both decode to `A`.

Core Lean only (linked into the `ocimodel` driver).
-/
import OciModel.Base
namespace OciModel.Base64

/-- The alphabet: sextet value (`< 64`) to ASCII code. -/
def chN (n : Nat) : Nat :=
  if n < 26 then 65 + n
  else if n < 52 then 71 + n      -- 'a' = 97 = 71 + 26
  else if n < 62 then n - 4       -- '0' = 48 = 52 - 4
  else if n = 62 then 43          -- '+'
  else 47                         -- '/'

def ch (n : Nat) : UInt8 := UInt8.ofNat (chN n)

/-- Go's `decodeMap`: ASCII code to sextet, `none` for bytes outside the alphabet. -/
def sextetN (c : Nat) : Option Nat :=
  if 65 ≤ c ∧ c ≤ 90 then some (c - 65)
  else if 97 ≤ c ∧ c ≤ 122 then some (c - 71)
  else if 48 ≤ c ∧ c ≤ 57 then some (c + 4)
  else if c = 43 then some 62
  else if c = 47 then some 63
  else none

def sextet (c : UInt8) : Option Nat := sextetN c.toNat

def pad : UInt8 := 61

def isNL (c : UInt8) : Bool := c == 10 || c == 13

/-- `EncodeToString`. -/
def encode : Bytes → Bytes
  | [] => []
  | [a] => [ch (a.toNat / 4), ch (a.toNat % 4 * 16), pad, pad]
  | [a, b] => [ch (a.toNat / 4), ch (a.toNat % 4 * 16 + b.toNat / 16), ch (b.toNat % 16 * 4), pad]
  | a :: b :: c :: rest =>
    ch (a.toNat / 4) :: ch (a.toNat % 4 * 16 + b.toNat / 16) ::
      ch (b.toNat % 16 * 4 + c.toNat / 64) :: ch (c.toNat % 64) :: encode rest

/-- Bytes of a quantum from its sextets. -/
def byte0 (s0 s1 : Nat) : UInt8 := UInt8.ofNat (s0 * 4 + s1 / 16)
def byte1 (s1 s2 : Nat) : UInt8 := UInt8.ofNat (s1 % 16 * 16 + s2 / 4)
def byte2 (s2 s3 : Nat) : UInt8 := UInt8.ofNat (s2 % 4 * 64 + s3)

/-- The decoder loop: `q` holds the sextets of the current quantum read so far
(at most three). -/
def decodeAux : Bytes → List Nat → Option Bytes
  | [], [] => some []
  | [], _ :: _ => none                       -- input ends inside a quantum
  | c :: rest, q =>
    match sextet c with
    | some v =>
      match q with
      | [s0, s1, s2] =>
        match decodeAux rest [] with
        | some out => some (byte0 s0 s1 :: byte1 s1 s2 :: byte2 s2 v :: out)
        | none => none
      | _ => decodeAux rest (q ++ [v])
    | none =>
      if isNL c then decodeAux rest q
      else if c == pad then
        match q with
        | [s0, s1] =>
          -- "==" expected: skip newlines, one more '=', then only newlines
          match rest.dropWhile isNL with
          | c' :: rest' => if c' == pad && rest'.all isNL then some [byte0 s0 s1] else none
          | [] => none
        | [s0, s1, s2] =>
          if rest.all isNL then some [byte0 s0 s1, byte1 s1 s2] else none
        | _ => none
      else none

/-- `DecodeString`; `none` stands for any `CorruptInputError`. -/
def decode (s : Bytes) : Option Bytes := decodeAux s []

/-! ### Round trip -/

theorem sextetN_chN : ∀ n, n < 64 → sextetN (chN n) = some n := by decide +kernel

theorem chN_lt : ∀ n, n < 64 → chN n < 256 := by decide +kernel

theorem chN_ne : ∀ n, n < 64 → chN n ≠ 61 ∧ chN n ≠ 10 ∧ chN n ≠ 13 := by decide +kernel

theorem ch_toNat {n : Nat} (h : n < 64) : (ch n).toNat = chN n := by
  have := chN_lt n h
  simp [ch, UInt8.toNat_ofNat']
  omega

theorem sextet_ch {n : Nat} (h : n < 64) : sextet (ch n) = some n := by
  simp [sextet, ch_toNat h, sextetN_chN n h]

theorem sextet_pad : sextet pad = none := by decide

theorem isNL_pad : isNL pad = false := by decide

/-- The four sextets of three bytes. With `c = 0` these are the sextets of a final group of two bytes, with `b = 0`
and `c = 0` those of a final group of one byte, up to `0 / 16 = 0` and `x + 0 = x`, which hold by computation. -/
theorem sextets_lt (a b c : UInt8) :
    a.toNat / 4 < 64 ∧ a.toNat % 4 * 16 + b.toNat / 16 < 64 ∧ b.toNat % 16 * 4 + c.toNat / 64 < 64 ∧
      c.toNat % 64 < 64 := by
  have := a.toNat_lt
  have := b.toNat_lt
  have := c.toNat_lt
  omega

theorem byte0_eq (a b : UInt8) : byte0 (a.toNat / 4) (a.toNat % 4 * 16 + b.toNat / 16) = a := by
  have ha := a.toNat_lt
  have hb := b.toNat_lt
  have : a.toNat / 4 * 4 + (a.toNat % 4 * 16 + b.toNat / 16) / 16 = a.toNat := by omega
  unfold byte0; rw [this]; exact UInt8.ofNat_toNat

theorem byte1_eq (a b c : UInt8) :
    byte1 (a.toNat % 4 * 16 + b.toNat / 16) (b.toNat % 16 * 4 + c.toNat / 64) = b := by
  have ha := a.toNat_lt
  have hb := b.toNat_lt
  have hc := c.toNat_lt
  have : (a.toNat % 4 * 16 + b.toNat / 16) % 16 * 16 + (b.toNat % 16 * 4 + c.toNat / 64) / 4
      = b.toNat := by omega
  unfold byte1; rw [this]; exact UInt8.ofNat_toNat

theorem byte2_eq (b c : UInt8) : byte2 (b.toNat % 16 * 4 + c.toNat / 64) (c.toNat % 64) = c := by
  have hb := b.toNat_lt
  have hc := c.toNat_lt
  have : (b.toNat % 16 * 4 + c.toNat / 64) % 4 * 64 + c.toNat % 64 = c.toNat := by omega
  unfold byte2; rw [this]; exact UInt8.ofNat_toNat

theorem byte0_eq' (a : UInt8) : byte0 (a.toNat / 4) (a.toNat % 4 * 16) = a := byte0_eq a 0

theorem byte1_eq' (a b : UInt8) : byte1 (a.toNat % 4 * 16 + b.toNat / 16) (b.toNat % 16 * 4) = b :=
  byte1_eq a b 0

/-- Decoding what `encode` produced gives the bytes back, for every byte string. -/
theorem decode_encode (b : Bytes) : decode (encode b) = some b := by
  unfold decode
  fun_induction encode b with
  | case1 => simp [decodeAux]
  | case2 a =>
    have h0 := (sextets_lt a 0 0).1
    have h1 : a.toNat % 4 * 16 < 64 := (sextets_lt a 0 0).2.1
    simp [decodeAux, sextet_ch h0, sextet_ch h1, sextet_pad, isNL_pad, byte0_eq']
  | case3 a b =>
    obtain ⟨h0, h1, -⟩ := sextets_lt a b 0
    have h2 : b.toNat % 16 * 4 < 64 := (sextets_lt a b 0).2.2.1
    simp [decodeAux, sextet_ch h0, sextet_ch h1, sextet_ch h2, sextet_pad, isNL_pad, byte0_eq,
      byte1_eq']
  | case4 a b c rest ih =>
    obtain ⟨h0, h1, h2, h3⟩ := sextets_lt a b c
    simp [decodeAux, sextet_ch h0, sextet_ch h1, sextet_ch h2, sextet_ch h3, ih, byte0_eq, byte1_eq,
      byte2_eq]

end OciModel.Base64
