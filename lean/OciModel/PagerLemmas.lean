/-
Helper lemmas for the pager model (`OciModel/Pager.lean`): unfolding equations,
closed forms for `deliver`, the order facts about `after`, and the key
"continue after the final item of a full page = drop the page" lemma.
Used by `Props/C18.lean` and `Props/C05.lean`.
-/
import OciModel.Pager

namespace OciModel.Pager

/-! ### Order on byte strings -/

abbrev BLt (a b : Bytes) : Prop := compare a b = .lt

theorem blt_trans {a b c : Bytes} (h1 : BLt a b) (h2 : BLt b c) : BLt a c :=
  Std.TransCmp.lt_trans h1 h2

theorem blt_irrefl (a : Bytes) : ¬ BLt a a := by
  unfold BLt; rw [Std.ReflOrd.compare_self]; decide

theorem blt_asymm {a b : Bytes} (h : BLt a b) : ¬ BLt b a := by
  intro h'; exact blt_irrefl a (blt_trans h h')

theorem strictAsc_iff_pairwise (l : List Bytes) : StrictAsc l ↔ l.Pairwise BLt := by
  induction l with
  | nil => simp [StrictAsc]
  | cons a t ih =>
    cases t with
    | nil => simp [StrictAsc]
    | cons b r =>
      unfold StrictAsc
      rw [ih, List.pairwise_cons (a := a)]
      constructor
      · rintro ⟨hab, hp⟩
        refine ⟨?_, hp⟩
        intro c hc
        rcases List.mem_cons.mp hc with rfl | hc
        · exact hab
        · exact blt_trans hab ((List.pairwise_cons.mp hp).1 c hc)
      · rintro ⟨h, hp⟩
        exact ⟨h b List.mem_cons_self, hp⟩

instance decStrictAsc : (l : List Bytes) → Decidable (StrictAsc l)
  | [] => isTrue trivial
  | [_] => isTrue trivial
  | a :: b :: rest =>
    have := decStrictAsc (b :: rest)
    inferInstanceAs (Decidable (compare a b = .lt ∧ StrictAsc (b :: rest)))

/-! ### `deliver` in closed form -/

theorem deliver_none (items : List Bytes) : deliver items none = (items, none, false) := by
  induction items with
  | nil => rfl
  | cons x xs ih => simp [deliver, ih]

theorem deliver_zero (items : List Bytes) :
    deliver items (some 0) = ([], some 0, !items.isEmpty) := by
  cases items <;> rfl

theorem deliver_succ (items : List Bytes) (j : Nat) :
    deliver items (some (j + 1)) =
      (items.take (j + 1), some (j + 1 - items.length), decide (j + 1 ≤ items.length)) := by
  induction items generalizing j with
  | nil => simp [deliver]
  | cons x xs ih =>
    cases j with
    | zero => simp [deliver]
    | succ j =>
      simp only [deliver, ih]
      simp

/-! ### `pagerScript` unfolding -/

theorem pagerScript_nil (n : Int) (k : Option Nat) : pagerScript n [] k = ⟨[], 0, .exhausted⟩ := rfl

theorem pagerScript_fail (n : Int) (rest : List Answer) (k : Option Nat) :
    pagerScript n (.fail :: rest) k = ⟨[], 1, .error⟩ := rfl

theorem pagerScript_page (n : Int) (items : List Bytes) (link : Option Bool)
    (rest : List Answer) (k : Option Nat) :
    pagerScript n (.page items link :: rest) k =
      if (deliver items k).2.2 then ⟨(deliver items k).1, 1, .stopped⟩
      else if (items.length : Int) < n then ⟨(deliver items k).1, 1, .done⟩
      else if items = [] then ⟨(deliver items k).1, 1, .panic⟩
      else if link = some false then ⟨(deliver items k).1, 1, .error⟩
      else
        ⟨(deliver items k).1 ++ (pagerScript n rest (deliver items k).2.1).yielded,
         (pagerScript n rest (deliver items k).2.1).requests + 1,
         (pagerScript n rest (deliver items k).2.1).fin⟩ := rfl

/-- A page either ends the run — one request, what the consumer took of the page, and a reason that is never
`exhausted` — or it is a full, non-empty page with a usable Link that the consumer took whole, followed by the run
on the rest of the script. In neither case does what follows the page matter for the page's own part. -/
theorem pagerScript_page_cases (n : Int) (items : List Bytes) (link : Option Bool) (k : Option Nat) :
    (∃ fin, (∀ rest, pagerScript n (.page items link :: rest) k = ⟨(deliver items k).1, 1, fin⟩) ∧
      fin ≠ .exhausted ∧ (fin = .stopped ↔ (deliver items k).2.2 = true) ∧ (fin = .panic → n ≤ 0)) ∨
    ((∀ rest, pagerScript n (.page items link :: rest) k =
        ⟨(deliver items k).1 ++ (pagerScript n rest (deliver items k).2.1).yielded,
         (pagerScript n rest (deliver items k).2.1).requests + 1,
         (pagerScript n rest (deliver items k).2.1).fin⟩) ∧
      (deliver items k).2.2 = false ∧ n ≤ (items.length : Int) ∧ items ≠ [] ∧ link ≠ some false) := by
  by_cases h1 : (deliver items k).2.2 = true
  · exact .inl ⟨.stopped, fun rest => by rw [pagerScript_page, if_pos h1], by decide, ⟨fun _ => h1, fun _ => rfl⟩, nofun⟩
  have stop {fin : End} (hf : fin ≠ .stopped) : fin = .stopped ↔ (deliver items k).2.2 = true :=
    ⟨fun h => absurd h hf, fun h => absurd h h1⟩
  by_cases h2 : (items.length : Int) < n
  · exact .inl ⟨.done, fun rest => by rw [pagerScript_page, if_neg h1, if_pos h2], by decide, stop (by decide), nofun⟩
  by_cases h3 : items = []
  · exact .inl ⟨.panic, fun rest => by rw [pagerScript_page, if_neg h1, if_neg h2, if_pos h3], by decide,
      stop (by decide), fun _ => by subst h3; simpa using h2⟩
  by_cases h4 : link = some false
  · exact .inl ⟨.error, fun rest => by rw [pagerScript_page, if_neg h1, if_neg h2, if_neg h3, if_pos h4], by decide,
      stop (by decide), nofun⟩
  · exact .inr ⟨fun rest => by rw [pagerScript_page, if_neg h1, if_neg h2, if_neg h3, if_neg h4],
      by simpa using h1, by omega, h3, h4⟩

theorem pagerOver_zero (L : List Bytes) (n : Nat) (last : Option Bytes) :
    pagerOver L n 0 last = [] := rfl

theorem pagerOver_succ (L : List Bytes) (n fuel : Nat) (last : Option Bytes) :
    pagerOver L n (fuel + 1) last =
      if ((after L last).take n).length < n then (after L last).take n
      else match ((after L last).take n).getLast? with
        | none => (after L last).take n
        | some l => (after L last).take n ++ pagerOver L n fuel (some l) := rfl

/-! ### A full page -/

theorem take_ne_nil {α : Type} {A : List α} {n : Nat} (hn : 1 ≤ n) (hge : n ≤ A.length) : A.take n ≠ [] := by
  intro h
  have := congrArg List.length h
  rw [List.length_take, List.length_nil] at this
  omega

theorem take_getLast? {α : Type} {A : List α} {n : Nat} (hn : 1 ≤ n) (hge : n ≤ A.length) :
    ∃ l, (A.take n).getLast? = some l := by
  cases h : (A.take n).getLast? with
  | none => exact absurd (List.getLast?_eq_none_iff.mp h) (take_ne_nil hn hge)
  | some l => exact ⟨l, rfl⟩

/-! ### `after` -/

theorem mem_after_some {L : List Bytes} {s x : Bytes} :
    x ∈ after L (some s) ↔ x ∈ L ∧ compare s x = .lt := by
  simp [after, List.mem_filter]

theorem after_sublist (L : List Bytes) (s : Option Bytes) : (after L s).Sublist L := by
  cases s with
  | none => exact List.Sublist.refl _
  | some s => exact List.filter_sublist

theorem after_pairwise {L : List Bytes} (h : L.Pairwise BLt) (s : Option Bytes) :
    (after L s).Pairwise BLt :=
  h.sublist (after_sublist L s)

theorem filter_gt_split {pre post : List Bytes} {x : Bytes}
    (h : (pre ++ x :: post).Pairwise BLt) :
    (pre ++ x :: post).filter (fun y => compare x y == .lt) = post := by
  rw [List.pairwise_append] at h
  obtain ⟨_, hxp, hpre⟩ := h
  rw [List.pairwise_cons] at hxp
  rw [List.filter_append, List.filter_cons]
  have h1 : pre.filter (fun y => compare x y == .lt) = [] := by
    rw [List.filter_eq_nil_iff]
    intro a ha hlt
    have hax : BLt a x := hpre a ha x List.mem_cons_self
    exact blt_asymm hax (by simpa using hlt)
  have h2 : (compare x x == Ordering.lt) = false := by
    rw [Std.ReflOrd.compare_self]; rfl
  have h3 : post.filter (fun y => compare x y == .lt) = post := by
    rw [List.filter_eq_self]
    intro a ha
    simpa using hxp.1 a ha
  rw [h1, h2, h3]; simp

theorem after_after {L : List Bytes} {s : Option Bytes} {x : Bytes}
    (hx : x ∈ after L s) :
    after L (some x) = (after L s).filter (fun y => compare x y == .lt) := by
  cases s with
  | none => rfl
  | some s =>
    have hsx : BLt s x := (mem_after_some.mp hx).2
    simp only [after, List.filter_filter]
    apply List.filter_congr
    intro y _
    cases hxy : (compare x y == Ordering.lt) with
    | false => simp
    | true =>
      have : BLt x y := by simpa using hxy
      have : BLt s y := blt_trans hsx this
      simp [this]

/-- Key step of lossless paging: continuing after the final item of a page of at most `n` items
yields exactly the rest of the listing. -/
theorem after_last_of_page {L : List Bytes} (hL : L.Pairwise BLt) (s : Option Bytes)
    {n : Nat} {x : Bytes} (hlast : ((after L s).take n).getLast? = some x) :
    after L (some x) = (after L s).drop n := by
  have hmem : x ∈ (after L s).take n := List.mem_of_getLast? hlast
  have hx : x ∈ after L s := List.mem_of_mem_take hmem
  rw [after_after hx]
  obtain ⟨ys, hsplit⟩ := List.getLast?_eq_some_iff.mp hlast
  have hl : after L s = ys ++ x :: (after L s).drop n := by
    conv => lhs; rw [← List.take_append_drop n (after L s), hsplit]
    simp
  have hp := after_pairwise hL s
  rw [hl] at hp
  have := filter_gt_split hp
  rw [← hl] at this
  exact this

end OciModel.Pager
