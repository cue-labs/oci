/-
Two hops: a client talking to a server whose backend is a client talking to a server in front of `B`.
`two_hops`: the one-hop theorem (`hop_single`) composed with itself, given that what the first hop delivers is
again carriable (`expect_carriable`); `two_hops_ok_equiv`, `mar_hop_fixed`: what the caller holds after two hops.
-/
import OciModel.WireLemmas

namespace OciModel.Wire
open OciModel OciModel.Ref OciModel.ReqCodec OciModel.RespCodec
open OciModel.ErrCodec (Err)
open OciModel.Props

theorem expect_carriable (cfg1 cfg2 : Cfg) (c : Call) (a : Answer) (hid : c.idFree = true)
    (hs1 : Single cfg1 (onWire c)) (hwf : WF cfg2 c) (hcar : Carriable cfg1 (onWire c) a) :
    Carriable cfg2 c (asAnswer (expect cfg1 (onWire c) a)) := by
  cases a with
  | err e => simp [expect, asAnswer, Carriable]
  | ok b =>
    by_cases hp : c.plain = true
    · -- `onWire c` is `c`: by the lines of `Carriable`
      rw [onWire_plain c hp] at hcar hs1 ⊢
      unfold Carriable at hcar
      split at hcar
      all_goals first
        | exact hcar.elim                    -- an answer of another type is not carriable
        | (rename_i heq; cases heq; done)    -- an error, but the answer is a success
        | (rename_i heq; cases heq
           first
            | (cases hid; done)              -- a call that names an upload or a listing
            | (cases hp; done)               -- a ranged read: not plain
            | simp only [expect, expectOk, asAnswer, Carriable])
      -- what is left: the size is the backend's; the digest is the one asked for (`hwf`) or the backend's (`hcar`)
      all_goals simp_all [WF, Single]
    · cases c <;> first | (cases hid; done) | exact absurd rfl hp | skip
      rename_i repo dg o0 o1
      by_cases hfull : o0 = 0 ∧ o1 < 0
      · rw [onWire_full hfull] at hcar ⊢
        cases b <;> simp only [Carriable] at hcar
        simpa [expect, expectOk, asAnswer, Carriable] using hcar
      · obtain ⟨o1', he, hfull', _⟩ := onWire_range (repo := repo) (dg := dg) hfull
        rw [he] at hcar ⊢
        cases b <;> simp only [Carriable] at hcar
        rename_i d content
        by_cases hin : o0 ≤ d.size <;> simp [expect, expectOk, asAnswer, Carriable, hfull', hin, hcar]

theorem two_hops {σ : Type} (cfg1 cfg2 : Cfg) (ht1 : TableOK cfg1.table) (ht2 : TableOK cfg2.table)
    (fuel : Nat) (B : SBackend σ) (st : (σ × List Call) × List Call) (c : Call) (hid : c.idFree = true)
    (hs1 : Single cfg1 (onWire c)) (hs2 : Single cfg2 c) (hwf1 : WF cfg1 (onWire c)) (hwf2 : WF cfg2 c)
    (hcar : Carriable cfg1 (onWire c) (B st.1.1 (onWire c)).2) :
    hopS cfg2 fuel (hopBackend cfg1 fuel B) st c =
      ((((B st.1.1 (onWire c)).1, st.1.2 ++ [onWire c]), st.2 ++ [onWire c]),
        expect cfg2 c (asAnswer (expect cfg1 (onWire c) (B st.1.1 (onWire c)).2))) := by
  have hinner : hopS cfg1 fuel B st.1 (onWire c) =
      (((B st.1.1 (onWire c)).1, st.1.2 ++ [onWire c]), expect cfg1 (onWire c) (B st.1.1 (onWire c)).2) := by
    have := hop_single cfg1 ht1 fuel B st.1 (onWire c) hs1 hwf1 (by rw [onWire_idem]; exact hcar)
    rw [onWire_idem] at this
    exact this
  have hB : hopBackend cfg1 fuel B st.1 (onWire c) =
      (((B st.1.1 (onWire c)).1, st.1.2 ++ [onWire c]), asAnswer (expect cfg1 (onWire c) (B st.1.1 (onWire c)).2)) := by
    simp only [hopBackend, hinner]
  have := hop_single cfg2 ht2 fuel (hopBackend cfg1 fuel B) st c hs2 hwf2
    (by rw [hB]; exact expect_carriable cfg1 cfg2 c _ hid hs1 hwf2 hcar)
  rw [this, hB]

/-- marshalling the error a hop delivered gives what marshalling the original gave (C07: a further hop
changes nothing) -/
theorem mar_hop_fixed (cfg : Cfg) (hc : ∀ d, cfg.compact (cfg.compact d) = cfg.compact d) (e : Err) :
    mar cfg (faultErr (.reg (ErrCodec.unmarshal cfg.stdMsg false (mar cfg e)))) = mar cfg e := by
  have h := C07.hop_idempotent cfg.S cfg.C cfg.compact cfg.table cfg.stdMsg hc e
  simp only [ErrCodec.hop, ErrCodec.unmarshal, Bool.false_eq_true, if_false] at h
  simp only [faultErr, mar, ErrCodec.unmarshal, Bool.false_eq_true, if_false]
  injection h with h1 h2
  injection h2 with h3 _
  exact Prod.ext h1 h3

theorem two_hops_ok_equiv (cfg1 cfg2 : Cfg) (c : Call) (b : BRes) (hid : c.idFree = true)
    (hcar : Carriable cfg1 (onWire c) (.ok b))
    (hf : Faithful cfg1 (onWire c) (.ok b)) (hf2 : Faithful cfg2 c (asAnswer (expect cfg1 (onWire c) (.ok b)))) :
    Equiv cfg2 c (expect cfg2 c (asAnswer (expect cfg1 (onWire c) (.ok b)))) (.ok b) := by
  by_cases hp : c.plain = true
  · rw [onWire_plain c hp] at hcar hf hf2 ⊢
    unfold Carriable at hcar
    split at hcar
    all_goals first
      | exact hcar.elim                    -- an answer of another type is not carriable
      | (rename_i heq; cases heq; done)    -- an error, but the answer is a success
      | (rename_i heq; cases heq
         first
          | (cases hid; done)              -- a call that names an upload or a listing
          | (cases hp; done)               -- a ranged read: not plain
          -- F31: both hops report the digest asked for; `hf` says it is the backend's
          | (simp only [Equiv, expect, expectOk, asAnswer, DescEquiv, Faithful, Call.carriesMediaType] at hf hf2 ⊢ <;>
             simp [hf, hf2, orOctetStream_idem]))
  · cases c <;> first | (cases hid; done) | exact absurd rfl hp | skip
    rename_i repo dg o0 o1
    by_cases hfull : o0 = 0 ∧ o1 < 0
    · rw [onWire_full hfull] at hcar hf hf2 ⊢
      cases b <;> simp only [Carriable] at hcar
      simp only [Faithful] at hf
      simp [Equiv, expect, expectOk, asAnswer, DescEquiv, Call.carriesMediaType, hfull, hf]
    · obtain ⟨o1', he, hfull', _⟩ := onWire_range (repo := repo) (dg := dg) hfull
      rw [he] at hcar hf hf2 ⊢
      cases b <;> simp only [Carriable] at hcar
      simp only [Faithful] at hf
      simp [Equiv, expect, expectOk, asAnswer, DescEquiv, Call.carriesMediaType, hfull, hfull', hf.1, hf.2]

end OciModel.Wire
