/-
Lemmas about the `ociauth.Scope` model (`OciModel/Scope.lean`): sorted lists, what the entries of
`repositories` stand for (`expand`), the loop of `NewScope` (`BuildInv`), and `Iter`, `Holds`,
`Union`, `Contains`, `Equal` as operations on the set `Mem · s`, and `ParseScope` (its members,
`toStr` of what it parsed). `OciModel/Props/C09.lean` states the properties.
-/
import OciModel.Scope

namespace OciModel.Scope

section Order
variable {α : Type} [Ord α] [Std.TransOrd α]

theorem lt_irrefl' {a : α} : compare a a ≠ .lt := by
  simp

theorem lt_ne' {a b : α} (h : compare a b = .lt) : a ≠ b := by
  intro e; subst e; exact lt_irrefl' h

theorem lt_of_lt_head {β : Type} {f : β → α} {a : α} {b : β} {l : List β}
    (h : compare a (f b) = .lt) (hl : (b :: l).Pairwise (fun x y => compare (f x) (f y) = .lt)) :
    ∀ x ∈ b :: l, compare a (f x) = .lt :=
  List.forall_mem_cons.mpr
    ⟨h, fun x hx => Std.TransCmp.lt_trans h ((List.pairwise_cons.mp hl).1 x hx)⟩

theorem strictAsc_iff_pairwise (l : List α) :
    StrictAsc l ↔ l.Pairwise (fun a b => compare a b = .lt) := by
  induction l with
  | nil => simp [StrictAsc]
  | cons a l ih =>
    cases l with
    | nil => simp [StrictAsc]
    | cons b rest =>
      simp only [StrictAsc]
      rw [ih, List.pairwise_cons (a := a)]
      exact ⟨fun ⟨hab, hp⟩ => ⟨lt_of_lt_head (f := id) hab hp, hp⟩,
        fun ⟨h, hp⟩ => ⟨h b List.mem_cons_self, hp⟩⟩

omit [Std.TransOrd α] in
theorem lt_of_not_gt_of_ne [Std.LawfulEqOrd α] {a b : α} (h : compare a b ≠ .gt) (hne : a ≠ b) :
    compare a b = .lt := by
  cases hc : compare a b with
  | lt => rfl
  | eq => exact absurd (Std.LawfulEqOrd.eq_of_compare hc) hne
  | gt => exact absurd hc h

theorem strictAsc_cons {a : α} {l : List α} :
    StrictAsc (a :: l) ↔ (∀ b ∈ l, compare a b = .lt) ∧ StrictAsc l := by
  simp only [strictAsc_iff_pairwise, List.pairwise_cons]

omit [Std.TransOrd α] in
theorem strictAsc_nil : StrictAsc ([] : List α) := trivial

end Order

abbrev Asc (l : List RS) : Prop := l.Pairwise (fun a b => compare a b = .lt)
abbrev NameAsc (l : List Ent) : Prop := l.Pairwise (fun a b => compare a.name b.name = .lt)

theorem WF.nameAsc {s : Scope} (h : WF s) : NameAsc s.repos :=
  List.pairwise_map.mp ((strictAsc_iff_pairwise _).mp h.repos_sorted)

theorem WF.asc {s : Scope} (h : WF s) : Asc s.others :=
  (strictAsc_iff_pairwise _).mp h.others_sorted

theorem mem_insertU (r x : RS) (l : List RS) : r ∈ insertU x l ↔ r = x ∨ r ∈ l := by
  induction l with
  | nil => simp [insertU]
  | cons y ys ih =>
    simp only [insertU]
    split
    · simp
    · rename_i h
      have := Std.LawfulEqOrd.eq_of_compare h
      subst this
      simp
    · simp only [List.mem_cons, ih]
      exact or_left_comm

theorem insertU_asc (x : RS) {l : List RS} (h : Asc l) : Asc (insertU x l) := by
  induction l with
  | nil => exact List.pairwise_singleton _ _
  | cons y ys ih =>
    rw [insertU]
    split
    · exact List.pairwise_cons.mpr ⟨lt_of_lt_head (f := id) ‹_› h, h⟩
    · exact h
    · have t := List.pairwise_cons.mp h
      refine List.pairwise_cons.mpr ⟨fun b hb => ?_, ih t.2⟩
      rcases (mem_insertU _ _ _).mp hb with rfl | hb
      · exact Std.OrientedCmp.gt_iff_lt.mp ‹_›
      · exact t.1 b hb

theorem sortU_asc (l : List RS) : Asc (sortU l) := by
  induction l with
  | nil => exact .nil
  | cons a l ih => exact insertU_asc a ih

theorem sortU_strictAsc (l : List RS) : StrictAsc (sortU l) :=
  (strictAsc_iff_pairwise _).mpr (sortU_asc l)

theorem mem_sortU (r : RS) (l : List RS) : r ∈ sortU l ↔ r ∈ l := by
  induction l with
  | nil => simp [sortU]
  | cons a l ih =>
    have : sortU (a :: l) = insertU a (sortU l) := rfl
    rw [this, mem_insertU, ih]; simp

theorem tyRepository_ne_tyRegistry : tyRepository ≠ tyRegistry := by decide
theorem actPull_ne_actPush : actPull ≠ actPush := by decide
theorem pull_lt_push : compare actPull actPush = .lt := by decide

theorem compare_pair {α β} [Ord α] [Ord β] (a c : α) (b d : β) :
    compare (a, b) (c, d) = (compare a c).then (compare b d) := rfl

theorem nil_lt_of_ne_nil {a : Bytes} (h : a ≠ []) : compare ([] : Bytes) a = .lt := by
  cases a with
  | nil => contradiction
  | cons x xs => rfl

/-- The repository name a known resource scope is filed under (`[]` = catalog). -/
def ekey (x : RS) : Bytes := if x.1 = tyRegistry then [] else x.2.1

theorem mem_expandEnt (x : RS) (e : Ent) :
    x ∈ expandEnt e ↔
      (e.name = [] ∧ x = catalog) ∨
      (e.name ≠ [] ∧ ((e.pull = true ∧ x = (tyRepository, e.name, actPull)) ∨
                      (e.push = true ∧ x = (tyRepository, e.name, actPush)))) := by
  unfold expandEnt
  by_cases hn : e.name = []
  · simp [hn]
  · simp [hn, List.mem_ite_nil_right]

theorem isKnown_catalog : isKnown catalog = true := by decide

theorem isKnown_repo (n a : Bytes) :
    isKnown (tyRepository, n, a) = (n ≠ [] && (a = actPull || a = actPush)) := by
  simp [isKnown]

theorem isKnown_iff (x : RS) :
    isKnown x = true ↔
      x = catalog ∨ (x.1 = tyRepository ∧ x.2.1 ≠ [] ∧ (x.2.2 = actPull ∨ x.2.2 = actPush)) := by
  obtain ⟨t, n, a⟩ := x
  unfold isKnown
  by_cases h1 : t = tyRepository
  · subst h1
    simp [catalog, tyRepository_ne_tyRegistry]
  · by_cases h2 : t = tyRegistry
    · subst h2; simp [h1]
    · simp [h1, h2, catalog]

theorem isKnown_of_mem_expandEnt {x : RS} {e : Ent} (h : x ∈ expandEnt e) : isKnown x = true := by
  rcases (mem_expandEnt x e).mp h with ⟨_, rfl⟩ | ⟨hn, ⟨_, rfl⟩ | ⟨_, rfl⟩⟩
  · exact isKnown_catalog
  · simp [isKnown_repo, hn]
  · simp [isKnown_repo, hn]

theorem ekey_of_mem_expandEnt {x : RS} {e : Ent} (h : x ∈ expandEnt e) : ekey x = e.name := by
  rcases (mem_expandEnt x e).mp h with ⟨hn, rfl⟩ | ⟨hn, ⟨_, rfl⟩ | ⟨_, rfl⟩⟩
  · simp [ekey, catalog, hn]
  · simp [ekey, tyRepository_ne_tyRegistry]
  · simp [ekey, tyRepository_ne_tyRegistry]

theorem mem_expand (x : RS) (es : List Ent) : x ∈ expand es ↔ ∃ e ∈ es, x ∈ expandEnt e := by
  simp [expand, List.mem_flatMap]

theorem isKnown_of_mem_expand {x : RS} {es : List Ent} (h : x ∈ expand es) : isKnown x = true := by
  obtain ⟨e, _, he⟩ := (mem_expand x es).mp h
  exact isKnown_of_mem_expandEnt he

theorem expandEnt_pairwise (e : Ent) : Asc (expandEnt e) := by
  unfold expandEnt
  by_cases hn : e.name = []
  · simp [hn]
  · cases hp : e.pull <;> cases hq : e.push <;> simp [hn]
    -- left: both actions, `pull` before `push`
    simp [compare_pair, pull_lt_push]

theorem compare_known {x y : RS} (hx : isKnown x = true) (hy : isKnown y = true) :
    compare x y = (compare (ekey x) (ekey y)).then (compare x.2.2 y.2.2) := by
  have hrepo : ∀ n a, ekey (tyRepository, n, a) = n := fun _ _ => if_neg tyRepository_ne_tyRegistry
  rcases (isKnown_iff x).mp hx with rfl | ⟨hx1, hx2, _⟩ <;>
    rcases (isKnown_iff y).mp hy with rfl | ⟨hy1, hy2, _⟩
  · decide
  · obtain ⟨t, n, a⟩ := y
    simp only at hy1 hy2; subst hy1
    rw [hrepo, show ekey catalog = [] from rfl, nil_lt_of_ne_nil hy2]
    rfl
  · obtain ⟨t, n, a⟩ := x
    simp only at hx1 hx2; subst hx1
    rw [hrepo, show ekey catalog = [] from rfl, Std.OrientedCmp.gt_of_lt (nil_lt_of_ne_nil hx2)]
    rfl
  · obtain ⟨t, n, a⟩ := x
    obtain ⟨t', n', a'⟩ := y
    simp only at hx1 hy1; subst hx1; subst hy1
    rw [hrepo, hrepo, compare_pair, Std.ReflCmp.compare_self (cmp := compare) (a := tyRepository)]
    rfl

theorem ekey_le_of_lt {x y : RS} (hx : isKnown x = true) (hy : isKnown y = true)
    (h : compare x y = .lt) : compare (ekey x) (ekey y) ≠ .gt := by
  intro hgt
  rw [compare_known hx hy, hgt] at h
  cases h

theorem expandEnt_lt {e1 e2 : Ent} (h : compare e1.name e2.name = .lt) {x y : RS}
    (hx : x ∈ expandEnt e1) (hy : y ∈ expandEnt e2) : compare x y = .lt := by
  rw [compare_known (isKnown_of_mem_expandEnt hx) (isKnown_of_mem_expandEnt hy),
    ekey_of_mem_expandEnt hx, ekey_of_mem_expandEnt hy, h]
  rfl

theorem expand_pairwise {es : List Ent} (h : NameAsc es) : Asc (expand es) :=
  List.pairwise_flatMap.mpr
    ⟨fun e _ => expandEnt_pairwise e, h.imp fun hlt _ hx _ hy => expandEnt_lt hlt hx hy⟩

theorem mem_expandEnt_orEnt {e1 e2 : Ent} (hn : e1.name = e2.name) (x : RS) :
    x ∈ expandEnt (orEnt e1 e2) ↔ x ∈ expandEnt e1 ∨ x ∈ expandEnt e2 := by
  unfold expandEnt orEnt
  rw [← hn]
  by_cases h : e1.name = []
  · simp only [h, if_true, or_self]
  · simp only [h, if_false, List.mem_append, List.mem_ite_nil_right, Bool.or_eq_true,
      or_and_right]
    exact or_or_or_comm

theorem entOk_orEnt {e1 e2 : Ent} (hn : e1.name = e2.name) (h1 : EntOk e1) (h2 : EntOk e2) :
    EntOk (orEnt e1 e2) := by
  unfold EntOk orEnt at *
  rw [← hn] at h2
  by_cases h : e1.name = []
  · simp [h] at h1 h2 ⊢
    simp [h1, h2]
  · simp [h] at h1 h2 ⊢
    rcases h1 with h1 | h1 <;> simp [h1]

/-- `Iter` yields the known scopes and the others, each once. -/
theorem mergeIter_perm (ks os : List RS) : (mergeIter ks os).Perm (ks ++ os) := by
  induction ks generalizing os with
  | nil => exact .refl _
  | cons k ks ih =>
    rw [mergeIter]
    refine List.perm_middle.trans (.cons k ?_)
    -- left to show: `takeWhile ++ mergeIter ks dropWhile ~ ks ++ os`, where `os` is
    -- `takeWhile ++ dropWhile`
    have hos := List.takeWhile_append_dropWhile (p := fun o => compare o k == .lt) (l := os)
    exact ((ih _).append_left _).trans ((List.perm_append_comm_assoc ..).trans (by rw [hos]; exact .refl _))

theorem mem_mergeIter (r : RS) (ks os : List RS) : r ∈ mergeIter ks os ↔ r ∈ ks ∨ r ∈ os :=
  (mergeIter_perm ks os).mem_iff.trans List.mem_append

theorem length_mergeIter (ks os : List RS) : (mergeIter ks os).length = ks.length + os.length :=
  (mergeIter_perm ks os).length_eq.trans List.length_append

theorem mem_takeWhile_lt {k : RS} {os : List RS} {o : RS}
    (h : o ∈ os.takeWhile (fun o => compare o k == .lt)) : compare o k = .lt :=
  beq_iff_eq.mp (List.all_eq_true.mp List.all_takeWhile o h)

theorem mem_dropWhile_not_lt {k : RS} {os : List RS}
    (hs : Asc os) {o : RS}
    (h : o ∈ os.dropWhile (fun o => compare o k == .lt)) : compare o k ≠ .lt := by
  induction os with
  | nil => simp at h
  | cons a os ih =>
    have hs := List.pairwise_cons.mp hs
    rw [List.dropWhile_cons] at h
    split at h
    · exact ih hs.2 h
    · rename_i hna
      rcases List.mem_cons.mp h with rfl | ho
      · simpa using hna
      · intro hlt
        exact hna (by simpa using Std.TransCmp.lt_trans (hs.1 o ho) hlt)

theorem mergeIter_pairwise {ks os : List RS} (hk : Asc ks) (ho : Asc os)
    (hd : ∀ k ∈ ks, k ∉ os) : Asc (mergeIter ks os) := by
  induction ks generalizing os with
  | nil => exact ho
  | cons k ks ih =>
    have hk := List.pairwise_cons.mp hk
    have hsub : os.dropWhile (fun o => compare o k == .lt) ⊆ os := List.dropWhile_subset _
    have hrest := ih hk.2 (ho.sublist (List.dropWhile_sublist _))
      (fun k' hk' hm => hd k' (List.mem_cons_of_mem _ hk') (hsub hm))
    -- `k` is below the later known scopes, and below the others left after it
    have hlt : ∀ b ∈ mergeIter ks (os.dropWhile (fun o => compare o k == .lt)),
        compare k b = .lt := by
      intro b hb
      rcases (mem_mergeIter _ _ _).mp hb with hb | hb
      · exact hk.1 b hb
      · exact lt_of_not_gt_of_ne
          (fun hgt => mem_dropWhile_not_lt ho hb (Std.OrientedCmp.gt_iff_lt.mp hgt))
          (fun e => hd k List.mem_cons_self (e ▸ hsub hb))
    have hcons := List.pairwise_cons.mpr ⟨hlt, hrest⟩
    exact List.pairwise_append.mpr ⟨ho.sublist (List.takeWhile_sublist _), hcons,
      fun a ha => lt_of_lt_head (f := id) (mem_takeWhile_lt ha) hcons⟩

theorem Mem_iff {s : Scope} (hl : s.unlimited = false) (r : RS) :
    Mem r s ↔ r ∈ expand s.repos ∨ r ∈ s.others := by
  simp [Mem, iter, hl, mem_mergeIter]

theorem not_mem_others_of_known {s : Scope} (h : WF s) {r : RS} (hk : isKnown r = true) :
    r ∉ s.others :=
  fun hm => Bool.false_ne_true ((h.others_unknown r hm).symm.trans hk)

theorem iter_pairwise {s : Scope} (h : WF s) :
    Asc (iter s) := by
  unfold iter
  split
  · simp
  · exact mergeIter_pairwise (expand_pairwise h.nameAsc) h.asc
      fun _ hk => not_mem_others_of_known h (isKnown_of_mem_expand hk)

/-- One step of the loop of `NewScope`; the merged entry is `orEnt e (entOf r)`. -/
theorem build_cons (r : RS) (rest : List RS) :
    build (r :: rest) =
      if !isKnown r then ((build rest).1, r :: (build rest).2)
      else if r.1 = tyRegistry then (⟨[], true, false⟩ :: (build rest).1, (build rest).2)
      else match (build rest).1 with
        | e :: es' =>
          if e.name = r.2.1 then (orEnt e (entOf r) :: es', (build rest).2)
          else (entOf r :: e :: es', (build rest).2)
        | [] => ([entOf r], (build rest).2) := by
  rw [build]
  rcases build rest with ⟨_ | ⟨e, es⟩, os⟩ <;> rfl

theorem ekey_of_known_repo {x : RS} (hx : isKnown x = true) (hne : x ≠ catalog) :
    ekey x = x.2.1 ∧ x.2.1 ≠ [] ∧ x.1 = tyRepository := by
  rcases (isKnown_iff x).mp hx with rfl | ⟨hx1, hx2, _⟩
  · exact absurd rfl hne
  · simp [ekey, hx1, tyRepository_ne_tyRegistry, hx2]

theorem expandEnt_entOf {r : RS} (hk : isKnown r = true) (hne : r.1 ≠ tyRegistry) :
    expandEnt (entOf r) = [r] := by
  rcases (isKnown_iff r).mp hk with rfl | ⟨h1, h2, h3⟩
  · exact absurd rfl hne
  · obtain ⟨t, n, a⟩ := r
    simp only at h1 h2 h3; subst h1
    rcases h3 with rfl | rfl
    · simp [expandEnt, entOf, h2, actPull_ne_actPush]
    · simp [expandEnt, entOf, h2, actPull_ne_actPush.symm]

theorem expand_cons (e : Ent) (es : List Ent) : expand (e :: es) = expandEnt e ++ expand es :=
  List.flatMap_cons

/-- `e` is the entry `NewScope` files the known scope `r` under. -/
structure EntFor (e : Ent) (r : RS) : Prop where
  known : isKnown r = true
  expand : expandEnt e = [r]
  ok : EntOk e
  name : e.name = ekey r

theorem entFor_catalog : EntFor ⟨[], true, false⟩ catalog :=
  ⟨isKnown_catalog, rfl, ⟨rfl, rfl⟩, rfl⟩

theorem entFor_entOf {r : RS} (hk : isKnown r = true) (hne : r.1 ≠ tyRegistry) :
    EntFor (entOf r) r := by
  refine ⟨hk, expandEnt_entOf hk hne, ?_, (if_neg hne).symm⟩
  rcases (isKnown_iff r).mp hk with rfl | ⟨_, h2, h3⟩
  · exact absurd rfl hne
  · simpa [EntOk, entOf, h2] using h3

structure BuildInv (l : List RS) (p : List Ent × List RS) : Prop where
  mem : ∀ r, (r ∈ expand p.1 ∨ r ∈ p.2) ↔ r ∈ l
  unk : ∀ r ∈ p.2, isKnown r = false
  ok : ∀ e ∈ p.1, EntOk e
  key : ∀ e ∈ p.1, ∃ x ∈ l, isKnown x = true ∧ ekey x = e.name
  sorted : l.Pairwise (fun a b => compare a b = .lt) →
    (p.1.map (·.name)).Pairwise (fun a b => compare a b = .lt)

theorem BuildInv.key_cons {rest : List RS} {p : List Ent × List RS} (ih : BuildInv rest p)
    (r : RS) : ∀ e ∈ p.1, ∃ x ∈ r :: rest, isKnown x = true ∧ ekey x = e.name :=
  fun e he => (ih.key e he).imp fun _ hx => ⟨List.mem_cons_of_mem _ hx.1, hx.2⟩

/-- An unknown scope goes to `others`. -/
theorem BuildInv.unknown {r : RS} {rest : List RS} {p : List Ent × List RS}
    (ih : BuildInv rest p) (hk : isKnown r = false) : BuildInv (r :: rest) (p.1, r :: p.2) where
  mem x := by
    rw [List.mem_cons, List.mem_cons, ← ih.mem x]; exact or_left_comm
  unk := List.forall_mem_cons.mpr ⟨hk, ih.unk⟩
  ok := ih.ok
  key := ih.key_cons r
  sorted hs := ih.sorted (List.pairwise_cons.mp hs).2

/-- A known scope whose entry is not yet there goes in front: its key is the least. -/
theorem BuildInv.cons {r : RS} {rest : List RS} {es : List Ent} {os : List RS} {e₀ : Ent}
    (ih : BuildInv rest (es, os)) (h : EntFor e₀ r)
    (hne : (∀ b ∈ rest, compare r b = .lt) → ∀ e ∈ es.head?, e.name ≠ e₀.name) :
    BuildInv (r :: rest) (e₀ :: es, os) where
  mem x := by
    rw [expand_cons, h.expand, List.mem_append, List.mem_singleton, or_assoc, ih.mem x,
      List.mem_cons]
  unk := ih.unk
  ok := List.forall_mem_cons.mpr ⟨h.ok, ih.ok⟩
  key := List.forall_mem_cons.mpr ⟨⟨r, List.mem_cons_self, h.known, h.name.symm⟩, ih.key_cons r⟩
  sorted hs := by
    rw [List.pairwise_cons] at hs
    have hes := ih.sorted hs.2
    refine List.pairwise_cons.mpr ⟨?_, hes⟩
    cases es with
    | nil => nofun
    | cons e es =>
      obtain ⟨x, hx, hxk, hxe⟩ := ih.key e List.mem_cons_self
      have hle := ekey_le_of_lt h.known hxk (hs.1 x hx)
      rw [← h.name, hxe] at hle
      exact lt_of_lt_head (lt_of_not_gt_of_ne hle (hne hs.1 e rfl).symm) hes

/-- A known scope whose entry is in front is merged into it. -/
theorem BuildInv.merge {r : RS} {rest : List RS} {e : Ent} {es : List Ent} {os : List RS}
    {e₀ : Ent} (ih : BuildInv rest (e :: es, os)) (h : EntFor e₀ r) (hn : e.name = e₀.name) :
    BuildInv (r :: rest) (orEnt e e₀ :: es, os) where
  mem x := by
    rw [List.mem_cons, ← ih.mem x]
    simp only [expand_cons, List.mem_append, mem_expandEnt_orEnt hn, h.expand, List.mem_singleton]
    rw [or_right_comm (b := x = r), or_right_comm (b := x = r), or_comm]
  unk := ih.unk
  ok := List.forall_mem_cons.mpr ⟨entOk_orEnt hn (ih.ok e List.mem_cons_self) h.ok,
    fun e' he' => ih.ok e' (List.mem_cons_of_mem _ he')⟩
  key := List.forall_mem_cons.mpr ⟨⟨r, List.mem_cons_self, h.known, (hn.trans h.name).symm⟩,
    fun e' he' => ih.key_cons r e' (List.mem_cons_of_mem _ he')⟩
  sorted hs := ih.sorted (List.pairwise_cons.mp hs).2

theorem build_inv (l : List RS) : BuildInv l (build l) := by
  induction l with
  | nil => constructor <;> simp [build, expand]
  | cons r rest ih =>
    rw [build_cons]
    generalize build rest = p at ih ⊢
    obtain ⟨es, os⟩ := p
    cases hk : isKnown r with
    | false => exact ih.unknown hk
    | true =>
      simp only [Bool.not_true, Bool.false_eq_true, if_false]
      split
      · -- the catalog scope
        rename_i hreg
        obtain rfl : r = catalog := by
          rcases (isKnown_iff r).mp hk with h | ⟨h, _⟩
          · exact h
          · exact absurd (h.symm.trans hreg) tyRepository_ne_tyRegistry
        refine ih.cons entFor_catalog fun hlb e he => ?_
        obtain ⟨x, hx, hxk, hxe⟩ := ih.key e (List.mem_of_mem_head? he)
        obtain ⟨h1, h2, _⟩ := ekey_of_known_repo hxk (lt_ne' (hlb x hx)).symm
        rw [← hxe, h1]; exact h2
      · -- a known repository scope
        rename_i hreg
        have hf := entFor_entOf hk hreg
        cases es with
        | nil => exact ih.cons hf fun _ => nofun
        | cons e es =>
          dsimp only
          split
          next hname => exact ih.merge hf hname
          next hname => exact ih.cons hf fun _ e' he' => by cases he'; exact hname

theorem newScope_eq (l : List RS) :
    newScope l = ⟨[], false, (build (sortU l)).1, sortU (build (sortU l)).2⟩ := by
  rcases h : build (sortU l) with ⟨es, os⟩
  simp [newScope, h]

theorem newScope_unlimited (l : List RS) : (newScope l).unlimited = false := by
  rw [newScope_eq]

theorem newScope_wf (l : List RS) : WF (newScope l) := by
  rw [newScope_eq]
  have inv := build_inv (sortU l)
  constructor
  · exact (strictAsc_iff_pairwise _).mpr (inv.sorted (sortU_asc l))
  · exact inv.ok
  · exact sortU_strictAsc _
  · intro r hr
    exact inv.unk r ((mem_sortU _ _).mp hr)
  · intro h; cases h

theorem mem_newScope (r : RS) (l : List RS) : Mem r (newScope l) ↔ r ∈ l := by
  rw [Mem_iff (newScope_unlimited l), newScope_eq]
  simp only [mem_sortU]
  rw [(build_inv (sortU l)).mem r, mem_sortU]

theorem WF.with_original {s : Scope} (h : WF s) (o : Bytes) : WF { s with original := o } :=
  ⟨h.repos_sorted, h.repos_ok, h.others_sorted, h.others_unknown, h.unlimited_empty⟩

theorem mem_with_original {r : RS} {s : Scope} {o : Bytes} :
    Mem r { s with original := o } ↔ Mem r s := Iff.rfl

theorem parseScope_wf (s : Bytes) : WF (parseScope s) :=
  (newScope_wf _).with_original s

theorem parseScope_unlimited (s : Bytes) : (parseScope s).unlimited = false :=
  newScope_unlimited ((fields s).flatMap parseField)

/-- `ParseScope` keeps the text only for printing: the scope denotes what `NewScope` of
the parsed fields denotes. -/
theorem mem_parseScope (r : RS) (s : Bytes) :
    Mem r (parseScope s) ↔ ∃ w ∈ fields s, r ∈ parseField w :=
  mem_with_original.trans ((mem_newScope r _).trans List.mem_flatMap)

theorem toStr_parseScope (s : Bytes) : toStr (parseScope s) = s := by
  unfold toStr
  rw [parseScope_unlimited]
  simp only [Bool.false_eq_true, if_false]
  by_cases hs : s = []
  · subst hs
    decide
  · have : (parseScope s).original = s := by simp [parseScope]
    simp [this, hs]

theorem forall_ekey_expand {P : Bytes → Prop} {l : List Ent} (h : ∀ e ∈ l, P e.name) :
    ∀ x ∈ expand l, P (ekey x) := by
  intro x hx
  obtain ⟨e, he, hxe⟩ := (mem_expand x l).mp hx
  exact ekey_of_mem_expandEnt hxe ▸ h e he

theorem mem_expand_of_name {l : List Ent} (hs : NameAsc l) {e : Ent} (he : e ∈ l) {x : RS}
    (hk : ekey x = e.name) : x ∈ expand l ↔ x ∈ expandEnt e := by
  refine ⟨fun hx => ?_, fun hx => (mem_expand x l).mpr ⟨e, he, hx⟩⟩
  obtain ⟨e', he', hxe⟩ := (mem_expand x l).mp hx
  have hn : e'.name = e.name := (ekey_of_mem_expandEnt hxe).symm.trans hk
  have : ∀ a ∈ l, ∀ b ∈ l, a.name = b.name → a = b :=
    List.Pairwise.forall_of_forall_of_flip (fun _ _ _ => rfl)
      (hs.imp fun hlt hn => absurd hn (lt_ne' hlt))
      (hs.imp fun hlt hn => absurd hn.symm (lt_ne' hlt))
  exact this e' he' e he hn ▸ hxe

theorem mem_expand_cons_of_ne {x : RS} {e : Ent} {l : List Ent} (h : ekey x ≠ e.name) :
    x ∈ expand (e :: l) ↔ x ∈ expand l := by
  rw [expand_cons, List.mem_append]
  exact or_iff_right fun hx => h (ekey_of_mem_expandEnt hx)

theorem holds_iff_mem (s : Scope) (h : WF s) (hl : s.unlimited = false) (r : RS) :
    holds s r = true ↔ Mem r s := by
  rw [Mem_iff hl]
  unfold holds
  rw [hl]
  simp only [Bool.false_eq_true, if_false]
  by_cases hc : r = catalog
  · subst hc
    simp only [if_true, List.any_eq_true, decide_eq_true_eq]
    constructor
    · rintro ⟨e, he, hn⟩
      left
      exact (mem_expand _ _).mpr ⟨e, he, (mem_expandEnt _ _).mpr (Or.inl ⟨hn, rfl⟩)⟩
    · rintro (hm | hm)
      · obtain ⟨e, he, hx⟩ := (mem_expand _ _).mp hm
        exact ⟨e, he, (ekey_of_mem_expandEnt hx).symm⟩
      · exact absurd hm (not_mem_others_of_known h isKnown_catalog)
  · rw [if_neg hc]
    split
    · rename_i hrepo
      simp only [Bool.and_eq_true, decide_eq_true_eq, Bool.or_eq_true, ne_eq] at hrepo
      obtain ⟨⟨ht, hn⟩, ha⟩ := hrepo
      obtain ⟨t, n, a⟩ := r
      simp only at ht hn ha; subst ht
      have hk : isKnown (tyRepository, n, a) = true := (isKnown_iff _).mpr (Or.inr ⟨rfl, hn, ha⟩)
      have hkey : ekey (tyRepository, n, a) = n := if_neg tyRepository_ne_tyRegistry
      simp only [not_mem_others_of_known h hk, or_false]
      split
      · rename_i e hfind
        have hen : e.name = n := by simpa using List.find?_some hfind
        rw [mem_expand_of_name h.nameAsc (List.mem_of_find?_eq_some hfind) (hkey.trans hen.symm),
          mem_expandEnt]
        subst hen
        rcases ha with rfl | rfl
        · simp [hn, catalog, tyRepository_ne_tyRegistry, actPull_ne_actPush]
        · simp [hn, catalog, tyRepository_ne_tyRegistry, actPull_ne_actPush.symm]
      · rename_i hfind
        rw [List.find?_eq_none] at hfind
        simp only [Bool.false_eq_true, false_iff]
        intro hm
        obtain ⟨e', he', hx⟩ := (mem_expand _ _).mp hm
        exact hfind e' he' (by simpa using (ekey_of_mem_expandEnt hx).symm.trans hkey)
    · rename_i hrepo
      rw [List.contains_iff_mem]
      refine ⟨Or.inr, fun hm => hm.resolve_left fun hm => ?_⟩
      rcases (isKnown_iff r).mp (isKnown_of_mem_expand hm) with h1 | ⟨h1, h2, h3⟩
      · exact hc h1
      · apply hrepo
        simp [h1, h2, h3]

theorem length_expandEnt {e : Ent} (h : EntOk e) : (expandEnt e).length = entCount e := by
  unfold EntOk at h
  unfold expandEnt entCount
  by_cases hn : e.name = []
  · simp [hn] at h ⊢
    simp [h.1, h.2]
  · cases hp : e.pull <;> cases hq : e.push <;> simp [hn]

theorem length_expand {es : List Ent} (h : ∀ e ∈ es, EntOk e) :
    (expand es).length = (es.map entCount).sum := by
  induction es with
  | nil => rfl
  | cons e es ih =>
    rw [List.forall_mem_cons] at h
    rw [expand_cons, List.length_append, length_expandEnt h.1, ih h.2, List.map_cons, List.sum_cons]

theorem len_eq (s : Scope) (h : WF s) (hl : s.unlimited = false) :
    len s = .ok (iter s).length := by
  simp only [len, iter, hl, Bool.false_eq_true, if_false, length_mergeIter,
    length_expand h.repos_ok]
  rw [Nat.add_comm]

theorem mem_unionOthers (x : RS) (l1 l2 : List RS) :
    x ∈ unionOthers l1 l2 ↔ x ∈ l1 ∨ x ∈ l2 := by
  fun_induction unionOthers l1 l2 with
  | case1 l2 => simp
  | case2 l1 => simp
  | case3 a1 r1 a2 r2 heq ih =>
    obtain rfl := Std.LawfulEqOrd.eq_of_compare heq
    simp only [List.mem_cons, ih]
    exact or_or_distrib_left
  | case4 a1 r1 a2 r2 hlt ih =>
    simp only [List.mem_cons, ih]
    exact or_assoc.symm
  | case5 a1 r1 a2 r2 hgt ih =>
    simp only [List.mem_cons, ih]
    exact or_left_comm

theorem unionOthers_forall {P : RS → Prop} {l1 l2 : List RS} (h1 : ∀ x ∈ l1, P x)
    (h2 : ∀ x ∈ l2, P x) : ∀ x ∈ unionOthers l1 l2, P x :=
  fun x hx => ((mem_unionOthers x l1 l2).mp hx).elim (h1 x) (h2 x)

theorem unionOthers_asc {l1 l2 : List RS} (h1 : Asc l1) (h2 : Asc l2) :
    Asc (unionOthers l1 l2) := by
  fun_induction unionOthers l1 l2 with
  | case1 l2 => exact h2
  | case2 l1 => exact h1
  | case3 a1 r1 a2 r2 heq ih =>
    obtain rfl := Std.LawfulEqOrd.eq_of_compare heq
    have t1 := List.pairwise_cons.mp h1
    have t2 := List.pairwise_cons.mp h2
    exact List.pairwise_cons.mpr ⟨unionOthers_forall t1.1 t2.1, ih t1.2 t2.2⟩
  | case4 a1 r1 a2 r2 hlt ih =>
    have t1 := List.pairwise_cons.mp h1
    exact List.pairwise_cons.mpr ⟨unionOthers_forall t1.1 (lt_of_lt_head hlt h2), ih t1.2 h2⟩
  | case5 a1 r1 a2 r2 hgt ih =>
    have t2 := List.pairwise_cons.mp h2
    exact List.pairwise_cons.mpr
      ⟨unionOthers_forall (lt_of_lt_head (Std.OrientedCmp.gt_iff_lt.mp hgt) h1) t2.1, ih h1 t2.2⟩

theorem mem_expand_unionRepos (x : RS) (l1 l2 : List Ent) :
    x ∈ expand (unionRepos l1 l2) ↔ x ∈ expand l1 ∨ x ∈ expand l2 := by
  fun_induction unionRepos l1 l2 with
  | case1 l2 => simp [expand]
  | case2 l1 => simp [expand]
  | case3 e1 r1 e2 r2 heq ih =>
    simp only [expand_cons, List.mem_append, ih,
      mem_expandEnt_orEnt (Std.LawfulEqOrd.eq_of_compare heq)]
    exact or_or_or_comm
  | case4 e1 r1 e2 r2 hlt ih =>
    simp only [expand_cons, List.mem_append, ih]
    exact or_assoc.symm
  | case5 e1 r1 e2 r2 hgt ih =>
    simp only [expand_cons, List.mem_append, ih]
    exact or_left_comm

theorem unionRepos_forall {P : Ent → Prop} {l1 l2 : List Ent}
    (hor : ∀ e1 e2, e1.name = e2.name → P e1 → P e2 → P (orEnt e1 e2))
    (h1 : ∀ e ∈ l1, P e) (h2 : ∀ e ∈ l2, P e) : ∀ e ∈ unionRepos l1 l2, P e := by
  fun_induction unionRepos l1 l2 with
  | case1 l2 => exact h2
  | case2 l1 => exact h1
  | case3 e1 r1 e2 r2 heq ih =>
    rw [List.forall_mem_cons] at h1 h2 ⊢
    exact ⟨hor _ _ (Std.LawfulEqOrd.eq_of_compare heq) h1.1 h2.1, ih h1.2 h2.2⟩
  | case4 e1 r1 e2 r2 hlt ih =>
    rw [List.forall_mem_cons] at h1 ⊢
    exact ⟨h1.1, ih h1.2 h2⟩
  | case5 e1 r1 e2 r2 hgt ih =>
    rw [List.forall_mem_cons] at h2 ⊢
    exact ⟨h2.1, ih h1 h2.2⟩

theorem unionRepos_nameAsc {l1 l2 : List Ent} (h1 : NameAsc l1) (h2 : NameAsc l2) :
    NameAsc (unionRepos l1 l2) := by
  fun_induction unionRepos l1 l2 with
  | case1 l2 => exact h2
  | case2 l1 => exact h1
  | case3 e1 r1 e2 r2 heq ih =>
    have hn := Std.LawfulEqOrd.eq_of_compare heq
    have t1 := List.pairwise_cons.mp h1
    have t2 := List.pairwise_cons.mp h2
    exact List.pairwise_cons.mpr
      ⟨unionRepos_forall (fun _ _ _ h _ => h) t1.1 (hn ▸ t2.1), ih t1.2 t2.2⟩
  | case4 e1 r1 e2 r2 hlt ih =>
    have t1 := List.pairwise_cons.mp h1
    exact List.pairwise_cons.mpr
      ⟨unionRepos_forall (fun _ _ _ h _ => h) t1.1 (lt_of_lt_head hlt h2), ih t1.2 h2⟩
  | case5 e1 r1 e2 r2 hgt ih =>
    have t2 := List.pairwise_cons.mp h2
    exact List.pairwise_cons.mpr
      ⟨unionRepos_forall (fun _ _ _ h _ => h)
        (lt_of_lt_head (Std.OrientedCmp.gt_iff_lt.mp hgt) h1) t2.1, ih h1 t2.2⟩

/-- The loop of `Contains` may pass over an element of `l1` that is below all of `l2`. -/
theorem forall_mem_cons_of_lt {a : RS} {l1 l2 : List RS} (h : ∀ x ∈ l2, compare a x = .lt) :
    (∀ x ∈ l2, x ∈ a :: l1) ↔ ∀ x ∈ l2, x ∈ l1 :=
  ⟨fun hall x hx => (List.mem_cons.mp (hall x hx)).resolve_left (lt_ne' (h x hx)).symm,
   fun hall x hx => List.mem_cons_of_mem _ (hall x hx)⟩

theorem containsOthers_iff {l1 l2 : List RS} (h1 : Asc l1) (h2 : Asc l2) :
    containsOthers l1 l2 = true ↔ ∀ x ∈ l2, x ∈ l1 := by
  fun_induction containsOthers l1 l2 with
  | case1 t => simp
  | case2 a r =>
    simp only [Bool.false_eq_true, false_iff]
    exact fun hall => List.not_mem_nil (hall a List.mem_cons_self)
  | case3 a1 r1 a2 r2 hgt =>
    have hlb := lt_of_lt_head (Std.OrientedCmp.gt_iff_lt.mp hgt) h1
    simp only [Bool.false_eq_true, false_iff]
    exact fun hall => lt_irrefl' (hlb a2 (hall a2 List.mem_cons_self))
  | case4 a1 r1 a2 r2 heq ih =>
    obtain rfl := Std.LawfulEqOrd.eq_of_compare heq
    rw [ih h1.of_cons h2.of_cons, List.forall_mem_cons,
      forall_mem_cons_of_lt (List.pairwise_cons.mp h2).1]
    exact (and_iff_right List.mem_cons_self).symm
  | case5 a1 r1 a2 r2 hlt ih =>
    rw [ih h1.of_cons h2, forall_mem_cons_of_lt (lt_of_lt_head hlt h2)]

theorem asc_ext {l1 l2 : List RS} (h1 : Asc l1) (h2 : Asc l2) (h : ∀ x, x ∈ l1 ↔ x ∈ l2) :
    l1 = l2 :=
  List.Perm.eq_of_pairwise (le := fun a b => compare a b = .lt)
    (fun _ _ _ _ hab hba => absurd hba (Std.OrientedCmp.not_lt_of_lt hab)) h1 h2
    ((List.perm_ext_iff_of_nodup (h1.imp lt_ne') (h2.imp lt_ne')).mpr h)

theorem expandEnt_ne_nil {e : Ent} (h : EntOk e) : expandEnt e ≠ [] := by
  unfold EntOk at h
  unfold expandEnt
  by_cases hn : e.name = []
  · simp [hn]
  · rcases (if_neg hn ▸ h) with h | h <;> simp [hn, h]

/-- `covers` is the product order on the two action bits. -/
theorem covers_iff_imp (e1 e2 : Ent) :
    covers e1 e2 = true ↔
      (e2.pull = true → e1.pull = true) ∧ (e2.push = true → e1.push = true) := by
  simp [covers, Decidable.imp_iff_not_or]

theorem covers_iff {e1 e2 : Ent} (hn : e1.name = e2.name) (h1 : EntOk e1) (h2 : EntOk e2) :
    covers e1 e2 = true ↔ ∀ x ∈ expandEnt e2, x ∈ expandEnt e1 := by
  unfold EntOk at h1 h2
  rw [covers_iff_imp]
  unfold expandEnt
  rw [← hn] at h2 ⊢
  by_cases h : e1.name = []
  · simp [h] at h1 h2
    simp [h, h1, h2]
  · simp [h, or_imp, forall_and, actPull_ne_actPush, actPull_ne_actPush.symm]

theorem covers_antisymm {e1 e2 : Ent} (hn : e1.name = e2.name)
    (h12 : covers e1 e2 = true) (h21 : covers e2 e1 = true) : e1 = e2 := by
  rw [covers_iff_imp] at h12 h21
  obtain ⟨n1, p1, q1⟩ := e1
  obtain ⟨n2, p2, q2⟩ := e2
  simp only at hn h12 h21
  rw [hn, Bool.eq_iff_iff.mpr ⟨h21.1, h12.1⟩, Bool.eq_iff_iff.mpr ⟨h21.2, h12.2⟩]

/-- The loop of `Contains` may pass over an entry of `repositories` named below all keys of `xs`. -/
theorem forall_mem_expand_cons_of_lt {e : Ent} {l1 : List Ent} {xs : List RS}
    (h : ∀ x ∈ xs, compare e.name (ekey x) = .lt) :
    (∀ x ∈ xs, x ∈ expand (e :: l1)) ↔ ∀ x ∈ xs, x ∈ expand l1 :=
  forall₂_congr fun x hx => mem_expand_cons_of_ne (lt_ne' (h x hx)).symm

/-- Lists headed by entries of one name: the heads are compared by `covers`. -/
theorem forall_mem_expand_cons_cons {e1 e2 : Ent} {r1 r2 : List Ent} (h1 : NameAsc (e1 :: r1))
    (h2 : NameAsc (e2 :: r2)) (ok1 : EntOk e1) (ok2 : EntOk e2) (hn : e1.name = e2.name) :
    (∀ x ∈ expand (e2 :: r2), x ∈ expand (e1 :: r1)) ↔
      covers e1 e2 = true ∧ ∀ x ∈ expand r2, x ∈ expand r1 := by
  rw [expand_cons e2 r2, List.forall_mem_append, covers_iff hn ok1 ok2,
    forall_mem_expand_cons_of_lt
      (forall_ekey_expand (P := fun n => compare e1.name n = .lt) (hn ▸ (List.pairwise_cons.mp h2).1))]
  exact and_congr_left' (forall₂_congr fun x hx =>
    mem_expand_of_name h1 List.mem_cons_self ((ekey_of_mem_expandEnt hx).trans hn.symm))

theorem containsRepos_iff {l1 l2 : List Ent} (h1 : NameAsc l1) (h2 : NameAsc l2)
    (ok1 : ∀ e ∈ l1, EntOk e) (ok2 : ∀ e ∈ l2, EntOk e) :
    containsRepos l1 l2 = true ↔ ∀ x ∈ expand l2, x ∈ expand l1 := by
  fun_induction containsRepos l1 l2 with
  | case1 t => simp [expand]
  | case2 e r =>
    obtain ⟨x, hx⟩ := List.exists_mem_of_ne_nil _ (expandEnt_ne_nil (ok2 e List.mem_cons_self))
    simp only [Bool.false_eq_true, false_iff]
    exact fun hall => List.not_mem_nil (hall x (expand_cons e r ▸ List.mem_append_left _ hx))
  | case3 e1 r1 e2 r2 hgt =>
    obtain ⟨x, hx⟩ := List.exists_mem_of_ne_nil _ (expandEnt_ne_nil (ok2 e2 List.mem_cons_self))
    have hlb := forall_ekey_expand (P := fun n => compare e2.name n = .lt)
      (lt_of_lt_head (f := Ent.name) (Std.OrientedCmp.gt_iff_lt.mp hgt) h1)
    simp only [Bool.false_eq_true, false_iff]
    intro hall
    have := hlb x (hall x (expand_cons e2 r2 ▸ List.mem_append_left _ hx))
    rw [ekey_of_mem_expandEnt hx] at this
    exact lt_irrefl' this
  | case4 e1 r1 e2 r2 heq hcov ih =>
    rw [forall_mem_expand_cons_cons h1 h2 (ok1 _ List.mem_cons_self) (ok2 _ List.mem_cons_self)
      (Std.LawfulEqOrd.eq_of_compare heq), ih h1.of_cons h2.of_cons
      (List.forall_mem_cons.mp ok1).2 (List.forall_mem_cons.mp ok2).2]
    exact (and_iff_right hcov).symm
  | case5 e1 r1 e2 r2 heq hcov =>
    rw [forall_mem_expand_cons_cons h1 h2 (ok1 _ List.mem_cons_self) (ok2 _ List.mem_cons_self)
      (Std.LawfulEqOrd.eq_of_compare heq)]
    exact ⟨nofun, fun h => absurd h.1 hcov⟩
  | case6 e1 r1 e2 r2 hlt ih =>
    rw [ih h1.of_cons h2 (List.forall_mem_cons.mp ok1).2 ok2, forall_mem_expand_cons_of_lt
      (forall_ekey_expand (P := fun n => compare e1.name n = .lt)
        (lt_of_lt_head (f := Ent.name) hlt h2))]

theorem containsRepos_antisymm {l1 l2 : List Ent}
    (h12 : containsRepos l1 l2 = true) (h21 : containsRepos l2 l1 = true) : l1 = l2 := by
  fun_induction containsRepos l1 l2 with
  | case1 t =>
    cases t with
    | nil => rfl
    | cons a r => simp [containsRepos] at h21
  | case2 a r => simp at h12
  | case3 e1 r1 e2 r2 hgt => simp at h12
  | case4 e1 r1 e2 r2 heq hcov ih =>
    have hn := Std.LawfulEqOrd.eq_of_compare heq
    simp only [containsRepos, Std.OrientedCmp.eq_symm heq] at h21
    split at h21
    · rename_i hcov'
      rw [ih h12 h21, covers_antisymm hn hcov hcov']
    · simp at h21
  | case5 e1 r1 e2 r2 heq hcov => simp at h12
  | case6 e1 r1 e2 r2 hlt ih =>
    simp [containsRepos, Std.OrientedCmp.gt_iff_lt.mpr hlt] at h21

theorem expand_ext {l1 l2 : List Ent} (h1 : NameAsc l1) (h2 : NameAsc l2)
    (ok1 : ∀ e ∈ l1, EntOk e) (ok2 : ∀ e ∈ l2, EntOk e)
    (h : ∀ x, x ∈ expand l1 ↔ x ∈ expand l2) : l1 = l2 :=
  containsRepos_antisymm ((containsRepos_iff h1 h2 ok1 ok2).mpr fun x hx => (h x).mpr hx)
    ((containsRepos_iff h2 h1 ok2 ok1).mpr fun x hx => (h x).mp hx)

theorem wf_unlimitedScope : WF unlimitedScope := by
  constructor <;> simp [unlimitedScope, StrictAsc]

theorem wf_empty : WF empty := by
  constructor <;> simp [empty, StrictAsc]

theorem equal_iff_fields (a b : Scope) :
    equal a b = true ↔ a.unlimited = b.unlimited ∧ a.repos = b.repos ∧ a.others = b.others := by
  simp [equal, and_assoc]

theorem mem_of_equal {a b : Scope} (h : equal a b = true) (r : RS) : Mem r a ↔ Mem r b := by
  obtain ⟨h1, h2, h3⟩ := (equal_iff_fields a b).mp h
  unfold Mem iter
  rw [h1, h2, h3]

theorem isEmpty_iff (s : Scope) :
    isEmpty s = true ↔ s.repos = [] ∧ s.others = [] ∧ s.unlimited = false := by
  simp [isEmpty, and_assoc]

/-- The scope `Union` builds when it cannot return the receiver. -/
def unionRaw (a b : Scope) : Scope :=
  ⟨[], false, unionRepos a.repos b.repos, unionOthers a.others b.others⟩

theorem union_eq (a b : Scope) :
    union a b =
      if a.unlimited || b.unlimited then unlimitedScope
      else if isEmpty b || equal a b then a
      else if equal (unionRaw a b) a then a else unionRaw a b := rfl

theorem wf_unionRaw {a b : Scope} (ha : WF a) (hb : WF b) : WF (unionRaw a b) where
  repos_sorted := (strictAsc_iff_pairwise _).mpr
    (List.pairwise_map.mpr (unionRepos_nameAsc ha.nameAsc hb.nameAsc))
  repos_ok := unionRepos_forall (fun _ _ => entOk_orEnt) ha.repos_ok hb.repos_ok
  others_sorted := (strictAsc_iff_pairwise _).mpr (unionOthers_asc ha.asc hb.asc)
  others_unknown := unionOthers_forall ha.others_unknown hb.others_unknown
  unlimited_empty := nofun

theorem mem_unionRaw {a b : Scope} (la : a.unlimited = false) (lb : b.unlimited = false) (r : RS) :
    Mem r (unionRaw a b) ↔ Mem r a ∨ Mem r b := by
  rw [Mem_iff la, Mem_iff lb, Mem_iff (s := unionRaw a b) rfl]
  simp only [unionRaw, mem_expand_unionRepos, mem_unionOthers]
  exact or_or_or_comm

theorem union_wf (a b : Scope) (ha : WF a) (hb : WF b) : WF (union a b) := by
  rw [union_eq]
  split
  · exact wf_unlimitedScope
  · split
    · exact ha
    · split
      · exact ha
      · exact wf_unionRaw ha hb

theorem mem_union {a b : Scope} (la : a.unlimited = false) (lb : b.unlimited = false) (r : RS) :
    Mem r (union a b) ↔ Mem r a ∨ Mem r b := by
  rw [union_eq]
  simp only [la, lb, Bool.or_self, Bool.false_eq_true, if_false]
  split
  · rename_i h
    rcases Bool.or_eq_true _ _ ▸ h with h | h
    · obtain ⟨h1, h2, _⟩ := (isEmpty_iff b).mp h
      have : ¬ Mem r b := by
        rw [Mem_iff lb, h1, h2]; simp [expand]
      exact (or_iff_left this).symm
    · exact (or_iff_left_of_imp (mem_of_equal h r).mpr).symm
  · split
    · exact (mem_of_equal ‹_› r).symm.trans (mem_unionRaw la lb r)
    · exact mem_unionRaw la lb r

theorem union_unlimited_eq (a b : Scope) : (union a b).unlimited = (a.unlimited || b.unlimited) := by
  rw [union_eq]
  cases hu : (a.unlimited || b.unlimited)
  · -- both limited: the union is `a` itself or built afresh as limited
    have ha : a.unlimited = false := (Bool.or_eq_false_iff.mp hu).1
    rw [if_neg Bool.false_ne_true]
    split
    · exact ha
    · split
      · exact ha
      · rfl
  · rfl

theorem union_limited {a b : Scope} (ha : a.unlimited = false) (hb : b.unlimited = false) :
    (union a b).unlimited = false := by
  rw [union_unlimited_eq, ha, hb]; rfl

theorem subset_split {a b : Scope} (ha : WF a) (hb : WF b)
    (la : a.unlimited = false) (lb : b.unlimited = false) :
    (∀ r, Mem r b → Mem r a) ↔
      (∀ x ∈ expand b.repos, x ∈ expand a.repos) ∧ (∀ x ∈ b.others, x ∈ a.others) := by
  constructor
  · intro h
    constructor
    · intro x hx
      exact ((Mem_iff la x).mp (h x ((Mem_iff lb x).mpr (Or.inl hx)))).resolve_right
        (not_mem_others_of_known ha (isKnown_of_mem_expand hx))
    · intro x hx
      exact ((Mem_iff la x).mp (h x ((Mem_iff lb x).mpr (Or.inr hx)))).resolve_left
        fun h' => not_mem_others_of_known hb (isKnown_of_mem_expand h') hx
  · rintro ⟨h1, h2⟩ r hr
    exact (Mem_iff la r).mpr (((Mem_iff lb r).mp hr).imp (h1 r) (h2 r))

theorem contains_iff_parts {a b : Scope} (la : a.unlimited = false) (lb : b.unlimited = false) :
    contains a b = true ↔
      containsRepos a.repos b.repos = true ∧ containsOthers a.others b.others = true := by
  simp [contains, la, lb]

theorem contains_iff_subset (a b : Scope) (ha : WF a) (hb : WF b)
    (la : a.unlimited = false) (lb : b.unlimited = false) :
    contains a b = true ↔ ∀ r, Mem r b → Mem r a := by
  rw [contains_iff_parts la lb, subset_split ha hb la lb,
    containsRepos_iff ha.nameAsc hb.nameAsc ha.repos_ok hb.repos_ok,
    containsOthers_iff ha.asc hb.asc]

theorem contains_refl (a : Scope) (ha : WF a) : contains a a = true := by
  cases hu : a.unlimited with
  | true => simp [contains, hu]
  | false => exact (contains_iff_subset a a ha ha hu hu).mpr (fun _ h => h)

theorem contains_union_left (a b : Scope) (ha : WF a) (hb : WF b) : contains (union a b) a = true := by
  cases hu : (union a b).unlimited with
  | true => simp [contains, hu]
  | false =>
    have hu' := hu
    rw [union_unlimited_eq] at hu'
    obtain ⟨hal, hbl⟩ := Bool.or_eq_false_iff.mp hu'
    exact (contains_iff_subset _ _ (union_wf a b ha hb) ha hu hal).mpr
      (fun r h => (mem_union hal hbl r).mpr (Or.inl h))

theorem equal_iff (a b : Scope) (ha : WF a) (hb : WF b) :
    equal a b = true ↔ (a.unlimited = b.unlimited ∧ ∀ r, Mem r a ↔ Mem r b) := by
  refine ⟨fun h => ⟨((equal_iff_fields a b).mp h).1, mem_of_equal h⟩, ?_⟩
  rw [equal_iff_fields]
  rintro ⟨h1, h2⟩
  refine ⟨h1, ?_⟩
  cases la : a.unlimited with
  | true =>
    have lb : b.unlimited = true := by rw [← h1, la]
    obtain ⟨a1, a2⟩ := ha.unlimited_empty la
    obtain ⟨b1, b2⟩ := hb.unlimited_empty lb
    rw [a1, a2, b1, b2]; exact ⟨rfl, rfl⟩
  | false =>
    have lb : b.unlimited = false := by rw [← h1, la]
    have s1 := (subset_split ha hb la lb).mp fun r hr => (h2 r).mpr hr
    have s2 := (subset_split hb ha lb la).mp fun r hr => (h2 r).mp hr
    exact ⟨expand_ext ha.nameAsc hb.nameAsc ha.repos_ok hb.repos_ok fun x => ⟨s2.1 x, s1.1 x⟩,
      asc_ext ha.asc hb.asc fun x => ⟨s2.2 x, s1.2 x⟩⟩

/-- The merged scope has the members of the receiver, hence `Equal` finds it equal. -/
theorem union_noop_returns_receiver (a b : Scope) (ha : WF a) (hb : WF b)
    (la : a.unlimited = false) (lb : b.unlimited = false)
    (hsub : ∀ r, Mem r b → Mem r a) : union a b = a := by
  have hraw : equal (unionRaw a b) a = true :=
    (equal_iff _ a (wf_unionRaw ha hb) ha).mpr
      ⟨la.symm, fun r => (mem_unionRaw la lb r).trans (or_iff_left_of_imp (hsub r))⟩
  rw [union_eq]
  simp [la, lb, hraw]

theorem unlimited_holds (r : RS) : holds unlimitedScope r = true := by
  simp [holds, unlimitedScope]

theorem union_unlimited_left (s : Scope) : union unlimitedScope s = unlimitedScope := by
  simp [union_eq, unlimitedScope]

theorem union_unlimited_right (s : Scope) : union s unlimitedScope = unlimitedScope := by
  simp [union_eq, unlimitedScope]

theorem not_contains_unlimited (s : Scope) (hl : s.unlimited = false) :
    contains s unlimitedScope = false := by
  simp [contains, hl, unlimitedScope]

end OciModel.Scope
