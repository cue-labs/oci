/-
Lemmas about the handler execution model (`OciModel/SrvHandlers.lean`):
  * runs are monotone in the oracle (a static oracle that leaves a condition open admits
    every run of an environment that decides it);
  * the per-variable automaton `balanced` implies the counting statement `ClosedExactlyOnce`;
  * `argOk` is sound for requests classified by the router (`ParsedReq`);
  * Bool-to-Prop unfolding of the success check;
  * `tableOk`, which decides the three checkers on the runs under the open oracle where it can.
-/
import OciModel.SrvHandlers
import OciModel.ReqCodecLemmas

namespace OciModel.SrvHandlers
open OciModel.SrvIR OciModel.ReqCodec OciModel.Ref

/-! ### Monotonicity in the oracle -/

/-- `o1` decides at least what `o2` decides, the same way. -/
def Oracle.le (o1 o2 : Oracle) : Prop :=
  (∀ b ∈ o1.tag, b ∈ o2.tag) ∧ ∀ n, ∀ b ∈ o1.opt n, b ∈ o2.opt n

theorem condVals_mono {o1 o2 : Oracle} (h : o1.le o2) (e : Bool) (c : Cond) :
    ∀ b ∈ condVals o1 e c, b ∈ condVals o2 e c := by
  induction c with
  | errSet | unknown _ => intro b hb; exact hb
  | tagSet => exact h.1
  | opt n => exact h.2 n
  | not c ih =>
    intro b hb
    simp only [condVals, List.mem_map] at hb ⊢
    obtain ⟨x, hx, rfl⟩ := hb
    exact ⟨x, ih x hx, rfl⟩
  | or a b iha ihb | and a b iha ihb =>
    intro x hx
    simp only [condVals, List.mem_flatMap, List.mem_map] at hx ⊢
    obtain ⟨p, hp, q, hq, rfl⟩ := hx
    exact ⟨p, iha p hp, q, ihb q hq, rfl⟩

theorem stepAtom_mono {inv1 inv2 : String → St → List (St × Bool)}
    (hinv : ∀ f s x, x ∈ inv1 f s → x ∈ inv2 f s) (a : Atom) (s : St) :
    ∀ x ∈ stepAtom inv1 a s, x ∈ stepAtom inv2 a s := by
  cases a with
  | invoke f =>
    intro x hx
    simp only [stepAtom, List.mem_map] at hx ⊢
    obtain ⟨r, hr, rfl⟩ := hx
    exact ⟨r, hinv f s r hr, rfl⟩
  | _ => intro x hx; exact hx

theorem runP_mono {inv1 inv2 : String → St → List (St × Bool)} {o1 o2 : Oracle}
    (hinv : ∀ f s x, x ∈ inv1 f s → x ∈ inv2 f s) (ho : o1.le o2) (p : Prog) :
    ∀ s x, x ∈ runP inv1 o1 p s → x ∈ runP inv2 o2 p s := by
  induction p with
  | nil | ret _ | unknownShape _ => intro s x hx; exact hx
  | atom a k ih =>
    intro s x hx
    simp only [runP, List.mem_flatMap] at hx ⊢
    obtain ⟨s', hs', hx'⟩ := hx
    exact ⟨s', stepAtom_mono hinv a s s' hs', ih s' x hx'⟩
  | alt c p q k ihp ihq ihk =>
    intro s x hx
    simp only [runP, List.mem_flatMap] at hx ⊢
    obtain ⟨r, ⟨b, hb, hr⟩, hx'⟩ := hx
    refine ⟨r, ⟨b, condVals_mono ho s.err c b hb, ?_⟩, ?_⟩
    · cases b
      · simpa using ihq s r (by simpa using hr)
      · simpa using ihp s r (by simpa using hr)
    · cases hr2 : r.2 with
      | some e => simpa [hr2] using hx'
      | none =>
        simp only [hr2] at hx' ⊢
        exact ihk r.1 x hx'

theorem runF_mono (tbl : List (String × Prog)) {o1 o2 : Oracle} (ho : o1.le o2) (n : Nat) :
    ∀ f s x, x ∈ runF tbl o1 n f s → x ∈ runF tbl o2 n f s := by
  induction n with
  | zero => intro f s x hx; exact hx
  | succ n ih =>
    intro f s x hx
    simp only [runF] at hx ⊢
    cases hl : tbl.lookup f with
    | none => simpa [hl] using hx
    | some p =>
      simp only [hl, List.mem_map] at hx ⊢
      obtain ⟨r, hr, rfl⟩ := hx
      exact ⟨r, runP_mono ih ho p _ r hr, rfl⟩

theorem serve_mono (tbl : List (String × Prog)) (disp : List (String × String)) {o1 o2 : Oracle}
    (ho : o1.le o2) (k : Kind) : ∀ x ∈ serve tbl disp o1 k, x ∈ serve tbl disp o2 k :=
  fun x hx => runF_mono tbl ho depth _ _ x hx

theorem mem_both (b : Bool) : b ∈ both := by cases b <;> simp [both]

theorem envOracle_le_static (e : Env) (names : List String) :
    (envOracle e).le (staticOracle [e.tagSet] (names.map fun n => (n, e.opt n))) := by
  refine ⟨fun b hb => hb, fun n b hb => ?_⟩
  rw [List.mem_singleton.mp hb]
  show e.opt n ∈ match (names.map fun n => (n, e.opt n)).lookup n with | some b => [b] | none => both
  induction names with
  | nil => exact mem_both _
  | cons m ms ih =>
    simp only [List.map, List.lookup]
    cases he : n == m
    · exact ih
    · simp [eq_of_beq he]

theorem Oracle.le_open (o : Oracle) : o.le (staticOracle both []) :=
  ⟨fun b _ => mem_both b, fun _ b _ => mem_both b⟩

theorem mem_allKinds (k : Kind) : k ∈ allKinds := by cases k <;> decide

/-! ### `balanced` means closed exactly once -/

theorem acqs_cons (v : String) (e : Ev) (t : List Ev) : acqs v (e :: t) = acqs v [e] + acqs v t := by
  cases e <;> simp [acqs]

theorem closes_cons (v : String) (e : Ev) (t : List Ev) : closes v (e :: t) = closes v [e] + closes v t := by
  cases e <;> simp [closes]

/-- One event: the automaton's state accounts for the difference between acquisitions and closes. -/
theorem altOk_cons {v : String} {o : Bool} {e : Ev} {t : List Ev} (h : altOk v o (e :: t) = true) :
    ∃ o', altOk v o' t = true ∧ acqs v [e] + o.toNat = closes v [e] + o'.toNat := by
  cases e with
  | call c ok => exact ⟨o, h, rfl⟩
  | acq w =>
    by_cases hw : w = v
    · simp only [altOk, if_pos hw, Bool.and_eq_true, Bool.not_eq_true'] at h
      exact ⟨true, h.2, by simp [acqs, closes, hw, h.1]⟩
    · exact ⟨o, by simpa only [altOk, if_neg hw] using h, by simp [acqs, closes, hw]⟩
  | close w =>
    by_cases hw : w = v
    · simp only [altOk, if_pos hw, Bool.and_eq_true] at h
      exact ⟨false, h.2, by simp [acqs, closes, hw, h.1]⟩
    · exact ⟨o, by simpa only [altOk, if_neg hw] using h, by simp [acqs, closes, hw]⟩

theorem altOk_sound (v : String) : ∀ (t : List Ev) (o : Bool), altOk v o t = true →
    acqs v t + o.toNat = closes v t ∧
    ∀ pre, pre <+: t →
      closes v pre ≤ acqs v pre + o.toNat ∧ acqs v pre + o.toNat ≤ closes v pre + 1
  | [], o, h => by
    cases o
    · refine ⟨rfl, fun pre hp => ?_⟩
      rw [List.prefix_nil.mp hp]
      simp [acqs, closes]
    · cases h
  | e :: t, o, h => by
    obtain ⟨o', h', he⟩ := altOk_cons h
    obtain ⟨h1, h2⟩ := altOk_sound v t o' h'
    rw [acqs_cons, closes_cons]
    refine ⟨by omega, fun pre hp => ?_⟩
    rcases List.prefix_cons_iff.mp hp with rfl | ⟨t', rfl, ht'⟩
    · have := Bool.toNat_le o
      simp only [acqs, closes]
      omega
    · have := h2 t' ht'
      rw [acqs_cons v e t', closes_cons v e t']
      omega

theorem altOk_of_not_mem (v : String) (t : List Ev) (o : Bool) (h : v ∉ traceVars t) : altOk v o t = !o := by
  fun_induction altOk v o t <;> simp_all [traceVars]

theorem balanced_sound (t : List Ev) (h : balanced t = true) : ClosedExactlyOnce t := by
  intro v
  have hv : altOk v false t = true := by
    by_cases hm : v ∈ traceVars t
    · exact (List.all_eq_true.mp h) v hm
    · simpa using altOk_of_not_mem v t false hm
  simpa using altOk_sound v t false hv

/-! ### Arguments -/

theorem traceArgsOk_mem {mt : List (String × List (String × String))} {k : Kind} {tag : Bool} :
    ∀ t, traceArgsOk mt k tag t = true → ∀ c ok, Ev.call c ok ∈ t → callOk mt k tag c = true := by
  intro t
  induction t with
  | nil => intro _ c ok h; cases h
  | cons e t ih =>
    intro h c ok hm
    rcases List.mem_cons.mp hm with rfl | hm
    · exact (Bool.and_eq_true _ _ ▸ h).1
    · refine ih ?_ c ok hm
      cases e
      · exact (Bool.and_eq_true _ _ ▸ h).2
      all_goals exact h

section
variable (unb64 : Bytes → Option Bytes) (validUTF8 : Bytes → Bool)

theorem repoKind_valid {r : Request} (hp : ParsedReq unb64 validUTF8 r) (h : repoKind r.kind = true) :
    isRepo r.repo = true := by
  refine parsed_repo unb64 validUTF8 hp (fun hk => ?_) (fun hk => ?_)
  · rw [hk] at h
    cases h
  · rw [hk] at h
    cases h

theorem mountKind_valid {r : Request} (hp : ParsedReq unb64 validUTF8 r) (h : r.kind = .blobMount) :
    isRepo r.fromRepo = true := by
  obtain ⟨kind, repo, digest, tag, fromRepo, uploadID, listN, listLast⟩ := r
  simp only at h
  subst h
  simp only [ParsedReq] at hp
  exact hp.2.2.1

theorem digestKind_valid {r : Request} (hp : ParsedReq unb64 validUTF8 r)
    (h : digestKind r.kind (decide (r.tag ≠ [])) = true) : isDigest r.digest = true := by
  obtain ⟨kind, repo, digest, tag, fromRepo, uploadID, listN, listLast⟩ := r
  cases kind
  case blobGet | blobHead | blobDelete | blobUploadBlob | blobMount | referrersList => exact hp.2.1
  case blobCompleteUpload => exact hp.2.2.2.1
  case manifestGet | manifestHead | manifestPut | manifestDelete =>
    -- named by digest, or by a tag, which `h` says is empty
    rcases hp.2 with h' | h'
    · exact h'.1
    · have ht : tag = [] := by simpa [digestKind] using h
      exact absurd (show isTag [] = true from ht ▸ h'.1) (by decide)
  all_goals exact absurd h Bool.false_ne_true

theorem uploadKind_valid {r : Request} (hp : ParsedReq unb64 validUTF8 r) (h : uploadKind r.kind = true) :
    validUTF8 r.uploadID = true := by
  refine (parsed_upload unb64 validUTF8 hp ?_).1
  revert h; cases r.kind <;> simp [uploadKind, Kind.isUpload]

theorem fieldVal_repo (r : Request) : fieldVal r "Repo" = some r.repo := by simp [fieldVal]
theorem fieldVal_tag (r : Request) : fieldVal r "Tag" = some r.tag := by simp [fieldVal]
theorem fieldVal_digest (r : Request) : fieldVal r "Digest" = some r.digest := by simp [fieldVal]
theorem fieldVal_fromRepo (r : Request) : fieldVal r "FromRepo" = some r.fromRepo := by simp [fieldVal]
theorem fieldVal_uploadID (r : Request) : fieldVal r "UploadID" = some r.uploadID := by simp [fieldVal]

theorem argValid_field {r : Request} {role : Role} {f : String} {x : Bytes}
    (hf : fieldVal r f = some x) (hx : RoleValid validUTF8 role x) :
    ArgValid validUTF8 r role (.field f) :=
  Or.inr (by simp [provValues, hf, hx])

theorem argOk_sound {r : Request} (hp : ParsedReq unb64 validUTF8 r) (role : Role) (p : Prov)
    (h : argOk r.kind (decide (r.tag ≠ [])) role p = true) : ArgValid validUTF8 r role p := by
  have htag : RoleValid validUTF8 .tagOpt r.tag :=
    if ht : r.tag = [] then Or.inl ht else Or.inr (parsed_tag unb64 validUTF8 hp ht)
  have hdig {f : String} (role : Role) (hr : ∀ v, isDigest v = true → RoleValid validUTF8 role v)
      (h : (f == "Digest" && digestKind r.kind (decide (r.tag ≠ []))) = true) :
      ArgValid validUTF8 r role (.field f) := by
    simp only [Bool.and_eq_true, beq_iff_eq] at h
    exact h.1 ▸ argValid_field validUTF8 (fieldVal_digest r) (hr _ (digestKind_valid unb64 validUTF8 hp h.2))
  -- one goal per arm of `argOk`, in the order of its definition
  unfold argOk at h
  split at h
  · -- `.free`
    exact Or.inl rfl
  · -- `.repo`, a field
    simp only [Bool.or_eq_true, Bool.and_eq_true, beq_iff_eq] at h
    rcases h with ⟨rfl, hk⟩ | ⟨rfl, hk⟩
    · exact argValid_field validUTF8 (fieldVal_repo r) (repoKind_valid unb64 validUTF8 hp hk)
    · exact argValid_field validUTF8 (fieldVal_fromRepo r) (mountKind_valid unb64 validUTF8 hp hk)
  · -- `.digest`, a field
    exact hdig .digest (fun _ hv => hv) h
  · -- `.tag`, a field
    simp only [Bool.and_eq_true, beq_iff_eq, decide_eq_true_eq] at h
    exact h.1.1 ▸ argValid_field validUTF8 (fieldVal_tag r) (parsed_tag unb64 validUTF8 hp h.2)
  · -- `.tagOpt`, a field
    exact eq_of_beq h ▸ argValid_field validUTF8 (fieldVal_tag r) htag
  · -- `.tagOpt`, a field or the empty string
    exact eq_of_beq h ▸ Or.inr (by simpa [provValues, fieldVal_tag, RoleValid] using htag)
  · -- `.tagOpt`, a literal
    exact eq_of_beq h ▸ Or.inr (by simp [provValues, strBytes, RoleValid])
  · -- `.uploadID`, a field
    simp only [Bool.and_eq_true, beq_iff_eq] at h
    exact h.1 ▸ argValid_field validUTF8 (fieldVal_uploadID r) (uploadKind_valid unb64 validUTF8 hp h.2)
  · -- `.descDigest`, the digest of a descriptor built from a field
    exact hdig .descDigest (fun _ hv => hv) h
  · -- every other pair is refused
    cases h

theorem callOk_sound {mt : List (String × List (String × String))} {r : Request}
    (hp : ParsedReq unb64 validUTF8 r) (c : Call)
    (h : callOk mt r.kind (decide (r.tag ≠ [])) c = true) : CallValid validUTF8 mt r c := by
  unfold callOk at h
  cases hr : roles mt c.method with
  | none => simp [hr] at h
  | some rs =>
    simp only [hr, Bool.and_eq_true, beq_iff_eq, List.all_eq_true] at h
    exact ⟨rs, hr, h.1, fun x hx => argOk_sound unb64 validUTF8 hp x.1 x.2 (h.2 x hx)⟩

end

/-! ### Successes -/

/-- A run that returned nil with a 2xx status has one of the kind's success statuses and set every
header the protocol mandates for the kind (what `successOk` decides). -/
def SuccessOk (k : Kind) (tag omitD single : Bool) (f : St × Bool) : Prop :=
  f.2 = false → 200 ≤ f.1.finalStatus → f.1.finalStatus < 300 →
    f.1.finalStatus ∈ successStatus k single ∧
    ∀ h ∈ mandatory k f.1.finalStatus tag omitD single, h ∈ f.1.hdrs

theorem successOk_sound {k : Kind} {tag omitD single : Bool} {f : St × Bool}
    (h : successOk k tag omitD single f = true) : SuccessOk k tag omitD single f := by
  intro h1 h2 h3
  -- the checker passes a run that returned an error, or whose status is not 2xx, or that meets the demand
  have h' : f.2 = true ∨ f.1.finalStatus < 200 ∨ 300 ≤ f.1.finalStatus ∨
      (f.1.finalStatus ∈ successStatus k single ∧
        ∀ x ∈ mandatory k f.1.finalStatus tag omitD single, x ∈ f.1.hdrs) := by
    simpa [successOk, or_assoc] using h
  rcases h' with h | h | h | h
  · rw [h1] at h
    cases h
  · exact absurd h2 (Nat.not_le.mpr h)
  · exact absurd h3 (Nat.not_lt.mpr h)
  · exact h

/-! ### The three checkers on the runs under the open oracle

The checkers run every handler again under each of their oracles (1, 2 and 8 per kind). All those
runs are among the runs under the open oracle (`serve_mono`), so a property of every open run is a
property of the runs under any oracle. `allRuns` tries that first and falls back on the oracle
itself; `tableOk` is `releaseOk`, which runs under the open oracle anyway, and the other two
checkers with `allRuns` in place of the inner `all`. -/

/-- `p` holds of every run of kind `k` under `o`, decided on the runs under the open oracle where
that succeeds (every run under `o` is among them). -/
def allRuns (tbl : List (String × Prog)) (disp : List (String × String)) (k : Kind) (o : Oracle)
    (p : St × Bool → Bool) : Bool :=
  (serve tbl disp (staticOracle both []) k).all p || (serve tbl disp o k).all p

theorem allRuns_sound {tbl : List (String × Prog)} {disp : List (String × String)} {k : Kind} {o : Oracle}
    {p : St × Bool → Bool} (h : allRuns tbl disp k o p = true) : (serve tbl disp o k).all p = true :=
  (Bool.or_eq_true _ _ ▸ h).elim
    (fun h => List.all_eq_true.mpr fun f hf => List.all_eq_true.mp h f (serve_mono tbl disp o.le_open k f hf)) id

def tableOk (mt : List (String × List (String × String))) (tbl : List (String × Prog))
    (disp : List (String × String)) : Bool :=
  releaseOk tbl disp &&
  (allKinds.all fun k => [true, false].all fun tag =>
    allRuns tbl disp k (staticOracle [tag] []) fun f => !f.1.bad && traceArgsOk mt k tag f.1.trace) &&
  (allKinds.all fun k => [true, false].all fun tag => [true, false].all fun omitD => [true, false].all fun single =>
    allRuns tbl disp k (staticOracle [tag] [(optOmitDigest, omitD), (optSinglePost, single)]) fun f =>
      !f.1.bad && successOk k tag omitD single f)

theorem tableOk_sound {mt : List (String × List (String × String))} {tbl : List (String × Prog)}
    {disp : List (String × String)} (h : tableOk mt tbl disp = true) :
    releaseOk tbl disp = true ∧ argsOk mt tbl disp = true ∧ headersOk tbl disp = true := by
  simp only [tableOk, Bool.and_eq_true, List.all_eq_true] at h
  exact ⟨h.1.1,
    List.all_eq_true.mpr fun k hk => List.all_eq_true.mpr fun tag ht => allRuns_sound (h.1.2 k hk tag ht),
    List.all_eq_true.mpr fun k hk => List.all_eq_true.mpr fun tag ht => List.all_eq_true.mpr fun o ho =>
      List.all_eq_true.mpr fun s hs => allRuns_sound (h.2 k hk tag ht o ho s hs)⟩

end OciModel.SrvHandlers
