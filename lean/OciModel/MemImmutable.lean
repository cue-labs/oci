/-
Lemmas for the immutable-tags properties (C14) of the `ocimem` model: the digest invariant `Inv`;
`RepoStep`/`Eff`, what one operation does to one repository as far as these properties care, with
`step_eff` read off the footprint `step_touch` of `MemStep.lean`; `refersTo` against the inductive
reachability `Reach`, and that the fuel of `taggedRefersTo` is never a restriction (`Reach.bounded`);
what a `RepoStep` keeps in immutable mode; what single deletes and manifest pushes answer; retention
of what a tag reaches over histories (`ManOK`, `RepoStep.reach_retained`). `H` stays a parameter.
-/
import OciModel.MemStep

namespace OciModel.Mem

/-! ### Association lists -/

section alist
variable {β : Type}

theorem length_aerase_le (k : Bytes) (m : List (Bytes × β)) : (aerase k m).length ≤ m.length := by
  induction m with
  | nil => exact Nat.le_refl _
  | cons p rest ih =>
    obtain ⟨k', v⟩ := p
    rw [aerase_cons]
    split <;> simp only [List.length_cons] <;> omega

theorem length_aerase_lt {k : Bytes} {m : List (Bytes × β)} {v : β} (h : alookup k m = some v) :
    (aerase k m).length < m.length := by
  induction m with
  | nil => cases h
  | cons p rest ih =>
    obtain ⟨k', v'⟩ := p
    by_cases h' : k' = k
    · have := length_aerase_le k rest
      simp [aerase, h']; omega
    · simp [alookup, h'] at h
      have := ih h
      simp [aerase, h']; omega

end alist

/-! ### Repositories in a state -/

@[simp] theorem putRepo_immutableTags (s : State) (r : Bytes) (rp : Repo) :
    (putRepo s r rp).immutableTags = s.immutableTags := rfl

theorem manifestFor_ok {s : State} {r d : Bytes} {b : Blob} (h : manifestFor s r d = .ok b) :
    ∃ rp, getRepo s r = some rp ∧ alookup d rp.manifests = some b := by
  unfold manifestFor at h
  split at h
  · cases h
  · next rp hg =>
    split at h
    · cases h
    · next b' hb => cases h; exact ⟨rp, hg, hb⟩

/-! ### The digest invariant -/

section
variable (H : Bytes → Bytes)

/-- Every stored blob and manifest sits under the hash of its bytes. -/
def RepoInv (rp : Repo) : Prop :=
  (∀ k b, alookup k rp.blobs = some b → H b.data = k) ∧
  (∀ k b, alookup k rp.manifests = some b → H b.data = k)

/-- The digest invariant: in every repository every stored blob/manifest `b`
under key `k` has `H b.data = k`. -/
def Inv (s : State) : Prop := ∀ r rp, getRepo s r = some rp → RepoInv H rp

theorem RepoInv_empty : RepoInv H emptyRepo :=
  ⟨fun _ _ h => by simp [emptyRepo, alookup] at h, fun _ _ h => by simp [emptyRepo, alookup] at h⟩

theorem Inv_init (imm : Bool) : Inv H (init imm) := fun _ _ h => by simp [init, getRepo, alookup] at h

/-! ### What one operation can do to one repository -/

/-- The ways a single operation `op` changes a single repository (`s` is the state
the operation started from; it supplies the mode and, for `mount`, the source of
the blob). A stored manifest appears only through a `pushManifest` whose `Decoded`
argument gives its references, and — in immutable mode — never replaces an entry
reachable from a tag by one of another media type. -/
inductive RepoStep (s : State) (op : Op) : Repo → Repo → Prop
  | refl (rp : Repo) : RepoStep s op rp rp
  | uploads (rp : Repo) (ups : List (Bytes × Buffer)) : RepoStep s op rp { rp with uploads := ups }
  | insBlob (rp : Repo) (k : Bytes) (b : Blob) (ups : List (Bytes × Buffer)) :
      (Inv H s → H b.data = k) →
      RepoStep s op rp { rp with blobs := ainsert k b rp.blobs, uploads := ups }
  | insManifest (rp : Repo) (data mt subj : Bytes) (rs : List RefInfo) (dec : Decoded) :
      (∃ r t, op = .pushManifest r t data mt dec) → decRefs dec = some rs →
      (s.immutableTags = true → ∀ b0, alookup (H data) rp.manifests = some b0 →
        taggedRefersTo rp (H data) = true → b0.mediaType = mt) →
      checkRefs rp rs [] = some subj →
      RepoStep s op rp { rp with manifests := ainsert (H data) ⟨mt, data, subj, rs⟩ rp.manifests }
  | insTagged (rp : Repo) (t data mt subj : Bytes) (rs : List RefInfo) (dec : Decoded) :
      (∃ r t, op = .pushManifest r t data mt dec) → decRefs dec = some rs →
      (s.immutableTags = true → ∀ b0, alookup (H data) rp.manifests = some b0 →
        taggedRefersTo rp (H data) = true → b0.mediaType = mt) →
      (s.immutableTags = true → alookup t rp.tags = none) →
      checkRefs rp rs [] = some subj →
      RepoStep s op rp { rp with manifests := ainsert (H data) ⟨mt, data, subj, rs⟩ rp.manifests,
                                 tags := ainsert t ⟨mt, H data, data.length⟩ rp.tags }
  | delBlob (rp : Repo) (d : Bytes) :
      ¬ (s.immutableTags = true ∧ taggedRefersTo rp d = true) →
      RepoStep s op rp { rp with blobs := aerase d rp.blobs }
  | delManifest (rp : Repo) (d : Bytes) :
      ¬ (s.immutableTags = true ∧ taggedRefersTo rp d = true) →
      RepoStep s op rp { rp with manifests := aerase d rp.manifests }
  | delTag (rp : Repo) (t : Bytes) :
      s.immutableTags = false →
      RepoStep s op rp { rp with tags := aerase t rp.tags }

/-- The effect of an operation on the whole state: the mode is unchanged and every
repository is either untouched or changed by one `RepoStep` (a repository that
did not exist counts as empty). -/
def Eff (s : State) (op : Op) (s' : State) : Prop :=
  s'.immutableTags = s.immutableTags ∧
  ∀ r, getRepo s' r = getRepo s r ∨
    ∃ rp', getRepo s' r = some rp' ∧ RepoStep H s op ((getRepo s r).getD emptyRepo) rp'

theorem Eff.refl (s : State) (op : Op) : Eff H s op s := ⟨rfl, fun _ => .inl rfl⟩

/-- Writing one repository, changed by a `RepoStep` from what it was (absent: empty). -/
theorem Eff.putD {op : Op} {s : State} {r0 : Bytes} {rp' : Repo}
    (hs : RepoStep H s op ((getRepo s r0).getD emptyRepo) rp') : Eff H s op (putRepo s r0 rp') := by
  refine ⟨rfl, fun r => ?_⟩
  by_cases h : r0 = r
  · subst h; exact .inr ⟨rp', getRepo_putRepo_eq _ _ _, hs⟩
  · exact .inl (getRepo_putRepo_ne _ h _)

theorem Eff.put {op : Op} {s : State} {r0 : Bytes} {rp rp' : Repo} (hg : getRepo s r0 = some rp)
    (hs : RepoStep H s op rp rp') : Eff H s op (putRepo s r0 rp') :=
  Eff.putD H (by rw [hg]; exact hs)

end

/-! ### Every operation is an `Eff` -/

section
variable (H : Bytes → Bytes)

theorem putBuffer_eq (s : State) (r : Bytes) (rp : Repo) (id : Bytes) (b : Buffer) :
    putBuffer s r rp id b = putRepo s r { rp with uploads := ainsert id b rp.uploads } := rfl

/-- A `Change` as a `RepoStep`: which operation stored a blob, and what it answered, is forgotten. -/
theorem Change.repoStep {s : State} {op : Op} {out : Out} {rp rp' : Repo}
    (hc : Change H s op out rp rp') : RepoStep H s op rp rp' := by
  cases hc with
  | same => exact .refl rp
  | buffer id b => exact .uploads rp _
  | pushBlob hc => exact .insBlob rp _ _ rp.uploads fun _ => (checkDescData_none H hc).2.1
  | commit _ hd => exact .insBlob rp _ _ _ fun _ => hd
  | mount hb =>
    refine .insBlob rp _ _ rp.uploads fun hinv => ?_
    obtain ⟨rp0, hg, hl⟩ := blobFor_ok.mp hb
    exact (hinv _ _ hg).1 _ _ hl
  | @pushManifest r t data mt dec _ rs subj hfresh hre _ hdec hchk =>
    by_cases ht : t = []
    · subst ht
      exact .insManifest rp data mt subj rs dec ⟨r, [], rfl⟩ hdec (retyped_false hre) hchk
    · rw [storeManifest_tagged ht]
      exact .insTagged rp t data mt subj rs dec ⟨r, t, rfl⟩ hdec (retyped_false hre) (hfresh ht) hchk
  | deleteBlob h => exact .delBlob rp _ h
  | deleteManifest h => exact .delManifest rp _ h
  | deleteTag h => exact .delTag rp _ h

theorem step_eff (s : State) (op : Op) : Eff H s op (step H s op).1 := by
  rcases step_touch H s op with h | ⟨rp', n, h, hc⟩
  · rw [h]; exact Eff.refl H s op
  · rw [h]; exact Eff.putD H (hc.repoStep H)

end

/-! ### Consequences of `step_eff` -/

section
variable (H : Bytes → Bytes)

theorem immutable_preserved (s : State) (op : Op) : (step H s op).1.immutableTags = s.immutableTags :=
  (step_eff H s op).1

theorem Eff.forall_repo {P : Repo → Prop} {op : Op} {s s' : State} (hE : P emptyRepo)
    (hP : ∀ {rp rp'}, RepoStep H s op rp rp' → P rp → P rp')
    (hs : ∀ r rp, getRepo s r = some rp → P rp) (h : Eff H s op s') :
    ∀ r rp, getRepo s' r = some rp → P rp := by
  intro r rp' hg
  rcases h.2 r with he | ⟨rp'', hg', hst⟩
  · exact hs r rp' (he ▸ hg)
  · rw [hg] at hg'; cases hg'
    refine hP hst ?_
    cases hg0 : getRepo s r with
    | none => exact hE
    | some rp => exact hs r rp hg0

theorem Eff.repoStep {op : Op} {s s' : State} {r : Bytes} {rp : Repo} (h : Eff H s op s')
    (hg : getRepo s r = some rp) : ∃ rp', getRepo s' r = some rp' ∧ RepoStep H s op rp rp' := by
  rcases h.2 r with he | ⟨rp', hg', hst⟩
  · exact ⟨rp, he.trans hg, .refl rp⟩
  · rw [hg] at hst; exact ⟨rp', hg', hst⟩

theorem RepoStep.inv {op : Op} {s : State} {rp rp' : Repo} (hs : Inv H s) (hrp : RepoInv H rp)
    (h : RepoStep H s op rp rp') : RepoInv H rp' := by
  cases h with
  | insBlob k b ups hk => exact ⟨mapOK_ainsert H (hk hs) hrp.1, hrp.2⟩
  | insManifest | insTagged => exact ⟨hrp.1, mapOK_ainsert H rfl hrp.2⟩
  | delBlob d _ => exact ⟨mapOK_aerase H d hrp.1, hrp.2⟩
  | delManifest d _ => exact ⟨hrp.1, mapOK_aerase H d hrp.2⟩
  | _ => exact hrp

theorem Eff.inv {op : Op} {s s' : State} (hs : Inv H s) (h : Eff H s op s') : Inv H s' :=
  Eff.forall_repo H (RepoInv_empty H) (fun hst hrp => RepoStep.inv H hs hrp hst) hs h

theorem Inv_step {s : State} (hs : Inv H s) (op : Op) : Inv H (step H s op).1 :=
  Eff.inv H hs (step_eff H s op)

/-! ### Histories -/

theorem run_nil (s : State) : run H s [] = (s, []) := rfl

theorem immutable_preserved_run (s : State) (ops : List Op) :
    (run H s ops).1.immutableTags = s.immutableTags :=
  run_induction H (P := fun s' => s'.immutableTags = s.immutableTags)
    (fun s' op h => (immutable_preserved H s' op).trans h) s rfl ops

theorem Inv_run {s : State} (hs : Inv H s) (ops : List Op) : Inv H (run H s ops).1 :=
  run_induction H (P := Inv H) (fun _ op h => Inv_step H h op) s hs ops

end

/-! ### `refersTo` and reachability -/

/-- `Reach rp n refs target`: `target` is the digest of one of `refs`, or of a
reference reachable from them through at most `n - 1` stored manifests, following
kind-1 (index entry) and kind-2 (subject) references. Mirrors `refersTo`.
F42: `stepAs` follows a stored manifest under the media type the reference declares. -/
inductive Reach (rp : Repo) : Nat → List RefInfo → Bytes → Prop
  | here {n : Nat} {refs : List RefInfo} {target : Bytes} {ref : RefInfo} :
      ref ∈ refs → ref.desc.digest = target → Reach rp (n + 1) refs target
  | step {n : Nat} {refs : List RefInfo} {target : Bytes} {ref : RefInfo} {b : Blob} :
      ref ∈ refs → (ref.kind = 1 ∨ ref.kind = 2) →
      alookup ref.desc.digest rp.manifests = some b →
      Reach rp n b.refs target → Reach rp (n + 1) refs target
  | stepAs {n : Nat} {refs : List RefInfo} {target : Bytes} {ref : RefInfo} {b : Blob} :
      ref ∈ refs → (ref.kind = 1 ∨ ref.kind = 2) →
      alookup ref.desc.digest rp.manifests = some b →
      Reach rp n (refsAs b ref.desc.mediaType) target → Reach rp (n + 1) refs target

def ReachU (rp : Repo) (refs : List RefInfo) (target : Bytes) : Prop := ∃ n, Reach rp n refs target

theorem refersTo_iff_reach (rp : Repo) (target : Bytes) (fuel : Nat) (refs : List RefInfo) :
    refersTo rp target fuel refs = true ↔ Reach rp fuel refs target := by
  induction fuel generalizing refs with
  | zero =>
    rw [refersTo_zero]
    constructor
    · intro h; cases h
    · intro h; cases h
  | succ n ih =>
    rw [refersTo_succ]
    constructor
    · rintro ⟨ref, hm, hd | ⟨hk, b, hb, h | h⟩⟩
      · exact .here hm hd
      · exact .step hm hk hb ((ih _).1 h)
      · exact .stepAs hm hk hb ((ih _).1 h)
    · intro h
      cases h with
      | here hm hd => exact ⟨_, hm, .inl hd⟩
      | step hm hk hb h => exact ⟨_, hm, .inr ⟨hk, _, hb, .inl ((ih _).2 h)⟩⟩
      | stepAs hm hk hb h => exact ⟨_, hm, .inr ⟨hk, _, hb, .inr ((ih _).2 h)⟩⟩

/-- More stored manifests, more reachable. -/
theorem Reach.mono_repo {rp rp' : Repo} {n : Nat} {refs : List RefInfo} {target : Bytes}
    (hsub : ∀ k b, alookup k rp.manifests = some b → alookup k rp'.manifests = some b)
    (h : Reach rp n refs target) : Reach rp' n refs target := by
  induction h with
  | here hm hd => exact .here hm hd
  | step hm hk hb _ ih => exact .step hm hk (hsub _ _ hb) ih
  | stepAs hm hk hb _ ih => exact .stepAs hm hk (hsub _ _ hb) ih

/-- A path either avoids the manifest `k`, or its part after the last visit to `k` does.
F42: that part starts from `k`'s references under its stored media type or under one
a reference declared for it (`rs = bk.refs ∨ ∃ mt, rs = refsAs bk mt`). -/
theorem Reach.erase_or {rp : Repo} {n : Nat} {refs : List RefInfo} {target : Bytes} (k : Bytes)
    (h : Reach rp n refs target) :
    Reach { rp with manifests := aerase k rp.manifests } n refs target ∨
    ∃ n' bk rs, alookup k rp.manifests = some bk ∧ (rs = bk.refs ∨ ∃ mt, rs = refsAs bk mt) ∧
      Reach { rp with manifests := aerase k rp.manifests } n' rs target := by
  induction h with
  | here hm hd => exact .inl (.here hm hd)
  | @step n refs target ref b hm hk hb _ ih =>
    by_cases he : ref.desc.digest = k
    · rcases ih with h | h
      · exact .inr ⟨_, b, _, he ▸ hb, .inl rfl, h⟩
      · exact .inr h
    · rcases ih with h | h
      · exact .inl (.step hm hk ((alookup_aerase_ne (Ne.symm he) _).trans hb) h)
      · exact .inr h
  | @stepAs n refs target ref b hm hk hb _ ih =>
    by_cases he : ref.desc.digest = k
    · rcases ih with h | h
      · exact .inr ⟨_, b, _, he ▸ hb, .inr ⟨_, rfl⟩, h⟩
      · exact .inr h
    · rcases ih with h | h
      · exact .inl (.stepAs hm hk ((alookup_aerase_ne (Ne.symm he) _).trans hb) h)
      · exact .inr h

/-! #### F42: the fuel

A path may pass through the same stored manifest more than once without
repeating itself: once under the media type it is stored with and once under each
media type a reference declares for it and ocimem can look inside (image manifest,
image index). What a path cannot usefully repeat is the *list of references* it
continues from, and there are at most three of those per stored manifest (`views`). -/

/-- The reference lists a path can continue from after passing through a stored manifest. -/
def views (rp : Repo) : List (List RefInfo) :=
  rp.manifests.flatMap fun p =>
    [p.2.refs, refsAs p.2 ManifestDecode.imageMT, refsAs p.2 ManifestDecode.indexMT]

theorem views_length (rp : Repo) : (views rp).length = 3 * rp.manifests.length := by
  unfold views
  generalize rp.manifests = l
  induction l with
  | nil => rfl
  | cons p rest ih => simp only [List.flatMap_cons, List.length_append, List.length_cons, List.length_nil, ih]; omega

/-- Only the two media types ocimem can look inside give references. -/
theorem refsAs_cases (b : Blob) (mt : Bytes) :
    refsAs b mt = [] ∨ refsAs b mt = refsAs b ManifestDecode.imageMT ∨
      refsAs b mt = refsAs b ManifestDecode.indexMT := by
  by_cases h1 : mt = ManifestDecode.imageMT
  · subst h1; exact .inr (.inl rfl)
  · by_cases h2 : mt = ManifestDecode.indexMT
    · subst h2; exact .inr (.inr rfl)
    · left
      unfold refsAs
      split
      · rfl
      · simp [ManifestDecode.decodeRefs, h1, h2]

theorem refsAs_congr {b b' : Blob} (hd : b'.data = b.data) (hmt : b'.mediaType = b.mediaType) (mt : Bytes) :
    refsAs b' mt = refsAs b mt := by
  unfold refsAs; rw [hd, hmt]

theorem mem_views {rp : Repo} {k : Bytes} {b : Blob} (hb : alookup k rp.manifests = some b) :
    b.refs ∈ views rp ∧ refsAs b ManifestDecode.imageMT ∈ views rp ∧ refsAs b ManifestDecode.indexMT ∈ views rp := by
  have hm := mem_of_alookup hb
  unfold views
  refine ⟨List.mem_flatMap.2 ⟨_, hm, ?_⟩, List.mem_flatMap.2 ⟨_, hm, ?_⟩, List.mem_flatMap.2 ⟨_, hm, ?_⟩⟩ <;> simp

/-- `Reach` with the reference lists a path may continue from restricted to `vs`. -/
inductive ReachV (rp : Repo) (vs : List (List RefInfo)) : Nat → List RefInfo → Bytes → Prop
  | here {n : Nat} {refs : List RefInfo} {target : Bytes} {ref : RefInfo} :
      ref ∈ refs → ref.desc.digest = target → ReachV rp vs (n + 1) refs target
  | step {n : Nat} {refs next : List RefInfo} {target : Bytes} {ref : RefInfo} {b : Blob} :
      ref ∈ refs → (ref.kind = 1 ∨ ref.kind = 2) →
      alookup ref.desc.digest rp.manifests = some b →
      (next = b.refs ∨ next = refsAs b ref.desc.mediaType) → next ∈ vs →
      ReachV rp vs n next target → ReachV rp vs (n + 1) refs target

theorem Reach.nonempty {rp : Repo} {n : Nat} {refs : List RefInfo} {target : Bytes}
    (h : Reach rp n refs target) : refs ≠ [] := by
  cases h <;> (intro e; subst e; contradiction)

theorem Reach.toV {rp : Repo} {n : Nat} {refs : List RefInfo} {target : Bytes}
    (h : Reach rp n refs target) : ReachV rp (views rp) n refs target := by
  induction h with
  | here hm hd => exact .here hm hd
  | step hm hk hb _ ih => exact .step hm hk hb (.inl rfl) (mem_views hb).1 ih
  | @stepAs n refs target ref b hm hk hb hrest ih =>
    refine .step hm hk hb (.inr rfl) ?_ ih
    rcases refsAs_cases b ref.desc.mediaType with h | h | h
    · exact absurd h hrest.nonempty
    · rw [h]; exact (mem_views hb).2.1
    · rw [h]; exact (mem_views hb).2.2

theorem ReachV.toReach {rp : Repo} {vs : List (List RefInfo)} {n : Nat} {refs : List RefInfo} {target : Bytes}
    (h : ReachV rp vs n refs target) : Reach rp n refs target := by
  induction h with
  | here hm hd => exact .here hm hd
  | step hm hk hb hnext _ _ ih =>
    rcases hnext with rfl | rfl
    · exact .step hm hk hb ih
    · exact .stepAs hm hk hb ih

theorem ReachV.mono_fuel {rp : Repo} {vs : List (List RefInfo)} {n m : Nat} {refs : List RefInfo} {target : Bytes}
    (h : ReachV rp vs n refs target) (hnm : n ≤ m) : ReachV rp vs m refs target := by
  induction h generalizing m with
  | here hm hd =>
    obtain ⟨m', rfl⟩ : ∃ m', m = m' + 1 := ⟨m - 1, by omega⟩
    exact .here hm hd
  | step hm hk hb hnext hv _ ih =>
    obtain ⟨m', rfl⟩ : ∃ m', m = m' + 1 := ⟨m - 1, by omega⟩
    exact .step hm hk hb hnext hv (ih (by omega))

theorem Reach.mono_fuel {rp : Repo} {n m : Nat} {refs : List RefInfo} {target : Bytes}
    (h : Reach rp n refs target) (hnm : n ≤ m) : Reach rp m refs target :=
  (h.toV.mono_fuel hnm).toReach

theorem ReachV.mono_vs {rp : Repo} {vs vs' : List (List RefInfo)} {n : Nat} {refs : List RefInfo} {target : Bytes}
    (hsub : ∀ v, v ∈ vs → v ∈ vs') (h : ReachV rp vs n refs target) : ReachV rp vs' n refs target := by
  induction h with
  | here hm hd => exact .here hm hd
  | step hm hk hb hnext hv _ ih => exact .step hm hk hb hnext (hsub _ hv) ih

theorem ReachV.erase_or {rp : Repo} {vs : List (List RefInfo)} {n : Nat} {refs : List RefInfo} {target : Bytes}
    (v : List RefInfo) (h : ReachV rp vs n refs target) :
    ReachV rp (vs.filter (· ≠ v)) n refs target ∨ ∃ n', ReachV rp (vs.filter (· ≠ v)) n' v target := by
  induction h with
  | here hm hd => exact .inl (.here hm hd)
  | @step n refs next target ref b hm hk hb hnext hv _ ih =>
    by_cases he : next = v
    · rcases ih with h | h
      · exact .inr ⟨_, he ▸ h⟩
      · exact .inr h
    · rcases ih with h | h
      · exact .inl (.step hm hk hb hnext (List.mem_filter.2 ⟨hv, by simpa using he⟩) h)
      · exact .inr h

theorem length_filter_ne_lt {v : List RefInfo} {vs : List (List RefInfo)} (h : v ∈ vs) :
    (vs.filter (· ≠ v)).length < vs.length := by
  induction vs with
  | nil => cases h
  | cons x rest ih =>
    by_cases hx : x = v
    · have : (List.filter (· ≠ v) (x :: rest)) = List.filter (· ≠ v) rest := by simp [List.filter, hx]
      rw [this]
      exact Nat.lt_succ_of_le (List.length_filter_le _ _)
    · have hv : v ∈ rest := by
        rcases List.mem_cons.1 h with e | e
        · exact absurd e.symm hx
        · exact e
      have : (List.filter (· ≠ v) (x :: rest)) = x :: List.filter (· ≠ v) rest := by simp [List.filter, hx]
      rw [this]
      simp only [List.length_cons]
      exact Nat.succ_lt_succ (ih hv)

/-- A path needs no more steps than there are lists to continue from. By strong induction on the
number of lists in `vs`: what follows the first continuation `next` can be chosen (`erase_or`) never to
continue from `next` again, so it is a path over fewer lists. -/
theorem ReachV.bounded {rp : Repo} {vs : List (List RefInfo)} {n : Nat} {refs : List RefInfo} {target : Bytes}
    (h : ReachV rp vs n refs target) : ReachV rp vs (vs.length + 1) refs target := by
  generalize hlen : vs.length = m
  induction m using Nat.strongRecOn generalizing vs n refs target with
  | _ m ih =>
    cases h with
    | here hm hd => exact .here hm hd
    | @step n' _ next _ ref b hm hk hb hnext hv hrest =>
      have hlt : (vs.filter (· ≠ next)).length < m := hlen ▸ length_filter_ne_lt hv
      have hsome : ∃ n'', ReachV rp (vs.filter (· ≠ next)) n'' next target := by
        rcases ReachV.erase_or next hrest with h | h
        · exact ⟨_, h⟩
        · exact h
      obtain ⟨n'', h''⟩ := hsome
      have h1 := ih _ hlt h'' rfl
      have h2 : ReachV rp (vs.filter (· ≠ next)) m next target := h1.mono_fuel (by omega)
      exact .step hm hk hb hnext hv (h2.mono_vs fun v hv' => (List.mem_filter.1 hv').1)

/-- **The fuel is never a restriction.** A shortest path continues from each of the
reference lists of `views` at most once, so whatever is reachable at all is reachable
within depth `3 * manifests.length + 1`. No acyclicity assumption is needed. -/
theorem Reach.bounded {rp : Repo} {n : Nat} {refs : List RefInfo} {target : Bytes}
    (h : Reach rp n refs target) : Reach rp (3 * rp.manifests.length + 1) refs target := by
  have := (Reach.toV h).bounded.toReach
  rwa [views_length] at this

theorem ReachU.bounded {rp : Repo} {refs : List RefInfo} {target : Bytes} (h : ReachU rp refs target) :
    Reach rp (3 * rp.manifests.length + 1) refs target := h.elim fun _ h => h.bounded

theorem taggedRefersTo_iff (rp : Repo) (target : Bytes) :
    taggedRefersTo rp target = true ↔ ReachU rp (tagRefs rp) target := by
  unfold taggedRefersTo
  rw [refersTo_iff_reach]
  exact ⟨fun h => ⟨_, h⟩, fun h => h.bounded.mono_fuel (by omega)⟩

/-! ### Immutable mode: what a `RepoStep` keeps -/

section
variable (H : Bytes → Bytes)

theorem RepoStep.manifests {op : Op} {s : State} {rp rp' : Repo} (h : RepoStep H s op rp rp') :
    rp'.manifests = rp.manifests ∨
    (∃ data mt subj rs dec, (∃ r t, op = .pushManifest r t data mt dec) ∧ decRefs dec = some rs ∧
      (s.immutableTags = true → ∀ b0, alookup (H data) rp.manifests = some b0 →
        taggedRefersTo rp (H data) = true → b0.mediaType = mt) ∧
      rp'.manifests = ainsert (H data) ⟨mt, data, subj, rs⟩ rp.manifests) ∨
    (∃ d, ¬ (s.immutableTags = true ∧ taggedRefersTo rp d = true) ∧ rp'.manifests = aerase d rp.manifests) := by
  cases h with
  | insManifest data mt subj rs dec hex hdec hre _ => exact .inr (.inl ⟨data, mt, subj, rs, dec, hex, hdec, hre, rfl⟩)
  | insTagged t data mt subj rs dec hex hdec hre _ _ => exact .inr (.inl ⟨data, mt, subj, rs, dec, hex, hdec, hre, rfl⟩)
  | delManifest d hno => exact .inr (.inr ⟨d, hno, rfl⟩)
  | _ => exact .inl rfl

theorem RepoStep.tag_stable {op : Op} {s : State} {rp rp' : Repo} {t : Bytes} {d : Desc}
    (him : s.immutableTags = true) (h : RepoStep H s op rp rp') (ht : alookup t rp.tags = some d) :
    alookup t rp'.tags = some d := by
  cases h with
  | insTagged t' data mt subj rs dec _ _ _ hnone _ =>
    have hne : t ≠ t' := fun e => by rw [e, hnone him] at ht; cases ht
    exact (alookup_ainsert_ne (Ne.symm hne) _ _).trans ht
  | delTag t' hf => rw [him] at hf; cases hf
  | _ => exact ht

theorem RepoStep.tagged_manifest {op : Op} {s : State} {rp rp' : Repo} {t : Bytes} {d : Desc} {b : Blob}
    (him : s.immutableTags = true) (h : RepoStep H s op rp rp') (ht : alookup t rp.tags = some d)
    (hm : alookup d.digest rp.manifests = some b) :
    ∃ b', alookup d.digest rp'.manifests = some b' ∧
      b'.mediaType = b.mediaType ∧ (b' = b ∨ H b'.data = d.digest) := by
  rcases h.manifests H with e | ⟨data, mt, subj, rs, dec, _, _, hretype, e⟩ | ⟨d', hno, e⟩ <;> rw [e]
  · exact ⟨b, hm, rfl, .inl rfl⟩
  · rw [alookup_ainsert]
    split
    · next e =>
      have := hretype him b (e ▸ hm) (e ▸ taggedRefersTo_tag ht)
      exact ⟨_, rfl, this.symm, .inr e⟩
    · exact ⟨b, hm, rfl, .inl rfl⟩
  · have hne : d.digest ≠ d' := fun e => hno ⟨him, e ▸ taggedRefersTo_tag ht⟩
    exact ⟨b, (alookup_aerase_ne (Ne.symm hne) _).trans hm, rfl, .inl rfl⟩

theorem Eff.tag_stable {op : Op} {s s' : State} {r t : Bytes} {rp : Repo} {d : Desc}
    (him : s.immutableTags = true) (h : Eff H s op s') (hg : getRepo s r = some rp)
    (ht : alookup t rp.tags = some d) :
    ∃ rp', getRepo s' r = some rp' ∧ alookup t rp'.tags = some d :=
  let ⟨rp', hg', hst⟩ := h.repoStep H hg
  ⟨rp', hg', hst.tag_stable H him ht⟩

theorem Eff.tagged_manifest {op : Op} {s s' : State} {r t : Bytes} {rp : Repo} {d : Desc} {b : Blob}
    (him : s.immutableTags = true) (h : Eff H s op s') (hg : getRepo s r = some rp)
    (ht : alookup t rp.tags = some d) (hm : alookup d.digest rp.manifests = some b) :
    ∃ rp' b', getRepo s' r = some rp' ∧ alookup t rp'.tags = some d ∧
      alookup d.digest rp'.manifests = some b' ∧
      b'.mediaType = b.mediaType ∧ (b' = b ∨ H b'.data = d.digest) := by
  obtain ⟨rp', hg', hst⟩ := h.repoStep H hg
  obtain ⟨b', hb', hor⟩ := hst.tagged_manifest H him ht hm
  exact ⟨rp', b', hg', hst.tag_stable H him ht, hb', hor⟩

/-! ### Deletes -/

theorem deleteBlob_denied {s : State} {r x : Bytes} {rp : Repo} {bx : Blob}
    (him : s.immutableTags = true) (hg : getRepo s r = some rp)
    (hpres : alookup x rp.blobs = some bx) (href : taggedRefersTo rp x = true) :
    step H s (.deleteBlob r x) = (s, .err "DENIED") := by
  simp [step, blobFor, hg, hpres, him, href]

theorem deleteManifest_denied {s : State} {r x : Bytes} {rp : Repo} {bx : Blob}
    (him : s.immutableTags = true) (hg : getRepo s r = some rp)
    (hpres : alookup x rp.manifests = some bx) (href : taggedRefersTo rp x = true) :
    step H s (.deleteManifest r x) = (s, .err "DENIED") := by
  simp [step, manifestFor, hg, hpres, him, href]

theorem deleteBlob_allowed {s : State} {r x : Bytes} {rp : Repo} {bx : Blob}
    (hg : getRepo s r = some rp)
    (hpres : alookup x rp.blobs = some bx) (href : taggedRefersTo rp x = false) :
    step H s (.deleteBlob r x) = (putRepo s r { rp with blobs := aerase x rp.blobs }, .okUnit) := by
  simp [step, blobFor, hg, hpres, href]

theorem deleteManifest_allowed {s : State} {r x : Bytes} {rp : Repo} {bx : Blob}
    (hg : getRepo s r = some rp)
    (hpres : alookup x rp.manifests = some bx) (href : taggedRefersTo rp x = false) :
    step H s (.deleteManifest r x) = (putRepo s r { rp with manifests := aerase x rp.manifests }, .okUnit) := by
  simp [step, manifestFor, hg, hpres, href]

end

/-! ### `pushManifest` on an existing repository -/

section
variable (H : Bytes → Bytes)

theorem makeRepo_existing {s : State} {r : Bytes} {rp : Repo} (hg : getRepo s r = some rp) :
    makeRepo s r = if Ref.isRepo r then some (s, rp) else none := by
  unfold makeRepo
  cases Ref.isRepo r <;> simp [hg]

theorem makeRepo_of_existing {s s1 : State} {r : Bytes} {rp rp1 : Repo} (hg : getRepo s r = some rp)
    (hm : makeRepo s r = some (s1, rp1)) : s1 = s ∧ rp1 = rp := by
  rw [makeRepo_existing hg] at hm
  split at hm <;> cases hm
  exact ⟨rfl, rfl⟩

theorem pushManifest_existing_tag {s : State} (him : s.immutableTags = true) {r t : Bytes} {rp : Repo}
    {cur : Desc} (hg : getRepo s r = some rp) (ht : alookup t rp.tags = some cur) (hne : t ≠ [])
    (data mt : Bytes) (dec : Decoded) :
    (∃ e, step H s (.pushManifest r t data mt dec) = (s, .err e)) ∨
    (step H s (.pushManifest r t data mt dec) = (s, .okDesc cur) ∧ cur.digest = H data ∧ cur.mediaType = mt) := by
  generalize hst : step H s (.pushManifest r t data mt dec) = p
  obtain ⟨s', out⟩ := p
  rcases pushManifest_cases H hst with ⟨e, rfl, h | ⟨_, hm1⟩⟩ |
    ⟨rp', cur', _, _, _, _, hg', ht', hd, hmt, rfl, rfl⟩ | ⟨s1, rp1, _, _, hm1, _, hfresh, _⟩
  · exact .inl ⟨e, by rw [h]⟩
  · exact .inl ⟨e, by rw [(makeRepo_of_existing hg hm1).1]⟩
  · rw [hg] at hg'; cases hg'
    rw [ht] at ht'; cases ht'
    exact .inr ⟨rfl, hd, hmt⟩
  · -- a store under an immutable tag needs the tag to be free
    rw [(makeRepo_of_existing hg hm1).2] at hfresh
    rw [hfresh hne him] at ht; cases ht

/-- An untagged push stores the manifest — provided the retype rule does not fire. -/
theorem pushManifest_untagged_opaque {s : State} {r : Bytes} {rp : Repo} (hg : getRepo s r = some rp)
    (hr : Ref.isRepo r = true) {data mt : Bytes}
    (hchk : checkDescData H ⟨mt, H data, data.length⟩ data = none)
    (hfree : s.immutableTags = false ∨ alookup (H data) rp.manifests = none) :
    step H s (.pushManifest r [] data mt .opaque) =
      (putRepo s r { rp with manifests := ainsert (H data) ⟨mt, data, [], []⟩ rp.manifests },
       .okDesc ⟨mt, H data, data.length⟩) := by
  rcases hfree with h | h <;> simp [step, makeRepo_existing hg, hr, hchk, checkRefs, h]

/-- The retype rule: in immutable mode, a manifest stored under a digest reachable
from a tag cannot be re-stored under another media type (untagged or under a fresh
valid tag); the call is `DENIED` and nothing changes. -/
theorem pushManifest_retype_refused {s : State} (him : s.immutableTags = true) {r t : Bytes} {rp : Repo}
    {b0 : Blob} (hg : getRepo s r = some rp) (hr : Ref.isRepo r = true) {data mt : Bytes}
    (hm : alookup (H data) rp.manifests = some b0) (hmt : b0.mediaType ≠ mt)
    (href : taggedRefersTo rp (H data) = true)
    (hfresh : t = [] ∨ (Ref.isTag t = true ∧ alookup t rp.tags = none)) (dec : Decoded) :
    step H s (.pushManifest r t data mt dec) = (s, .err "DENIED") := by
  rcases hfresh with h | ⟨h1, h2⟩
  · simp [step, makeRepo_existing hg, hr, h, him, hm, hmt, href]
  · simp [step, makeRepo_existing hg, hr, h1, h2, him, hm, hmt, href]

theorem pushManifest_retype_unchanged {s : State} (him : s.immutableTags = true) {r t : Bytes} {rp : Repo}
    {b0 : Blob} (hg : getRepo s r = some rp) {data mt : Bytes}
    (hm : alookup (H data) rp.manifests = some b0) (hmt : b0.mediaType ≠ mt)
    (href : taggedRefersTo rp (H data) = true) (dec : Decoded) :
    (step H s (.pushManifest r t data mt dec)).1 = s := by
  rcases pushManifest_cases H (s' := (step H s (.pushManifest r t data mt dec)).1) rfl with
    ⟨_, _, h | ⟨_, hm1⟩⟩ | ⟨_, _, _, _, _, _, _, _, _, _, h, _⟩ | ⟨s1, rp1, _, _, hm1, _, _, hre, _⟩
  · exact h
  · exact (makeRepo_of_existing hg hm1).1
  · exact h
  · -- a store would have passed the re-typing test
    rw [(makeRepo_of_existing hg hm1).2] at hre
    exact absurd (retyped_false hre him b0 hm href) hmt

end

/-! ### Retention over histories

With the retype rule, what is reachable from a tag stays reachable and stored. Two
things outside the registry's control have to be assumed, and are stated
explicitly:

* the `Decoded` argument of every `pushManifest` is a function `decOf data mt` of
  the pushed bytes and media type (the harness derives it with the real JSON
  decoder), and the stored references agree with it (`ManOK`, preserved);
* no two distinct manifest byte strings in the set `D` of those ever pushed
  collide under `H` (`D := fun _ => True` is plain collision-freeness). Without
  this, different bytes could be stored under the same digest and the same media
  type with different references.
-/

/-- `op` takes its decoded references from `decOf` and its manifest bytes from `D`. -/
def OpOK (decOf : Bytes → Bytes → Decoded) (D : Bytes → Prop) : Op → Prop
  | .pushManifest _ _ data mt dec => D data ∧ dec = decOf data mt
  | _ => True

/-- Every stored manifest has bytes in `D` and the references `decOf` gives them. -/
def RepoManOK (decOf : Bytes → Bytes → Decoded) (D : Bytes → Prop) (rp : Repo) : Prop :=
  ∀ k b, alookup k rp.manifests = some b → D b.data ∧ decRefs (decOf b.data b.mediaType) = some b.refs

def ManOK (decOf : Bytes → Bytes → Decoded) (D : Bytes → Prop) (s : State) : Prop :=
  ∀ r rp, getRepo s r = some rp → RepoManOK decOf D rp

theorem RepoManOK_empty (decOf : Bytes → Bytes → Decoded) (D : Bytes → Prop) : RepoManOK decOf D emptyRepo :=
  fun _ _ h => by simp [emptyRepo, alookup] at h

theorem ManOK_init (decOf : Bytes → Bytes → Decoded) (D : Bytes → Prop) (imm : Bool) :
    ManOK decOf D (init imm) := fun _ _ h => by simp [init, getRepo, alookup] at h

theorem aerase_of_none {β : Type} {k : Bytes} {m : List (Bytes × β)} (h : alookup k m = none) :
    aerase k m = m := by
  induction m with
  | nil => rfl
  | cons p rest ih =>
    obtain ⟨k', v⟩ := p
    simp only [alookup] at h
    split at h
    · cases h
    · next hne => simp [aerase, hne, ih h]

theorem Reach.mono_refs {rp : Repo} {n : Nat} {refs refs' : List RefInfo} {target : Bytes}
    (hsub : ∀ ref, ref ∈ refs → ref ∈ refs') (h : Reach rp n refs target) : Reach rp n refs' target := by
  cases h with
  | here hm hd => exact .here (hsub _ hm) hd
  | step hm hk hb h => exact .step (hsub _ hm) hk hb h
  | stepAs hm hk hb h => exact .stepAs (hsub _ hm) hk hb h

/-- Reachability transfers to another repository that keeps, for every manifest
reachable from `refs`, an entry with the same references.
F42: and the same bytes and media type, which decide what it refers to under the media
type a reference declares for it. -/
theorem Reach.transfer {rp rp' : Repo} {n : Nat} {refs : List RefInfo} {target : Bytes}
    (hsub : ∀ k b, ReachU rp refs k → alookup k rp.manifests = some b →
      ∃ b', alookup k rp'.manifests = some b' ∧ b'.data = b.data ∧ b'.mediaType = b.mediaType ∧
        b'.refs = b.refs)
    (h : Reach rp n refs target) : Reach rp' n refs target := by
  induction h with
  | here hm hd => exact .here hm hd
  | @step n refs target ref b hm hk hb _ ih =>
    obtain ⟨b', hb', _, _, hrefs⟩ := hsub _ b ⟨1, .here hm rfl⟩ hb
    refine .step hm hk hb' ?_
    rw [hrefs]
    exact ih fun k b0 ⟨m, hr⟩ hk0 => hsub k b0 ⟨m + 1, .step hm hk hb hr⟩ hk0
  | @stepAs n refs target ref b hm hk hb _ ih =>
    obtain ⟨b', hb', hd, hmt, _⟩ := hsub _ b ⟨1, .here hm rfl⟩ hb
    refine .stepAs hm hk hb' ?_
    rw [refsAs_congr hd hmt]
    exact ih fun k b0 ⟨m, hr⟩ hk0 => hsub k b0 ⟨m + 1, .stepAs hm hk hb hr⟩ hk0

section
variable (H : Bytes → Bytes) (decOf : Bytes → Bytes → Decoded) (D : Bytes → Prop)

theorem RepoStep.manOK {op : Op} {s : State} {rp rp' : Repo} (hop : OpOK decOf D op)
    (hok : RepoManOK decOf D rp) (h : RepoStep H s op rp rp') : RepoManOK decOf D rp' := by
  intro k b hk
  rcases h.manifests H with e | ⟨data, mt, subj, rs, dec, ⟨r, t, rfl⟩, hdec, _, e⟩ | ⟨d, _, e⟩ <;> rw [e] at hk
  · exact hok _ _ hk
  · rw [alookup_ainsert] at hk
    split at hk
    · cases hk
      obtain ⟨hD, rfl⟩ := hop
      exact ⟨hD, hdec⟩
    · exact hok _ _ hk
  · exact hok _ _ (alookup_of_aerase hk)

theorem Eff.manOK {op : Op} {s s' : State} (hop : OpOK decOf D op) (hs : ManOK decOf D s)
    (h : Eff H s op s') : ManOK decOf D s' :=
  Eff.forall_repo H (RepoManOK_empty decOf D) (fun hst hok => RepoStep.manOK H decOf D hop hok hst) hs h

theorem ManOK_step {s : State} {op : Op} (hop : OpOK decOf D op) (hs : ManOK decOf D s) :
    ManOK decOf D (step H s op).1 :=
  Eff.manOK H decOf D hop hs (step_eff H s op)

theorem RepoStep.reachable_manifest_kept {op : Op} {s : State} {rp rp' : Repo}
    (him : s.immutableTags = true) (hinv : RepoInv H rp) (hok : RepoManOK decOf D rp)
    (hop : OpOK decOf D op) (hinj : ∀ a b, D a → D b → H a = H b → a = b)
    (h : RepoStep H s op rp rp') {k : Bytes} {b : Blob}
    (hreach : ReachU rp (tagRefs rp) k) (hk : alookup k rp.manifests = some b) :
    ∃ b', alookup k rp'.manifests = some b' ∧ b'.data = b.data ∧ b'.mediaType = b.mediaType ∧
      b'.refs = b.refs := by
  rcases h.manifests H with e | ⟨data, mt, subj, rs, dec, ⟨r, t, rfl⟩, hdec, hretype, e⟩ | ⟨d, hno, e⟩ <;> rw [e]
  · exact ⟨b, hk, rfl, rfl, rfl⟩
  · rw [alookup_ainsert]
    split
    · next e =>
      subst e
      obtain ⟨hD, rfl⟩ := hop
      have hmt : b.mediaType = mt := hretype him b hk ((taggedRefersTo_iff rp _).2 hreach)
      have hdata : data = b.data := hinj _ _ hD (hok _ _ hk).1 (hinv.2 _ _ hk).symm
      have hrefs : some rs = some b.refs := by
        rw [← hdec, ← (hok _ _ hk).2, hdata, hmt]
      exact ⟨_, rfl, hdata, hmt.symm, Option.some.inj hrefs⟩
    · exact ⟨b, hk, rfl, rfl, rfl⟩
  · have hne : k ≠ d := fun e => hno ⟨him, e ▸ (taggedRefersTo_iff rp _).2 hreach⟩
    exact ⟨b, (alookup_aerase_ne (Ne.symm hne) _).trans hk, rfl, rfl, rfl⟩

theorem RepoStep.tagRefs_mono {op : Op} {s : State} {rp rp' : Repo}
    (him : s.immutableTags = true) (h : RepoStep H s op rp rp') :
    ∀ ref, ref ∈ tagRefs rp → ref ∈ tagRefs rp' := by
  cases h with
  | insTagged t data mt subj rs dec _ _ _ hnone _ =>
    intro ref href
    simp only [tagRefs, ainsert, aerase_of_none (hnone him), List.map_cons]
    exact List.mem_cons_of_mem _ href
  | delTag t hf => rw [him] at hf; cases hf
  | _ => exact fun _ h => h

theorem RepoStep.reach_retained {op : Op} {s : State} {rp rp' : Repo}
    (him : s.immutableTags = true) (hinv : RepoInv H rp) (hok : RepoManOK decOf D rp)
    (hop : OpOK decOf D op) (hinj : ∀ a b, D a → D b → H a = H b → a = b)
    (h : RepoStep H s op rp rp') {x : Bytes} (hreach : ReachU rp (tagRefs rp) x) :
    ReachU rp' (tagRefs rp') x ∧
    (∀ b, alookup x rp.blobs = some b → ∃ b', alookup x rp'.blobs = some b') ∧
    (∀ b, alookup x rp.manifests = some b → ∃ b', alookup x rp'.manifests = some b' ∧
      b'.data = b.data ∧ b'.mediaType = b.mediaType ∧ b'.refs = b.refs) := by
  refine ⟨?_, ?_, fun b hb => RepoStep.reachable_manifest_kept H decOf D him hinv hok hop hinj h hreach hb⟩
  · obtain ⟨n, hn⟩ := hreach
    refine ⟨n, Reach.mono_refs (RepoStep.tagRefs_mono H him h) (Reach.transfer ?_ hn)⟩
    intro k b hrk hk
    exact RepoStep.reachable_manifest_kept H decOf D him hinv hok hop hinj h hrk hk
  · intro b hb
    cases h with
    | insBlob k b0 ups _ =>
      simp only [alookup_ainsert]
      split
      · exact ⟨_, rfl⟩
      · exact ⟨b, hb⟩
    | delBlob d hno =>
      have hne : x ≠ d := fun e => hno ⟨him, e ▸ (taggedRefersTo_iff rp _).2 hreach⟩
      exact ⟨b, (alookup_aerase_ne (Ne.symm hne) _).trans hb⟩
    | delTag t hf => rw [him] at hf; cases hf
    | _ => exact ⟨b, hb⟩

theorem Eff.reach_retained {op : Op} {s s' : State} {r : Bytes} {rp : Repo}
    (him : s.immutableTags = true) (hinv : Inv H s) (hok : ManOK decOf D s)
    (hop : OpOK decOf D op) (hinj : ∀ a b, D a → D b → H a = H b → a = b)
    (h : Eff H s op s') (hg : getRepo s r = some rp) {x : Bytes} (hreach : ReachU rp (tagRefs rp) x) :
    ∃ rp', getRepo s' r = some rp' ∧ ReachU rp' (tagRefs rp') x ∧
      (∀ b, alookup x rp.blobs = some b → ∃ b', alookup x rp'.blobs = some b') ∧
      (∀ b, alookup x rp.manifests = some b → ∃ b', alookup x rp'.manifests = some b' ∧
        b'.data = b.data ∧ b'.mediaType = b.mediaType ∧ b'.refs = b.refs) := by
  obtain ⟨rp', hg', hst⟩ := h.repoStep H hg
  exact ⟨rp', hg', hst.reach_retained H decOf D him (hinv r rp hg) (hok r rp hg) hop hinj hreach⟩

end

end OciModel.Mem
