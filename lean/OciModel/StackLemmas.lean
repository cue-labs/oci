/-
Lemmas for CSTK (model in `OciModel/Stack.lean`): the adapters agree with the wrappers' own
models, each layer does what its wrapper's theorems (C12, C13, C05D, C14W) say, and what the layers
do to a call whose only repository argument is the first one.
-/
import OciModel.Stack
import OciModel.Props.C12
import OciModel.Props.C13
import OciModel.Props.C05D
import OciModel.Props.C14W

namespace OciModel.Stack
open OciModel.Select (Call Env Kind Policy)
open OciModel.Scope (Scope)
open OciModel.Generated

variable {ε ρ : Type}

/-! ### Positional arguments -/

theorem bindArgs_cons_self (p : String) (ps : List String) (a : Bytes) (args : List Bytes) :
    bindArgs (p :: ps) (a :: args) p = a := by
  simp [bindArgs]

theorem bindArgs_cons_ne (p q : String) (ps : List String) (a : Bytes) (args : List Bytes) (h : q ≠ p) :
    bindArgs (p :: ps) (a :: args) q = bindArgs ps args q := by
  have : (q == p) = false := by simpa using h
  simp [bindArgs, List.lookup_cons, this]

theorem map_bindArgs (ps : List String) (args : List Bytes) (hnd : ps.Nodup) (hlen : ps.length = args.length) :
    ps.map (bindArgs ps args) = args := by
  induction ps generalizing args with
  | nil => cases args <;> simp_all
  | cons p ps ih =>
    cases args with
    | nil => simp at hlen
    | cons a args =>
      simp only [List.nodup_cons] at hnd
      simp only [List.length_cons, Nat.add_right_cancel_iff] at hlen
      simp only [List.map_cons, bindArgs_cons_self, List.cons.injEq, true_and]
      have h1 : ps.map (bindArgs (p :: ps) (a :: args)) = ps.map (bindArgs ps args) := by
        apply List.map_congr_left
        intro q hq
        exact bindArgs_cons_ne p q ps a args (fun h => hnd.1 (h ▸ hq))
      rw [h1]
      exact ih args hnd.2 hlen

theorem specArgs_eq_subArgs (p : Bytes) (env : Env) (m : String) (ips ps : List String) :
    Sub.specArgs p env m ips ps = subArgs p m ips (ps.map env) := by
  simp [Sub.specArgs, subArgs, List.zip_map_right, Function.comp_def]

theorem subArgs_length (p : Bytes) (m : String) (ips : List String) (args : List Bytes)
    (h : ips.length = args.length) : (subArgs p m ips args).length = args.length := by
  simp [subArgs, h]

theorem specGuards_eq_selChecks (env : Env) (m : String) (ips ps : List String) (gs : List Select.RGuard)
    (h : Select.specGuards m ips ps = some gs) :
    gs.map (fun g => (g.val env, g.kind)) = selChecks m ips (ps.map env) := by
  unfold Select.specGuards at h
  unfold selChecks
  cases hk : Select.groupKind m with
  | none => simp [hk] at h
  | some k =>
    simp only [hk] at h ⊢
    by_cases hm : (m == "Repositories") = true
    · simp only [hm, if_true, Option.some.injEq] at h ⊢
      subst h
      simp [Select.RGuard.val]
    · simp only [hm, Bool.false_eq_true, if_false, Option.some.injEq] at h ⊢
      subst h
      simp [Select.RGuard.val, List.zip_map_right, List.filter_map, Function.comp_def]

theorem firstFail_eq_firstReject (check : Policy ε) (env : Env) (gs : List Select.RGuard) :
    Select.firstFail check env gs = firstReject check (gs.map fun g => (g.val env, g.kind)) := by
  induction gs with
  | nil => rfl
  | cons g gs ih =>
    simp only [Select.firstFail, List.map_cons, firstReject]
    cases check (g.val env) g.kind <;> simp [ih]

theorem firstReject_none_iff (check : Policy ε) (xs : List (Bytes × Kind)) :
    firstReject check xs = none ↔ ∀ x ∈ xs, check x.1 x.2 = none := by
  induction xs with
  | nil => simp [firstReject]
  | cons x xs ih =>
    simp only [firstReject, List.mem_cons, forall_eq_or_imp]
    cases h : check x.1 x.2 <;> simp [ih]

theorem firstReject_some_mem (check : Policy ε) (xs : List (Bytes × Kind)) (e : ε)
    (h : firstReject check xs = some e) : ∃ x ∈ xs, check x.1 x.2 = some e := by
  induction xs with
  | nil => simp [firstReject] at h
  | cons x xs ih =>
    simp only [firstReject] at h
    cases hc : check x.1 x.2 with
    | none =>
      obtain ⟨y, hy, hy'⟩ := ih (by simpa [hc] using h)
      exact ⟨y, List.mem_cons_of_mem _ hy, hy'⟩
    | some e' => exact ⟨x, List.mem_cons_self, by simpa [hc] using h⟩

/-! ### The facts about the regenerated tables the stack theorems rest on -/

/-- For one method of `ociregistry.Interface`: each wrapper's table has a well-formed row for it
(`Select.RowOk`, `Sub.RowOk`, `Iter.RowOk`) with distinct parameter names and the interface's arity,
and `opTable` names an operation of that method. -/
def MethodOk (mp : String × List (String × String)) : Bool :=
  (match selRow mp.1 with
   | some r => Select.RowOk r && decide r.params.Nodup
   | none => false) &&
  (match subRow mp.1 with
   | some r => Sub.RowOk r && decide r.params.Nodup
   | none => false) &&
  (match dbgRow mp.1 with
   | some r => Iter.RowOk "r.r" r && decide r.params.Nodup && r.params.length == mp.2.length
   | none => false) &&
  (match opOf mp.1 with
   | some op => WrapRO.methodOf op == some mp.1
   | none => false)

/-- The seven Reader methods: the debug wrapper passes their results back as they are, their only
repository argument is the first one, it is checked for read access, and `ReadOnly` lets them through. -/
def ReadersOk : Bool :=
  Iface.readerMethods.all fun m => plainMethod m && repoFirst m .read && !WrapRO.isMutatorMethod m

def TablesOk : Bool := Iface.methodParams.all MethodOk && ReadersOk && Sub.CodeOk && WrapRO.ReadOnlyOk

theorem wf_unfold (c : Call) (h : wf c = true) :
    ∃ ips, ifaceArgs c.method = some ips ∧ ips.length = c.args.length := by
  unfold wf at h
  cases hi : ifaceArgs c.method with
  | none => simp [hi] at h
  | some ips => exact ⟨ips, rfl, by simpa [hi] using h⟩

theorem wf_of_arity (m : String) (args : List Bytes) (k : Nat)
    (h : (ifaceArgs m).map List.length = some k) (hk : args.length = k) : wf ⟨m, args⟩ = true := by
  unfold wf
  cases hi : ifaceArgs m with
  | none => simp [hi] at h
  | some ips => simp only [hi, Option.map_some, Option.some.injEq] at h; simp [h, hk]

theorem tablesOk_unfold (hok : TablesOk = true) :
    (∀ mp ∈ Iface.methodParams, MethodOk mp = true) ∧ ReadersOk = true ∧ Sub.CodeOk = true ∧
    WrapRO.ReadOnlyOk = true := by
  simp only [TablesOk, Bool.and_eq_true, List.all_eq_true] at hok
  obtain ⟨⟨⟨hmethods, hreaders⟩, hcode⟩, hro⟩ := hok
  exact ⟨hmethods, hreaders, hcode, hro⟩

theorem methodOk_of_iface (hok : TablesOk = true) (m : String) (ips : List String)
    (hips : ifaceArgs m = some ips) :
    ∃ ps, MethodOk (m, ps) = true ∧ ps.length = ips.length := by
  simp only [ifaceArgs, Select.ifaceParamNames] at hips
  cases hl : Iface.methodParams.lookup m with
  | none => simp [hl] at hips
  | some ps =>
    simp only [hl, Option.map_some, Option.some.injEq] at hips
    have hmem : (m, ps) ∈ Iface.methodParams := by
      obtain ⟨l₁, l₂, h, _⟩ := List.lookup_eq_some_iff.mp hl
      simp [h]
    exact ⟨ps, (tablesOk_unfold hok).1 _ hmem, by rw [← hips]; simp⟩

/-! ### What `TablesOk` says about one method -/

theorem sel_facts (hok : TablesOk = true) (m : String) (ips : List String) (hips : ifaceArgs m = some ips) :
    ∃ r, selRow m = some r ∧ r.method = m ∧ Select.RowOk r = true ∧ r.params.Nodup ∧
      r.params.length = ips.length := by
  obtain ⟨ps, hmo, _⟩ := methodOk_of_iface hok m ips hips
  simp only [MethodOk, Bool.and_eq_true] at hmo
  obtain ⟨⟨⟨hsel, _⟩, _⟩, _⟩ := hmo
  cases hr : selRow m with
  | none => simp [hr] at hsel
  | some r =>
    simp only [hr, Bool.and_eq_true, decide_eq_true_eq] at hsel
    have hrm : r.method = m := by simpa using List.find?_some hr
    obtain ⟨_, _, _, hlen, _⟩ := Select.rowOk_unfold r hsel.1 ips (hrm ▸ hips)
    exact ⟨r, rfl, hrm, hsel.1, hsel.2, hlen.symm⟩

theorem sub_facts (hok : TablesOk = true) (m : String) (ips : List String) (hips : ifaceArgs m = some ips) :
    ∃ r, subRow m = some r ∧ r.method = m ∧ Sub.RowOk r = true ∧ r.params.Nodup ∧
      r.params.length = ips.length ∧ (m ≠ "Repositories" → r.shape = "direct") := by
  obtain ⟨ps, hmo, _⟩ := methodOk_of_iface hok m ips hips
  simp only [MethodOk, Bool.and_eq_true] at hmo
  obtain ⟨⟨⟨_, hsub⟩, _⟩, _⟩ := hmo
  cases hr : subRow m with
  | none => simp [hr] at hsub
  | some r =>
    simp only [hr, Bool.and_eq_true, decide_eq_true_eq] at hsub
    have hrm : r.method = m := by simpa using List.find?_some hr
    obtain ⟨_, _, _, _, _, hlen, _, hshape⟩ := Sub.rowOk_unfold r hsub.1 ips (hrm ▸ hips)
    exact ⟨r, rfl, hrm, hsub.1, hsub.2, hlen.symm, fun hne => by rw [hshape, if_neg (hrm ▸ hne)]⟩

theorem dbg_facts (hok : TablesOk = true) (c : Call) (hwf : wf c = true) :
    ∃ r, dbgRow c.method = some r ∧ r.method = c.method ∧ Iter.RowOk "r.r" r = true ∧
      r.params.length = c.args.length ∧ r.params.map (bindArgs r.params c.args) = c.args := by
  obtain ⟨ips, hips, hlen⟩ := wf_unfold c hwf
  obtain ⟨ps, hmo, hps⟩ := methodOk_of_iface hok _ ips hips
  simp only [MethodOk, Bool.and_eq_true] at hmo
  obtain ⟨⟨⟨_, _⟩, hdbg⟩, _⟩ := hmo
  cases hr : dbgRow c.method with
  | none => simp [hr] at hdbg
  | some r =>
    simp only [hr, Bool.and_eq_true, decide_eq_true_eq, beq_iff_eq] at hdbg
    obtain ⟨⟨hrok, hnd⟩, harity⟩ := hdbg
    have hl : r.params.length = c.args.length := by omega
    exact ⟨r, rfl, by simpa using List.find?_some hr, hrok, hl, map_bindArgs _ _ hnd hl⟩

theorem op_facts (hok : TablesOk = true) (m : String) (ips : List String) (hips : ifaceArgs m = some ips) :
    ∃ op, opOf m = some op ∧ WrapRO.methodOf op = some m := by
  obtain ⟨ps, hmo, _⟩ := methodOk_of_iface hok m ips hips
  simp only [MethodOk, Bool.and_eq_true] at hmo
  obtain ⟨_, hop⟩ := hmo
  cases hr : opOf m with
  | none => simp [hr] at hop
  | some op => exact ⟨op, rfl, by simpa [hr] using hop⟩

theorem readersOk_of (hok : TablesOk = true) (m : String) (hm : m ∈ Iface.readerMethods) :
    plainMethod m = true ∧ repoFirst m .read = true ∧ WrapRO.isMutatorMethod m = false := by
  obtain ⟨_, h, _, _⟩ := tablesOk_unfold hok
  simp only [ReadersOk, List.all_eq_true, Bool.and_eq_true, Bool.not_eq_true'] at h
  obtain ⟨⟨hplain, hfirst⟩, hmut⟩ := h m hm
  exact ⟨hplain, hfirst, hmut⟩

/-! ### One layer -/

/-- `Select.call` on the method's row, with the arguments bound by position: the policy is asked
`callChecks c` in order; the first refusal is the answer, with no call made, and otherwise the one call
is `c` itself (C12 `denied_no_backend_call`, `allowed_transparent`). -/
theorem select_call_eq (hok : TablesOk = true) (chk : Policy ε) (backend : Call → ρ) (c : Call)
    (hwf : wf c = true) (hm : c.method ≠ "Repositories") :
    ∃ r, selRow c.method = some r ∧ r.params.length = c.args.length ∧
      Select.call chk backend (bindArgs r.params c.args) r =
        match firstReject chk (callChecks c) with
        | some e => ⟨.rejected e, []⟩
        | none => ⟨.returned (backend c), [c]⟩ := by
  obtain ⟨ips, hips, hlen⟩ := wf_unfold c hwf
  obtain ⟨r, hr, hrm, hrok, hnd, hrl⟩ := sel_facts hok _ _ hips
  have hips' : Select.ifaceParamNames r.method = some ips := by rw [hrm]; exact hips
  obtain ⟨_, _, _, _, hsome, hspec, _⟩ := Select.rowOk_unfold r hrok ips hips'
  obtain ⟨gs, hgs⟩ := Option.isSome_iff_exists.mp (hspec ▸ hsome)
  have henv : r.params.map (bindArgs r.params c.args) = c.args := map_bindArgs _ _ hnd (by omega)
  refine ⟨r, hr, by omega, ?_⟩
  rw [Select.call_of_rowOk r hrok (hrm ▸ hm) chk backend _ ips hips' gs hgs, firstFail_eq_firstReject,
    specGuards_eq_selChecks _ r.method ips r.params gs hgs, henv, hrm]
  simp only [callChecks, hips, Option.getD_some]
  cases firstReject chk (selChecks c.method ips c.args) <;> rfl

theorem selectLayer_eq (hok : TablesOk = true) (chk : Policy ε) (next : Backend ε ρ) (sc : Scope) (c : Call)
    (hwf : wf c = true) (hm : c.method ≠ "Repositories") :
    selectLayer chk next sc c =
      match firstReject chk (callChecks c) with
      | some e => ⟨.rejected e, []⟩
      | none => next sc c := by
  obtain ⟨r, hr, hlen, hcall⟩ := select_call_eq hok chk (next sc) c hwf hm
  simp only [selectLayer, hr, hlen, bne_self_eq_false, Bool.false_eq_true, if_false, hcall]
  cases firstReject chk (callChecks c) <;> rfl

/-- `Sub.call` on the method's row, with the arguments bound by position, is one call: the same method
with the repository arguments under the prefix, and the scopes mapped (C13 `sub_name_map`). -/
theorem sub_call_eq (hok : TablesOk = true) (p : Bytes) (sc : Scope) (c : Call) (hwf : wf c = true) :
    ∃ r, subRow c.method = some r ∧ r.params.length = c.args.length ∧
      (c.method ≠ "Repositories" → r.shape = "direct") ∧
      Sub.call p (bindArgs r.params c.args) sc r = .ok (subCall p c) (Sub.mapScopes p sc) := by
  obtain ⟨ips, hips, hlen⟩ := wf_unfold c hwf
  obtain ⟨r, hr, hrm, hrok, hnd, hrl, hshape⟩ := sub_facts hok _ _ hips
  obtain ⟨_, _, hcode, _⟩ := tablesOk_unfold hok
  refine ⟨r, hr, by omega, hshape, ?_⟩
  rw [Props.C13.sub_name_map hcode r hrok ips (hrm ▸ hips) p _ sc, specArgs_eq_subArgs,
    map_bindArgs _ _ hnd (by omega), hrm]
  simp [subCall, hips]

theorem subLayer_eq (hok : TablesOk = true) (p : Bytes) (next : Backend ε ρ) (sc : Scope) (c : Call)
    (hwf : wf c = true) (hm : c.method ≠ "Repositories") :
    subLayer p next sc c = next (Sub.mapScopes p sc) (subCall p c) := by
  obtain ⟨r, hr, hlen, hshape, hcall⟩ := sub_call_eq hok p sc c hwf
  simp [subLayer, hr, hlen, hshape hm, hcall]

theorem plain_call {V E : Type} (recv : String) (r : Generated.Debug.Row) (h : Iter.RowOk recv r = true)
    (hp : plainRow r = true) (backend : Iter.Call V → Iter.Res V E) (env : String → V) :
    ∃ v, Iter.call backend env r =
      some ⟨[⟨recv, r.method, recv == "r.r", r.params.map env⟩], v,
        some (backend ⟨recv, r.method, recv == "r.r", r.params.map env⟩).err⟩ := by
  simp only [Iter.RowOk, Bool.and_eq_true, Bool.or_eq_true, beq_iff_eq] at h
  obtain ⟨⟨⟨⟨⟨⟨hk, hrecv⟩, hn⟩, hcallee⟩, hargs⟩, hctx⟩, _⟩ := h
  simp only [plainRow, Bool.and_eq_true, Bool.or_eq_true, beq_iff_eq] at hp
  obtain ⟨hg, hp⟩ := hp
  rcases hp with ⟨hv, he⟩ | ⟨hv, he⟩
  · exact ⟨.same (backend ⟨recv, r.method, recv == "r.r", r.params.map env⟩).val,
      by simp [Iter.call, hk, hn, hrecv, hcallee, hargs, hctx, hg, hv, he]⟩
  · exact ⟨.absent, by simp [Iter.call, hk, hn, hrecv, hcallee, hargs, hctx, hv, he]⟩

theorem debugLayer_eq (hok : TablesOk = true) (next : Backend ε ρ) (sc : Scope) (c : Call)
    (hwf : wf c = true) (hpl : plainMethod c.method = true) :
    debugLayer next sc c = next sc c := by
  obtain ⟨r, hr, hrm, hrok, hlen, henv⟩ := dbg_facts hok c hwf
  have hplain : plainRow r = true := by simpa [plainMethod, hr] using hpl
  unfold debugLayer
  simp only [hr, hlen, bne_self_eq_false, hplain, Bool.not_true, Bool.or_self, Bool.false_eq_true, if_false]
  obtain ⟨v, hv⟩ := plain_call (V := Bytes) (E := Out ε ρ) "r.r" r hrok hplain
    (fun dc => ⟨none, some (next (if dc.ctx then sc else Scope.empty) ⟨dc.method, dc.args⟩)⟩)
    (bindArgs r.params c.args)
  rw [hv]
  simp [henv, hrm]

/-- `roStep` on the method's operation, whatever registry `ReadOnly` wraps: a Writer or Deleter method
is answered "unsupported" with no call (C14W `readonly_mutators_unsupported`), any other method is
handed on, one call (C14W `readonly_reads_transparent`). -/
theorem roStep_eq (hok : TablesOk = true) (c : Call) (hwf : wf c = true) :
    ∃ op, opOf c.method = some op ∧ WrapRO.methodOf op = some c.method ∧
      ∀ (S : Type) (B : WrapRO.Backend S) (s : S), WrapRO.roStep B s op =
        if WrapRO.isMutatorMethod c.method then (s, some (.err "UNSUPPORTED"), [])
        else ((B s op).1, some (B s op).2, [op]) := by
  obtain ⟨ips, hips, _⟩ := wf_unfold c hwf
  obtain ⟨op, hop, hmo⟩ := op_facts hok _ _ hips
  obtain ⟨_, _, _, hro⟩ := tablesOk_unfold hok
  refine ⟨op, hop, hmo, fun S B s => ?_⟩
  rcases Props.C14W.generated_alphabet_ok op _ hmo with hread | hmut
  · have hmut : WrapRO.isMutatorMethod c.method = false := by
      cases h : WrapRO.isMutatorMethod c.method
      · rfl
      · have hs := (WrapRO.readOnlyOk_mut hro _ h).1
        rw [WrapRO.readOnlyOk_read hro _ hread] at hs
        cases hs
    rw [Props.C14W.readonly_reads_transparent hro B s op _ hmo hread, hmut]
    rfl
  · rw [Props.C14W.readonly_mutators_unsupported hro B s op _ hmo hmut, hmut]
    rfl

theorem roLayer_eq (hok : TablesOk = true) (e : ε) (next : Backend ε ρ) (sc : Scope) (c : Call)
    (hwf : wf c = true) :
    roLayer e next sc c = if WrapRO.isMutatorMethod c.method then ⟨.rejected e, []⟩ else next sc c := by
  obtain ⟨op, hop, _, hstep⟩ := roStep_eq hok c hwf
  simp only [roLayer, hop, hstep]
  cases WrapRO.isMutatorMethod c.method <;> rfl

/-! ### What a layer hands down is again a well-formed call of the same method -/

theorem layerCall_method (l : Layer ε) (c : Call) : (layerCall l c).method = c.method := by
  cases l with
  | sub p => simp only [layerCall]; split <;> rfl
  | _ => rfl

theorem layerCall_wf (l : Layer ε) (c : Call) (h : wf c = true) : wf (layerCall l c) = true := by
  cases l with
  | sub p =>
    obtain ⟨ips, hips, hlen⟩ := wf_unfold c h
    simp only [layerCall]
    split
    · exact h
    · simp [wf, subCall, hips, subArgs, hlen]
  | _ => exact h

theorem layer_eq (hok : TablesOk = true) (l : Layer ε) (next : Backend ε ρ) (sc : Scope) (c : Call)
    (hwf : wf c = true) (hm : c.method ≠ "Repositories")
    (hpl : isDebug l = true → plainMethod c.method = true) :
    layer l next sc c =
      match layerVerdict l c with
      | some e => ⟨.rejected e, []⟩
      | none => next (layerScope l sc) (layerCall l c) := by
  cases l with
  | debug => simpa [layer, layerVerdict, layerScope, layerCall] using debugLayer_eq hok next sc c hwf (hpl rfl)
  | select chk => simpa [layer, layerVerdict, layerScope, layerCall] using selectLayer_eq hok chk next sc c hwf hm
  | sub p =>
    by_cases hp : p = []
    · simp [layer, layerVerdict, layerScope, layerCall, hp]
    · simpa [layer, layerVerdict, layerScope, layerCall, hp] using subLayer_eq hok p next sc c hwf hm
  | readOnly e =>
    rw [show layer (.readOnly e) next = roLayer e next from rfl, roLayer_eq hok e next sc c hwf]
    by_cases hmut : WrapRO.isMutatorMethod c.method = true <;> simp [layerVerdict, layerScope, layerCall, hmut]

/-! ### Methods whose only repository argument is the first one -/

theorem repoFirst_unfold (m : String) (k : Kind) (h : repoFirst m k = true) :
    m ≠ "MountBlob" ∧ m ≠ "Repositories" ∧ Select.groupKind m = some k ∧
    ∃ ips, ifaceArgs m = some ("repo" :: ips) ∧
      (∀ i ∈ ips, Select.isRepoParam i = false) ∧ (∀ i ∈ ips, Sub.specMapped m i = false) := by
  unfold repoFirst at h
  cases hi : ifaceArgs m with
  | none => simp [hi] at h
  | some l =>
    cases l with
    | nil => simp [hi] at h
    | cons i ips =>
      simp only [hi, Bool.and_eq_true, bne_iff_ne, ne_eq, beq_iff_eq, List.all_eq_true,
        Bool.not_eq_true'] at h
      obtain ⟨⟨⟨h1, h2⟩, h3⟩, h4, h5⟩ := h
      subst h4
      exact ⟨h1, h2, h3, ips, rfl, fun i hi' => (h5 i hi').1, fun i hi' => (h5 i hi').2⟩

theorem callChecks_repoFirst (m : String) (k : Kind) (h : repoFirst m k = true) (n : Bytes) (rest : List Bytes) :
    callChecks ⟨m, n :: rest⟩ = [(n, k)] := by
  obtain ⟨h1, h2, h3, ips, hips, hr, _⟩ := repoFirst_unfold m k h
  have e1 : (m == "Repositories") = false := by simpa using h2
  have e2 : (m == "MountBlob") = false := by simpa using h1
  have e3 : Select.isRepoParam "repo" = true := by decide
  have e4 : ((ips.zip rest).filter fun x => Select.isRepoParam x.1) = [] :=
    List.filter_eq_nil_iff.mpr fun x hx => by simp [hr x.1 (List.of_mem_zip hx).1]
  simp [callChecks, hips, selChecks, h3, e1, e2, e3, e4]

theorem subCall_repoFirst (p : Bytes) (m : String) (k : Kind) (h : repoFirst m k = true) (n : Bytes)
    (rest : List Bytes) (hwf : wf ⟨m, n :: rest⟩ = true) :
    subCall p ⟨m, n :: rest⟩ = ⟨m, Sub.mapName p n :: rest⟩ := by
  obtain ⟨_, _, _, ips, hips, _, hs⟩ := repoFirst_unfold m k h
  obtain ⟨ips', hips', hlen⟩ := wf_unfold _ hwf
  simp only [hips, Option.some.injEq] at hips'
  subst hips'
  simp only [List.length_cons, Nat.add_right_cancel_iff] at hlen
  have e3 : Sub.specMapped m "repo" = true := by simp [Sub.specMapped, Sub.isRepoParam]
  -- the other arguments are not mapped: what is left of the zip is its second component
  have e4 : ((ips.zip rest).map fun x => if Sub.specMapped m x.1 then Sub.mapName p x.2 else x.2) = rest := by
    rw [List.map_congr_left (g := Prod.snd) fun x hx => by simp [hs x.1 (List.of_mem_zip hx).1],
      List.map_snd_zip (by omega)]
  simp [subCall, hips, subArgs, e3, e4]

theorem layerCall_repoFirst (l : Layer ε) (m : String) (k : Kind) (h : repoFirst m k = true) (n : Bytes)
    (rest : List Bytes) (hwf : wf ⟨m, n :: rest⟩ = true) :
    layerCall l ⟨m, n :: rest⟩ = ⟨m, layerName l n :: rest⟩ ∧ wf ⟨m, layerName l n :: rest⟩ = true := by
  have hc : layerCall l ⟨m, n :: rest⟩ = ⟨m, layerName l n :: rest⟩ := by
    cases l with
    | sub p =>
      by_cases hp : p = []
      · simp [layerCall, layerName, hp]
      · simp [layerCall, layerName, hp, subCall_repoFirst p m k h n rest hwf]
    | _ => rfl
  exact ⟨hc, hc ▸ layerCall_wf l _ hwf⟩

theorem stackCall_repoFirst (stack : List (Layer ε)) (m : String) (k : Kind) (h : repoFirst m k = true)
    (n : Bytes) (rest : List Bytes) (hwf : wf ⟨m, n :: rest⟩ = true) :
    stackCall stack ⟨m, n :: rest⟩ = ⟨m, stackName stack n :: rest⟩ := by
  induction stack generalizing n with
  | nil => rfl
  | cons l ls ih =>
    obtain ⟨hc, hwf'⟩ := layerCall_repoFirst l m k h n rest hwf
    simp only [stackCall, stackName, hc]
    exact ih _ hwf'

theorem verdict_none_of_allowed (stack : List (Layer ε)) (m : String) (k : Kind) (h : repoFirst m k = true)
    (hmut : WrapRO.isMutatorMethod m = false) (n : Bytes) (rest : List Bytes)
    (hwf : wf ⟨m, n :: rest⟩ = true) (hallow : Allowed k stack n) :
    verdict stack ⟨m, n :: rest⟩ = none := by
  induction stack generalizing n with
  | nil => rfl
  | cons l ls ih =>
    obtain ⟨hc, hwf'⟩ := layerCall_repoFirst l m k h n rest hwf
    simp only [verdict, hc]
    cases l with
    | select chk =>
      simp only [Allowed] at hallow
      simp only [layerVerdict, callChecks_repoFirst m k h, firstReject, hallow.1]
      exact ih _ hwf' hallow.2
    | readOnly e =>
      simp only [layerVerdict, hmut, Bool.false_eq_true, if_false]
      exact ih _ hwf' hallow
    | _ => exact ih _ hwf' hallow

theorem verdict_isSome_of_refused (stack : List (Layer ε)) (m : String) (k : Kind) (h : repoFirst m k = true)
    (n : Bytes) (rest : List Bytes) (hwf : wf ⟨m, n :: rest⟩ = true) (href : Refused k stack n) :
    (verdict stack ⟨m, n :: rest⟩).isSome = true := by
  induction stack generalizing n with
  | nil => exact absurd href (by simp [Refused])
  | cons l ls ih =>
    obtain ⟨hc, hwf'⟩ := layerCall_repoFirst l m k h n rest hwf
    simp only [verdict, hc]
    cases l with
    | select chk =>
      simp only [Refused] at href
      simp only [layerVerdict, callChecks_repoFirst m k h, firstReject]
      cases hchk : chk n k with
      | some e => rfl
      | none =>
        rcases href with href | href
        · simp [hchk] at href
        · exact ih _ hwf' href
    | readOnly e =>
      simp only [layerVerdict]
      split
      · rfl
      · exact ih _ hwf' href
    | _ => exact ih _ hwf' href

/-- Where a refusal comes from: the policy of a `select` layer, or a `readOnly` layer. -/
def errorsOf : List (Layer ε) → ε → Prop
  | [], _ => False
  | .select chk :: ls, e => (∃ n k, chk n k = some e) ∨ errorsOf ls e
  | .readOnly u :: ls, e => e = u ∨ errorsOf ls e
  | _ :: ls, e => errorsOf ls e

theorem verdict_origin (stack : List (Layer ε)) (c : Call) (e : ε) (h : verdict stack c = some e) :
    errorsOf stack e := by
  induction stack generalizing c with
  | nil => simp [verdict] at h
  | cons l ls ih =>
    simp only [verdict] at h
    cases l with
    | select chk =>
      simp only [layerVerdict] at h
      simp only [errorsOf]
      cases hfr : firstReject chk (callChecks c) with
      | some e' =>
        rw [hfr] at h
        simp only [Option.some.injEq] at h
        subst h
        obtain ⟨x, _, hx⟩ := firstReject_some_mem chk _ _ hfr
        exact Or.inl ⟨x.1, x.2, hx⟩
      | none =>
        rw [hfr] at h
        exact Or.inr (ih _ h)
    | readOnly u =>
      simp only [errorsOf]
      by_cases hmut : WrapRO.isMutatorMethod c.method = true
      · simp only [layerVerdict, hmut, if_true, Option.some.injEq] at h
        exact Or.inl h.symm
      · simp only [layerVerdict, hmut, Bool.false_eq_true, if_false] at h
        exact Or.inr (ih _ h)
    | _ => exact ih _ h

/-! ### Listings -/

theorem debugList_items (ns : List Bytes) : debugList (ε := ε) (ns.map .item) = ns.map .item := by
  induction ns with
  | nil => rfl
  | cons n ns ih =>
    simp only [debugList, List.map_cons, toIterEv, Iter.cut, ofIterEv] at ih ⊢
    rw [ih]

/-! ### `Mem` at the bottom -/

theorem step_of_memRead {H : Bytes → Bytes} {dec : Bytes → Int} {s : Mem.State} {sc : Scope} {c : Call}
    {op : Mem.Op} {o : Mem.Out} (ha : some o = memRead H dec s sc c)
    (hop : memRead H dec s sc c = some (Mem.step H s op).2) : Mem.step H s op = ((Mem.step H s op).1, o) := by
  rw [hop, Option.some.injEq] at ha
  rw [ha]

/-! ### The adapters agree with the wrappers' own models

Each statement names the run of the wrapper's own model that the layer is read from, says what that
run is by the wrapper's own theorem, and says that the layer's answer is the corresponding one. -/

/-- `select`: `Select.call` on the method's row either makes exactly the call `c` on the next layer and
returns its answer (C12 `allowed_transparent`) — and that answer is the layer's —, or is the policy's
refusal with no call (C12 `denied_no_backend_call`) — and that refusal is the layer's. -/
theorem select_adapter_eq (hok : TablesOk = true) (chk : Policy ε) (next : Backend ε ρ) (sc : Scope) (c : Call)
    (hwf : wf c = true) (hm : c.method ≠ "Repositories") :
    ∃ r, selRow c.method = some r ∧
      ((Select.call chk (next sc) (bindArgs r.params c.args) r = ⟨.returned (next sc c), [c]⟩ ∧
          selectLayer chk next sc c = next sc c) ∨
       (∃ e, Select.call chk (next sc) (bindArgs r.params c.args) r = ⟨.rejected e, []⟩ ∧
          selectLayer chk next sc c = ⟨.rejected e, []⟩)) := by
  obtain ⟨r, hr, _, hcall⟩ := select_call_eq hok chk (next sc) c hwf hm
  have hl := selectLayer_eq hok chk next sc c hwf hm
  refine ⟨r, hr, ?_⟩
  rw [hcall, hl]
  cases firstReject chk (callChecks c) with
  | none => exact Or.inl ⟨rfl, rfl⟩
  | some e => exact Or.inr ⟨e, rfl, rfl⟩

/-- `sub`: `Sub.call` on the method's row is one call, `subCall p c`, with the scopes mapped (C13
`sub_name_map`), and the layer's answer is the next layer's answer to it. -/
theorem sub_adapter_eq (hok : TablesOk = true) (p : Bytes) (next : Backend ε ρ) (sc : Scope) (c : Call)
    (hwf : wf c = true) (hm : c.method ≠ "Repositories") :
    ∃ r, subRow c.method = some r ∧
      Sub.call p (bindArgs r.params c.args) sc r = .ok (subCall p c) (Sub.mapScopes p sc) ∧
      subLayer p next sc c = next (Sub.mapScopes p sc) (subCall p c) := by
  obtain ⟨r, hr, _, _, hcall⟩ := sub_call_eq hok p sc c hwf
  exact ⟨r, hr, hcall, subLayer_eq hok p next sc c hwf hm⟩

/-- `debug`: `Iter.call` on the method's row is one call of the same method with the caller's context and
arguments, transparent in the sense of C05D (`debug_call_transparent`); for a plain method the layer's
answer is the next layer's answer to that call. -/
theorem debug_adapter_eq (hok : TablesOk = true) (next : Backend ε ρ) (sc : Scope) (c : Call)
    (hwf : wf c = true) (hpl : plainMethod c.method = true) :
    ∃ r o, dbgRow c.method = some r ∧
      Iter.call (V := Bytes) (E := Out ε ρ)
        (fun dc => ⟨none, some (next (if dc.ctx then sc else Scope.empty) ⟨dc.method, dc.args⟩)⟩)
        (bindArgs r.params c.args) r = some o ∧
      Iter.Transparent ⟨"r.r", c.method, true, c.args⟩ ⟨none, some (next sc c)⟩ o ∧
      debugLayer next sc c = next sc c := by
  obtain ⟨r, hr, hrm, hrok, _, henv⟩ := dbg_facts hok c hwf
  obtain ⟨o, ho, htr⟩ := Props.C05D.debug_call_transparent (V := Bytes) (E := Out ε ρ) "r.r" r hrok
    (fun dc => ⟨none, some (next (if dc.ctx then sc else Scope.empty) ⟨dc.method, dc.args⟩)⟩)
    (bindArgs r.params c.args)
  refine ⟨r, o, hr, ho, ?_, debugLayer_eq hok next sc c hwf hpl⟩
  simpa [henv, hrm] using htr

/-- `readOnly`: whatever registry `ReadOnly` wraps, `roStep` on the method's operation either hands the
operation on, one call (C14W `readonly_reads_transparent`) — then the layer hands the call on —, or answers
"unsupported" without a call (C14W `readonly_mutators_unsupported`) — then the layer refuses. -/
theorem readOnly_adapter_eq (hok : TablesOk = true) (e : ε) (next : Backend ε ρ) (sc : Scope) (c : Call)
    (hwf : wf c = true) :
    ∃ op, opOf c.method = some op ∧ WrapRO.methodOf op = some c.method ∧
      ∀ (S : Type) (B : WrapRO.Backend S) (s : S),
        (WrapRO.roStep B s op = ((B s op).1, some (B s op).2, [op]) ∧ roLayer e next sc c = next sc c) ∨
        (WrapRO.roStep B s op = (s, some (.err "UNSUPPORTED"), []) ∧
          roLayer e next sc c = ⟨.rejected e, []⟩) := by
  obtain ⟨op, hop, hmo, hstep⟩ := roStep_eq hok c hwf
  refine ⟨op, hop, hmo, fun S B s => ?_⟩
  rw [hstep, roLayer_eq hok e next sc c hwf]
  cases WrapRO.isMutatorMethod c.method
  · exact Or.inl ⟨rfl, rfl⟩
  · exact Or.inr ⟨rfl, rfl⟩

end OciModel.Stack
