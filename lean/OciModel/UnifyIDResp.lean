/-
`goStr` (UnifyID.lean) generalises the string encoder of the response codec (`RespCodec.jsonStr`,
used for tag and repository names, which are ASCII): they agree on every string without a byte
≥ 0x80; beyond that `goStr` also mirrors U+FFFD replacement and the U+2028/9 escapes.
-/
import OciModel.UnifyID
import OciModel.RespCodec
namespace OciModel.UnifyID
open OciModel OciModel.Json

/-- The two are the same chain of tests, written on `c.toNat` here and on `c` there. -/
theorem asciiEsc_eq_jsonChar (c : UInt8) : asciiEsc c = RespCodec.jsonChar c := by
  have hx : RespCodec.hexLower = hexDigit := rfl
  simp only [asciiEsc, RespCodec.jsonChar, hx, beq_iff_eq, Bool.or_eq_true, decide_eq_true_eq, ← UInt8.toNat_inj,
    UInt8.lt_iff_toNat_lt, UInt8.reduceToNat, or_assoc]

theorem goEsc_ascii (s : Bytes) (h : ∀ c ∈ s, c.toNat < 0x80) : goEsc 0 0 s = s.flatMap asciiEsc := by
  induction s with
  | nil => rfl
  | cons c s ih =>
    have hc := h c (by simp)
    simp [goEsc, hc, ih (fun x hx => h x (by simp [hx]))]

theorem goStr_eq_jsonStr (s : Bytes) (h : ∀ c ∈ s, c.toNat < 0x80) : goStr s = RespCodec.jsonStr s := by
  have e : asciiEsc = RespCodec.jsonChar := funext asciiEsc_eq_jsonChar
  simp only [goStr, goEscape, goEsc_ascii s h, e, RespCodec.jsonStr, List.cons_append, List.nil_append]

end OciModel.UnifyID
