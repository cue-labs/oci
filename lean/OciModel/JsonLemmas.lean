/-
Lemmas about the JSON reader (`Json.lean`): the lexer branch by branch and one step of it, UTF-8
sequences, quoting and unquoting, number literals; the canonical rendering read back (`parse_print`,
also with white space around it), nothing after the value (`parse_append_none`), and that whatever
is read is well formed (`parse_wf`).
-/
import OciModel.Json
namespace OciModel.Json

/-! ## Skip counters -/

theorem skip_drop {α : Type} (g : Nat → Bytes → α) (h0 : ∀ n, g (n + 1) [] = g 0 [])
    (h1 : ∀ n c bs, g (n + 1) (c :: bs) = g n bs) (n : Nat) (bs : Bytes) : g n bs = g 0 (bs.drop n) := by
  induction n generalizing bs with
  | zero => simp
  | succ n ih =>
    cases bs with
    | nil => simp [h0]
    | cons c bs => simp [h1, ih bs]

theorem lexGo_drop (n : Nat) (bs : Bytes) : lexGo n bs = lexGo 0 (bs.drop n) :=
  skip_drop lexGo (by simp [lexGo]) (by simp [lexGo]) n bs

theorem lexGo_skip (pre r : Bytes) : lexGo pre.length (pre ++ r) = lexGo 0 r := by
  rw [lexGo_drop]; simp

theorem unqGo_drop (n : Nat) (bs : Bytes) : unqGo n bs = unqGo 0 (bs.drop n) :=
  skip_drop unqGo (by simp [unqGo]) (by simp [unqGo]) n bs

theorem validGo_drop (n : Nat) (bs : Bytes) : validGo n bs = validGo 0 (bs.drop n) :=
  skip_drop validGo (by simp [validGo]) (by simp [validGo]) n bs

/-! ## The lexer at one byte, branch by branch -/

theorem lexGo_wsByte {c : UInt8} (h : isWs c = true) (r : Bytes) : lexGo 0 (c :: r) = lexGo 0 r := by
  rw [lexGo, if_pos h]

theorem lexGo_punct (c : UInt8) (tk : Tok) (r : Bytes)
    (h : (c.toNat = 0x7B ∧ tk = .lbrace) ∨ (c.toNat = 0x7D ∧ tk = .rbrace) ∨ (c.toNat = 0x5B ∧ tk = .lbrack) ∨
      (c.toNat = 0x5D ∧ tk = .rbrack) ∨ (c.toNat = 0x3A ∧ tk = .colon) ∨ (c.toNat = 0x2C ∧ tk = .comma)) :
    lexGo 0 (c :: r) = consTok tk (lexGo 0 r) := by
  rw [lexGo]
  rcases h with ⟨h, rfl⟩ | ⟨h, rfl⟩ | ⟨h, rfl⟩ | ⟨h, rfl⟩ | ⟨h, rfl⟩ | ⟨h, rfl⟩ <;> simp [isWs, h]

theorem lexGo_quote {c : UInt8} (h : c.toNat = 0x22) (r : Bytes) :
    lexGo 0 (c :: r) = match spanStr r with
      | some n => consTok (.str (unquote (r.take n))) (lexGo (n + 1) r)
      | none => none := by
  rw [lexGo]; simp [isWs, h]; rfl

theorem lexGo_lit (c : UInt8) (l : Bytes) (tk : Tok) (r : Bytes)
    (h : (c.toNat = 0x74 ∧ l = litRue ∧ tk = .tru) ∨ (c.toNat = 0x66 ∧ l = litAlse ∧ tk = .fls) ∨
      (c.toNat = 0x6E ∧ l = litUll ∧ tk = .null)) :
    lexGo 0 (c :: r) = if r.take l.length = l then consTok tk (lexGo l.length r) else none := by
  rw [lexGo]
  rcases h with ⟨h, rfl, rfl⟩ | ⟨h, rfl, rfl⟩ | ⟨h, rfl, rfl⟩ <;> (simp [isWs, h, litRue, litAlse, litUll]; rfl)

theorem lexGo_other {c : UInt8} (hws : isWs c = false) (h1 : c.toNat ≠ 0x7B) (h2 : c.toNat ≠ 0x7D) (h3 : c.toNat ≠ 0x5B)
    (h4 : c.toNat ≠ 0x5D) (h5 : c.toNat ≠ 0x3A) (h6 : c.toNat ≠ 0x2C) (h7 : c.toNat ≠ 0x22) (h8 : c.toNat ≠ 0x74)
    (h9 : c.toNat ≠ 0x66) (h10 : c.toNat ≠ 0x6E) (r : Bytes) :
    lexGo 0 (c :: r) = match spanNum (c :: r) with
      | some (n + 1) => consTok (.num (c :: r.take n)) (lexGo n r)
      | _ => none := by
  rw [lexGo, if_neg (by simp [hws]), if_neg h1, if_neg h2, if_neg h3, if_neg h4, if_neg h5, if_neg h6, if_neg h7, if_neg h8,
    if_neg h9, if_neg h10]
  rfl

theorem lexGo_null (r : Bytes) : lexGo 0 (0x6E :: 0x75 :: 0x6C :: 0x6C :: r) = consTok .null (lexGo 0 r) :=
  (lexGo_lit 0x6E litUll .null _ (Or.inr (Or.inr ⟨by decide, rfl, rfl⟩))).trans (if_pos rfl)
theorem lexGo_true (r : Bytes) : lexGo 0 (0x74 :: 0x72 :: 0x75 :: 0x65 :: r) = consTok .tru (lexGo 0 r) :=
  (lexGo_lit 0x74 litRue .tru _ (Or.inl ⟨by decide, rfl, rfl⟩)).trans (if_pos rfl)
theorem lexGo_false (r : Bytes) : lexGo 0 (0x66 :: 0x61 :: 0x6C :: 0x73 :: 0x65 :: r) = consTok .fls (lexGo 0 r) :=
  (lexGo_lit 0x66 litAlse .fls _ (Or.inr (Or.inl ⟨by decide, rfl, rfl⟩))).trans (if_pos rfl)

/-! ## Hex digits -/

theorem hexDigit_toNat : ∀ n, n < 16 → (hexDigit n).toNat = if n < 10 then 48 + n else 87 + n := by decide +kernel

theorem hexVal_hexDigit : ∀ n, n < 16 → hexVal (hexDigit n) = some n := by decide +kernel

theorem hexVal_zero : hexVal 0x30 = some 0 := by decide

/-! ## UTF-8 -/

theorem isCont_ge {c : UInt8} (h : isCont c = true) : 0x80 ≤ c.toNat := by
  simp [isCont] at h; omega

theorem seqLen_ascii {c : UInt8} (h : c.toNat < 0x80) (bs : Bytes) : seqLen c bs = 1 := by
  unfold seqLen; simp [h]

theorem seqLen_nolead {c : UInt8} (h : 0x80 ≤ c.toNat) (h' : c.toNat < 0xC2 ∨ 0xF5 ≤ c.toNat) (bs : Bytes) :
    seqLen c bs = 0 := by
  unfold seqLen
  simp only
  rcases h' with h' | h'
  · rw [if_neg (by omega), if_pos h']
  · rw [if_neg (by omega), if_neg (by omega), if_neg (by omega), if_neg (by omega), if_neg (by omega)]

/-- `utf8.DecodeRune`'s accept ranges: the bounds on the byte after lead byte `c` (narrower after
`0xE0`, `0xF0`: no overlong form; after `0xED`: no surrogate; after `0xF4`: nothing above U+10FFFF). -/
def accepts (c c1 : UInt8) : Bool :=
  (if c.toNat = 0xE0 then 0xA0 else if c.toNat = 0xF0 then 0x90 else 0x80) ≤ c1.toNat &&
    c1.toNat ≤ (if c.toNat = 0xED then 0x9F else if c.toNat = 0xF4 then 0x8F else 0xBF)

theorem accepts_ge {c c1 : UInt8} (h : accepts c c1 = true) : 0x80 ≤ c1.toNat := by
  simp only [accepts, Bool.and_eq_true, decide_eq_true_eq] at h
  have := h.1
  repeat' split at this
  all_goals omega

theorem accepts_of {c c1 : UInt8} (h : 0x80 ≤ c1.toNat ∧ c1.toNat ≤ 0xBF) (hE0 : c.toNat = 0xE0 → 0xA0 ≤ c1.toNat)
    (hF0 : c.toNat = 0xF0 → 0x90 ≤ c1.toNat) (hED : c.toNat = 0xED → c1.toNat ≤ 0x9F)
    (hF4 : c.toNat = 0xF4 → c1.toNat ≤ 0x8F) : accepts c c1 = true := by
  simp only [accepts, Bool.and_eq_true, decide_eq_true_eq]
  constructor
  · by_cases e : c.toNat = 0xE0
    · rw [if_pos e]; exact hE0 e
    by_cases f : c.toNat = 0xF0
    · rw [if_neg e, if_pos f]; exact hF0 f
    · rw [if_neg e, if_neg f]; exact h.1
  · by_cases e : c.toNat = 0xED
    · rw [if_pos e]; exact hED e
    by_cases f : c.toNat = 0xF4
    · rw [if_neg e, if_pos f]; exact hF4 f
    · rw [if_neg e, if_neg f]; exact h.2

theorem seqLen_lead2 {c : UInt8} (h : 0xC2 ≤ c.toNat) (h' : c.toNat < 0xE0) (bs : Bytes) :
    seqLen c bs = match bs with
      | c1 :: _ => if isCont c1 then 2 else 0
      | _ => 0 := by
  unfold seqLen
  simp only
  rw [if_neg (by omega), if_neg (by omega), if_pos h']
  rfl

theorem seqLen_lead3 {c : UInt8} (h : 0xE0 ≤ c.toNat) (h' : c.toNat < 0xF0) (bs : Bytes) :
    seqLen c bs = match bs with
      | c1 :: c2 :: _ => if accepts c c1 && isCont c2 then 3 else 0
      | _ => 0 := by
  unfold seqLen accepts
  simp only
  rw [if_neg (by omega), if_neg (by omega), if_neg (by omega), if_pos h',
    if_neg (show ¬ c.toNat = 0xF0 by omega), if_neg (show ¬ c.toNat = 0xF4 by omega)]
  rfl

theorem seqLen_lead4 {c : UInt8} (h : 0xF0 ≤ c.toNat) (h' : c.toNat < 0xF5) (bs : Bytes) :
    seqLen c bs = match bs with
      | c1 :: c2 :: c3 :: _ => if accepts c c1 && isCont c2 && isCont c3 then 4 else 0
      | _ => 0 := by
  unfold seqLen accepts
  simp only
  rw [if_neg (by omega), if_neg (by omega), if_neg (by omega), if_neg (by omega), if_pos h',
    if_neg (show ¬ c.toNat = 0xE0 by omega), if_neg (show ¬ c.toNat = 0xED by omega)]
  rfl

theorem seqLen_cases (c : UInt8) (bs : Bytes) :
    (c.toNat < 0x80 ∧ seqLen c bs = 1) ∨ (0x80 ≤ c.toNat ∧ seqLen c bs = 0) ∨
    (0x80 ≤ c.toNat ∧ ∃ pre t, bs = pre ++ t ∧ pre ≠ [] ∧ (∀ x ∈ pre, 0x80 ≤ x.toNat) ∧
      ∀ t', seqLen c (pre ++ t') = pre.length + 1) := by
  by_cases h0 : c.toNat < 0x80
  · exact Or.inl ⟨h0, seqLen_ascii h0 bs⟩
  have h0' : 0x80 ≤ c.toNat := by omega
  refine Or.inr ?_
  by_cases h1 : c.toNat < 0xC2
  · exact Or.inl ⟨h0', seqLen_nolead h0' (Or.inl h1) bs⟩
  by_cases h2 : c.toNat < 0xE0
  · have e := seqLen_lead2 (by omega) h2
    match bs with
    | [] => exact Or.inl ⟨h0', e []⟩
    | c1 :: t =>
      by_cases hc : isCont c1 = true
      · exact Or.inr ⟨h0', [c1], t, rfl, by simp, by simpa using isCont_ge hc, fun t' => (e _).trans (if_pos hc)⟩
      · exact Or.inl ⟨h0', (e _).trans (if_neg hc)⟩
  by_cases h3 : c.toNat < 0xF0
  · have e := seqLen_lead3 (by omega) h3
    match bs with
    | [] => exact Or.inl ⟨h0', e []⟩
    | [_] => exact Or.inl ⟨h0', e [_]⟩
    | c1 :: c2 :: t =>
      by_cases hc : (accepts c c1 && isCont c2) = true
      · have hc' := hc
        rw [Bool.and_eq_true] at hc'
        exact Or.inr ⟨h0', [c1, c2], t, rfl, by simp, by simp [accepts_ge hc'.1, isCont_ge hc'.2],
          fun t' => (e _).trans (if_pos hc)⟩
      · exact Or.inl ⟨h0', (e _).trans (if_neg hc)⟩
  by_cases h4 : c.toNat < 0xF5
  · have e := seqLen_lead4 (by omega) h4
    match bs with
    | [] => exact Or.inl ⟨h0', e []⟩
    | [_] => exact Or.inl ⟨h0', e [_]⟩
    | [_, _] => exact Or.inl ⟨h0', e [_, _]⟩
    | c1 :: c2 :: c3 :: t =>
      by_cases hc : (accepts c c1 && isCont c2 && isCont c3) = true
      · have hc' := hc
        simp only [Bool.and_eq_true] at hc'
        exact Or.inr ⟨h0', [c1, c2, c3], t, rfl, by simp,
          by simp [accepts_ge hc'.1.1, isCont_ge hc'.1.2, isCont_ge hc'.2], fun t' => (e _).trans (if_pos hc)⟩
      · exact Or.inl ⟨h0', (e _).trans (if_neg hc)⟩
  · exact Or.inl ⟨h0', seqLen_nolead h0' (Or.inr (by omega)) bs⟩

theorem seqLen_one {c : UInt8} {bs : Bytes} (h : seqLen c bs = 1) : c.toNat < 0x80 := by
  rcases seqLen_cases c bs with ⟨h0, _⟩ | ⟨_, h0⟩ | ⟨_, pre, t, rfl, hne, _, hall⟩
  · exact h0
  · omega
  · have := (hall t).symm.trans h
    exact absurd (List.eq_nil_of_length_eq_zero (by omega)) hne

theorem seqLen_spec (c : UInt8) (bs : Bytes) (k : Nat) (h : seqLen c bs = k + 2) :
    ∃ pre t, bs = pre ++ t ∧ pre.length = k + 1 ∧ (∀ x ∈ pre, 0x80 ≤ x.toNat) ∧ 0x80 ≤ c.toNat ∧
      ∀ t', seqLen c (pre ++ t') = k + 2 := by
  rcases seqLen_cases c bs with ⟨_, h0⟩ | ⟨_, h0⟩ | ⟨hc, pre, t, rfl, _, hpre, hall⟩
  · omega
  · omega
  · have hk : pre.length = k + 1 := by have := hall t; omega
    exact ⟨pre, t, rfl, hk, hpre, hc, fun t' => by rw [hall t', hk]⟩

/-! ## Strings: quoting and unquoting -/

theorem escByte_plain {c : UInt8} (h : 0x80 ≤ c.toNat) : escByte c = [c] := by
  unfold escByte
  rw [if_neg (by omega), if_neg (by omega), if_neg (by omega)]

theorem escByte_cases (c : UInt8) :
    (∃ e, escByte c = [0x5C, e] ∧ e.toNat ≠ 0x75 ∧ isSimpleEsc e = true ∧ simpleEsc e = c) ∨
    (c.toNat < 0x20 ∧ escByte c = [0x5C, 0x75, 0x30, 0x30, hexDigit (c.toNat / 16), hexDigit (c.toNat % 16)]) ∨
    (escByte c = [c] ∧ c.toNat ≠ 0x22 ∧ c.toNat ≠ 0x5C ∧ 0x20 ≤ c.toNat) := by
  unfold escByte
  by_cases hq : c.toNat = 0x22
  · rw [if_pos hq]
    exact Or.inl ⟨0x22, rfl, by decide, by decide, (UInt8.toNat_inj.mp hq).symm⟩
  by_cases hb : c.toNat = 0x5C
  · rw [if_neg hq, if_pos hb]
    exact Or.inl ⟨0x5C, rfl, by decide, by decide, (UInt8.toNat_inj.mp hb).symm⟩
  by_cases hctl : c.toNat < 0x20
  · rw [if_neg hq, if_neg hb, if_pos hctl]
    exact Or.inr (Or.inl ⟨hctl, rfl⟩)
  · rw [if_neg hq, if_neg hb, if_neg hctl]
    exact Or.inr (Or.inr ⟨rfl, hq, hb, by omega⟩)

theorem escape_plain_prefix (pre t : Bytes) (h : ∀ x ∈ pre, 0x80 ≤ x.toNat) :
    escape (pre ++ t) = pre ++ escape t := by
  induction pre with
  | nil => rfl
  | cons c pre ih =>
    have hc := h c (by simp)
    simp [escape, escByte_plain hc, ih (fun x hx => h x (by simp [hx]))]

theorem hex4_u00 (c : UInt8) (r : Bytes) :
    hex4 (0x30 :: 0x30 :: hexDigit (c.toNat / 16) :: hexDigit (c.toNat % 16) :: r) = some c.toNat := by
  have hc := c.toNat_lt
  simp only [hex4, hexVal_zero, hexVal_hexDigit (c.toNat / 16) (by omega), hexVal_hexDigit (c.toNat % 16) (by omega)]
  congr 1; omega

theorem escAt_u00 (c : UInt8) (hc : c.toNat < 0x80) (r : Bytes) :
    escAt (0x75 :: 0x30 :: 0x30 :: hexDigit (c.toNat / 16) :: hexDigit (c.toNat % 16) :: r) = ([c], 5) := by
  unfold escAt
  simp only [hex4_u00]
  rw [if_pos (by decide), if_neg (by omega)]
  simp [encodeRune, hc]

theorem escAt_simple (e : UInt8) (r : Bytes) (h : e.toNat ≠ 0x75) (hs : isSimpleEsc e = true) :
    escAt (e :: r) = ([simpleEsc e], 1) := by
  unfold escAt; simp [h, hs]

/-! `unqGo` at the start of a unit, by what the unit is. -/

theorem unqGo_esc (bs : Bytes) : unqGo 0 (0x5C :: bs) = (escAt bs).1 ++ unqGo (escAt bs).2 bs := by
  rw [unqGo]; exact if_pos (by decide)

theorem unqGo_bad {c : UInt8} {bs : Bytes} (hb : c.toNat ≠ 0x5C) (h : seqLen c bs = 0) :
    unqGo 0 (c :: bs) = replacement ++ unqGo 0 bs := by
  rw [unqGo, if_neg hb, h]

theorem unqGo_seq {c : UInt8} {pre r : Bytes} (hb : c.toNat ≠ 0x5C) (h : seqLen c (pre ++ r) = pre.length + 1) :
    unqGo 0 (c :: (pre ++ r)) = c :: (pre ++ unqGo pre.length (pre ++ r)) := by
  rw [unqGo, if_neg hb, h]
  simp only [List.take_left]
  rfl

theorem unqGo_ascii {c : UInt8} (h : c.toNat < 0x80) (hb : c.toNat ≠ 0x5C) (bs : Bytes) :
    unqGo 0 (c :: bs) = c :: unqGo 0 bs := by
  rw [unqGo, if_neg hb, seqLen_ascii h]; rfl

theorem unqGo_escByte {c : UInt8} (h : c.toNat < 0x80) (r : Bytes) : unqGo 0 (escByte c ++ r) = c :: unqGo 0 r := by
  rcases escByte_cases c with ⟨e, he, hu, hs, hc⟩ | ⟨hctl, he⟩ | ⟨he, _, hb, _⟩
  · rw [he]
    show unqGo 0 (0x5C :: e :: r) = _
    rw [unqGo_esc, escAt_simple e r hu hs, hc]; rfl
  · rw [he]
    show unqGo 0 (0x5C :: 0x75 :: 0x30 :: 0x30 :: hexDigit (c.toNat / 16) :: hexDigit (c.toNat % 16) :: r) = _
    rw [unqGo_esc, escAt_u00 c h]; rfl
  · rw [he]; exact unqGo_ascii h hb r

/-- Unquoting undoes escaping, with the skip counter: `n` bytes of a multi-byte sequence are still to be
passed over; `escape` has left them as they are (none of them is ASCII), and so does `unqGo`. -/
theorem unq_escape : ∀ (s : Bytes) (n : Nat), (∀ x ∈ s.take n, 0x80 ≤ x.toNat) → n ≤ s.length →
    validGo n s = true → unqGo n (escape s) = s.drop n := by
  intro s
  induction s with
  | nil => intro n _ hn _; simp at hn; subst hn; rfl
  | cons c s ih =>
    intro n hpre hn hv
    cases n with
    | succ m =>
      have hc : 0x80 ≤ c.toNat := hpre c (by simp)
      simp only [escape, escByte_plain hc, List.cons_append, List.nil_append, unqGo, List.drop_succ_cons]
      apply ih m
      · intro x hx; exact hpre x (by simp [hx])
      · simpa using hn
      · simpa [validGo] using hv
    | zero =>
      rw [validGo] at hv
      rw [escape, List.drop_zero]
      rcases seqLen_cases c s with ⟨h80, h1⟩ | ⟨_, h0⟩ | ⟨h80, pre, t, rfl, _, hplain, hall⟩
      · rw [h1] at hv
        rw [unqGo_escByte h80, ih 0 (by simp) (by simp) hv]; rfl
      · rw [h0] at hv; cases hv
      · -- a multi-byte sequence: `escape` leaves it alone
        rw [hall t] at hv
        have hi := ih pre.length (by simpa using hplain) (by simp) hv
        rw [escape_plain_prefix pre t hplain, List.drop_left] at hi
        rw [escByte_plain h80, escape_plain_prefix pre t hplain, List.cons_append, List.nil_append,
          unqGo_seq (by omega) (hall _), hi]

theorem unquote_escape (s : Bytes) (h : ValidUtf8 s) : unquote (escape s) = s := by
  have := unq_escape s 0 (by simp) (by simp) h
  simpa [unquote] using this

theorem spanGo_skip (pre r : Bytes) :
    spanGo pre.length (pre ++ r) = (spanGo 0 r).map (· + pre.length) := by
  induction pre with
  | nil => simp
  | cons c pre ih =>
    simp only [List.length_cons, List.cons_append, spanGo, ih, Option.map_map]
    congr 1

theorem spanGo_escByte (c : UInt8) (r : Bytes) :
    spanGo 0 (escByte c ++ r) = (spanGo 0 r).map (· + (escByte c).length) := by
  rcases escByte_cases c with ⟨e, he, hu, hs, _⟩ | ⟨_, he⟩ | ⟨he, hq, hb, hctl⟩
  · rw [he, List.cons_append, spanGo, if_neg (by decide), if_pos (by decide)]
    simp only [List.cons_append, List.nil_append, escLen, if_neg hu, hs, if_true]
    exact spanGo_skip [0x5C, e] r
  · rw [he, List.cons_append, spanGo, if_neg (by decide), if_pos (by decide)]
    simp only [List.cons_append, List.nil_append, escLen, hex4_u00, Option.isSome_some, if_true]
    rw [if_pos (by decide)]
    exact spanGo_skip [0x5C, 0x75, 0x30, 0x30, _, _] r
  · rw [he, List.cons_append, spanGo, if_neg hq, if_neg hb, if_neg (by omega)]; rfl

theorem spanStr_escape (s r : Bytes) : spanGo 0 (escape s ++ 0x22 :: r) = some (escape s).length := by
  induction s with
  | nil => rfl
  | cons c s ih =>
    rw [escape, List.append_assoc, spanGo_escByte, ih, List.length_append, Nat.add_comm]; rfl

theorem lexGo_str (s r : Bytes) (h : ValidUtf8 s) :
    lexGo 0 (printStr s ++ r) = consTok (.str s) (lexGo 0 r) := by
  have hk := lexGo_skip (escape s ++ [0x22]) r
  rw [List.length_append, List.append_assoc] at hk
  rw [printStr, List.cons_append, List.append_assoc]
  show lexGo 0 (0x22 :: (escape s ++ 0x22 :: r)) = _
  rw [lexGo_quote (by decide), spanStr, spanStr_escape]
  dsimp only
  rw [List.take_left, unquote_escape s h]
  exact congrArg _ hk

/-! ## Numbers -/

theorem numStep_noCont {c : UInt8} (h : isNumCont c = false) (st : NumSt) : numStep st c = none := by
  have hd : ¬ (0x30 ≤ c.toNat ∧ c.toNat ≤ 0x39) := by
    intro hd; simp [isNumCont, isDigit, hd.1, hd.2] at h
  have h1 : ¬ c.toNat = 0x2E := by intro e; simp [isNumCont, e] at h
  have h2 : ¬ c.toNat = 0x65 := by intro e; simp [isNumCont, e] at h
  have h3 : ¬ c.toNat = 0x45 := by intro e; simp [isNumCont, e] at h
  have h4 : ¬ c.toNat = 0x2B := by intro e; simp [isNumCont, e] at h
  have h5 : ¬ c.toNat = 0x2D := by intro e; simp [isNumCont, e] at h
  have h6 : ¬ c.toNat = 0x30 := by omega
  cases st <;> simp [numStep, hd, h1, h2, h3, h4, h5, h6]

theorem numGo_append {r : Bytes} (hr : NoCont r) (st : NumSt) (a : Bytes) :
    numGo st (a ++ r) = numGo st a := by
  induction a generalizing st with
  | nil =>
    cases r with
    | nil => rfl
    | cons c r =>
      have := numStep_noCont (hr c rfl) st
      simp [numGo, this]
  | cons c a ih => simp [numGo, ih]

theorem numGo_some (st : NumSt) (a : Bytes) (k : Nat) (h : numGo st a = some k) :
    k ≤ a.length ∧ numGo st (a.take k) = some k ∧ (k < a.length → ∀ r, numGo st (a ++ r) = some k) := by
  induction a generalizing st k with
  | nil =>
    have hk : k = 0 := by rw [numGo] at h; split at h <;> cases h; rfl
    subst hk
    exact ⟨Nat.le_refl _, h, fun hlt => absurd hlt (Nat.lt_irrefl _)⟩
  | cons c a ih =>
    rw [numGo] at h
    cases hs : numStep st c with
    | none =>
      rw [hs] at h
      have hk : k = 0 := by dsimp only at h; split at h <;> cases h; rfl
      subst hk
      refine ⟨Nat.zero_le _, ?_, fun _ r => ?_⟩
      · rw [List.take_zero, numGo]; exact h
      · rw [List.cons_append, numGo, hs]; exact h
    | some st' =>
      rw [hs] at h
      dsimp only at h
      cases hg : numGo st' a with
      | none => rw [hg] at h; cases h
      | some k' =>
        rw [hg] at h; cases h
        obtain ⟨hle, htake, hin⟩ := ih st' k' hg
        refine ⟨Nat.succ_le_succ hle, ?_, fun hlt r => ?_⟩
        · rw [List.take_succ_cons, numGo, hs]; dsimp only; rw [htake]; rfl
        · rw [List.cons_append, numGo, hs]; dsimp only; rw [hin (Nat.lt_of_succ_lt_succ hlt) r]; rfl

theorem numStart {c : UInt8} {st : NumSt} (h : numStep .begin c = some st) :
    c.toNat = 0x2D ∨ (0x30 ≤ c.toNat ∧ c.toNat ≤ 0x39) := by
  simp only [numStep] at h
  split at h
  · left; assumption
  · split at h
    · right; omega
    · split at h
      · right; assumption
      · simp at h

theorem lexGo_num (t r : Bytes) (h : NumOK t) (hr : NoCont r) :
    lexGo 0 (t ++ r) = consTok (.num t) (lexGo 0 r) := by
  unfold NumOK spanNum at h
  cases t with
  | nil => simp [numGo, NumSt.accepting] at h
  | cons c t =>
    have hsp : spanNum (c :: (t ++ r)) = some (t.length + 1) := by
      have := numGo_append hr .begin (c :: t)
      simpa [spanNum, h] using this
    have hstart : c.toNat = 0x2D ∨ (0x30 ≤ c.toNat ∧ c.toNat ≤ 0x39) := by
      simp only [numGo] at h
      cases hs : numStep .begin c with
      | none => simp [hs, NumSt.accepting] at h
      | some st => exact numStart hs
    rw [List.cons_append, lexGo_other (by simp [isWs]; omega) (by omega) (by omega) (by omega) (by omega) (by omega)
      (by omega) (by omega) (by omega) (by omega) (by omega), hsp]
    dsimp only
    rw [List.take_left, lexGo_skip]

/-! ## The lexer on canonical text -/

theorem consTok_map (t : Tok) (ts : List Tok) (o : Option (List Tok)) :
    consTok t (o.map (ts ++ ·)) = o.map ((t :: ts) ++ ·) := by
  cases o <;> simp [consTok]

theorem noCont_cons {c : UInt8} (h : isNumCont c = false) (r : Bytes) : NoCont (c :: r) := by
  intro x hx; simp at hx; subst hx; exact h

mutual
theorem lex_print : ∀ (v : JVal) (r : Bytes), WF v → NoCont r →
    lexGo 0 (print v ++ r) = (lexGo 0 r).map (toks v ++ ·)
  | .null, r, _, _ => by simp [print, toks, lexGo_null, consTok]
  | .bool true, r, _, _ => by simp [print, toks, lexGo_true, consTok]
  | .bool false, r, _, _ => by simp [print, toks, lexGo_false, consTok]
  | .num t, r, h, hr => by simp [print, toks, lexGo_num t r h hr, consTok]
  | .str s, r, h, _ => by simp [print, toks, lexGo_str s r h, consTok]
  | .arr [], r, _, _ => by
    simp only [print, toks, List.cons_append, List.nil_append]
    rw [lexGo_punct 0x5B .lbrack _ (by decide), lexGo_punct 0x5D .rbrack _ (by decide)]
    cases lexGo 0 r <;> simp [consTok]
  | .arr (x :: xs), r, h, hr => by
    simp only [print, toks, List.cons_append, List.append_assoc]
    rw [lexGo_punct 0x5B .lbrack _ (by decide)]
    have hx : WF x := h.1
    have hxs : WFL xs := h.2
    rw [lex_print x (printTail xs ++ r) hx (by cases xs <;> exact noCont_cons (by decide) _)]
    rw [lex_printTail xs r hxs hr]
    cases lexGo 0 r <;> simp [consTok]
  | .obj [], r, _, _ => by
    simp only [print, toks, List.cons_append, List.nil_append]
    rw [lexGo_punct 0x7B .lbrace _ (by decide), lexGo_punct 0x7D .rbrace _ (by decide)]
    cases lexGo 0 r <;> simp [consTok]
  | .obj ((k, x) :: kvs), r, h, hr => by
    simp only [print, toks, List.cons_append, List.append_assoc]
    rw [lexGo_punct 0x7B .lbrace _ (by decide), lexGo_str k _ h.1, lexGo_punct 0x3A .colon _ (by decide)]
    rw [lex_print x (printMTail kvs ++ r) h.2.1 (by cases kvs <;> exact noCont_cons (by decide) _)]
    rw [lex_printMTail kvs r h.2.2 hr]
    cases lexGo 0 r <;> simp [consTok]
theorem lex_printTail : ∀ (xs : List JVal) (r : Bytes), WFL xs → NoCont r →
    lexGo 0 (printTail xs ++ r) = (lexGo 0 r).map (toksTail xs ++ ·)
  | [], r, _, _ => by
    simp only [printTail, toksTail, List.cons_append, List.nil_append]
    rw [lexGo_punct 0x5D .rbrack _ (by decide)]
    cases lexGo 0 r <;> simp [consTok]
  | x :: xs, r, h, hr => by
    simp only [printTail, toksTail, List.cons_append, List.append_assoc]
    rw [lexGo_punct 0x2C .comma _ (by decide)]
    rw [lex_print x (printTail xs ++ r) h.1 (by cases xs <;> exact noCont_cons (by decide) _)]
    rw [lex_printTail xs r h.2 hr]
    cases lexGo 0 r <;> simp [consTok]
theorem lex_printMTail : ∀ (kvs : List (Bytes × JVal)) (r : Bytes), WFM kvs → NoCont r →
    lexGo 0 (printMTail kvs ++ r) = (lexGo 0 r).map (toksMTail kvs ++ ·)
  | [], r, _, _ => by
    simp only [printMTail, toksMTail, List.cons_append, List.nil_append]
    rw [lexGo_punct 0x7D .rbrace _ (by decide)]
    cases lexGo 0 r <;> simp [consTok]
  | (k, x) :: kvs, r, h, hr => by
    simp only [printMTail, toksMTail, List.cons_append, List.append_assoc]
    rw [lexGo_punct 0x2C .comma _ (by decide), lexGo_str k _ h.1, lexGo_punct 0x3A .colon _ (by decide)]
    rw [lex_print x (printMTail kvs ++ r) h.2.1 (by cases kvs <;> exact noCont_cons (by decide) _)]
    rw [lex_printMTail kvs r h.2.2 hr]
    cases lexGo 0 r <;> simp [consTok]
end

/-! ## The parser on canonical tokens -/

theorem prun_append (st : PState) (a b : List Tok) : prun st (a ++ b) = prun (prun st a) b := by
  simp [prun, List.foldl_append]

theorem prun_cons (st : PState) (t : Tok) (ts : List Tok) : prun st (t :: ts) = prun (pstep st t) ts := rfl

theorem prun_nil (st : PState) : prun st [] = st := rfl

/-- Modes in which a value may start. -/
def Mode.startsValue : Mode → Bool
  | .val | .valOrClose => true
  | _ => false

theorem pstep_scalar (m : Mode) (hm : m.startsValue = true) (S : List Frame) (t : Tok) (hnb : t ≠ .rbrack) :
    pstep ⟨m, S⟩ t = startValue t S := by
  cases m <;> simp [Mode.startsValue] at hm
  · simp [pstep, pstepM]
  · simp [pstep, pstepM, hnb]

theorem pstep_open (m : Mode) (hm : m.startsValue = true) (S : List Frame) (hS : S.length < maxDepth) :
    pstep ⟨m, S⟩ .lbrack = ⟨.valOrClose, .arr [] :: S⟩ ∧ pstep ⟨m, S⟩ .lbrace = ⟨.keyOrClose, .obj [] :: S⟩ := by
  cases m <;> simp [Mode.startsValue] at hm <;> simp [pstep, pstepM, startValue, hS]

mutual
theorem prun_toks : ∀ (v : JVal) (m : Mode) (S : List Frame) (r : List Tok), m.startsValue = true →
    S.length + depth v ≤ maxDepth → prun ⟨m, S⟩ (toks v ++ r) = prun (complete v S) r
  | .null, m, S, r, hm, _ => congrArg (prun · r) (pstep_scalar m hm S .null nofun)
  | .bool true, m, S, r, hm, _ => congrArg (prun · r) (pstep_scalar m hm S .tru nofun)
  | .bool false, m, S, r, hm, _ => congrArg (prun · r) (pstep_scalar m hm S .fls nofun)
  | .num t, m, S, r, hm, _ => congrArg (prun · r) (pstep_scalar m hm S (.num t) nofun)
  | .str s, m, S, r, hm, _ => congrArg (prun · r) (pstep_scalar m hm S (.str s) nofun)
  | .arr [], m, S, r, hm, hd => by
    have h1 := (pstep_open m hm S (by simp only [depth] at hd; omega)).1
    simp only [toks, List.cons_append, List.nil_append, prun_cons, h1]
    rfl
  | .arr (x :: xs), m, S, r, hm, hd => by
    have hd' : S.length + 1 + max (depth x) (depthL xs) ≤ maxDepth := by simp only [depth, depthL] at hd; omega
    have h1 := (pstep_open m hm S (by omega)).1
    simp only [toks, List.cons_append, List.append_assoc, prun_cons, h1]
    rw [prun_toks x .valOrClose (.arr [] :: S) _ rfl (by simp only [List.length_cons]; omega)]
    exact prun_toksTail xs [x] S r (by omega)
  | .obj [], m, S, r, hm, hd => by
    have h1 := (pstep_open m hm S (by simp only [depth] at hd; omega)).2
    simp only [toks, List.cons_append, List.nil_append, prun_cons, h1]
    rfl
  | .obj ((k, x) :: kvs), m, S, r, hm, hd => by
    have hd' : S.length + 1 + max (depth x) (depthM kvs) ≤ maxDepth := by simp only [depth, depthM] at hd; omega
    have h1 := (pstep_open m hm S (by omega)).2
    simp only [toks, List.cons_append, List.append_assoc, prun_cons, h1]
    show prun ⟨.val, .key [] k :: S⟩ (toks x ++ (toksMTail kvs ++ r)) = _
    rw [prun_toks x .val (.key [] k :: S) _ rfl (by simp only [List.length_cons]; omega)]
    exact prun_toksMTail kvs [(k, x)] S r (by omega)
theorem prun_toksTail : ∀ (xs : List JVal) (acc : List JVal) (S : List Frame) (r : List Tok),
    S.length + 1 + depthL xs ≤ maxDepth →
    prun ⟨.sep, .arr acc :: S⟩ (toksTail xs ++ r) = prun (complete (.arr (acc.reverse ++ xs)) S) r
  | [], acc, S, r, _ => by
    show prun (complete (.arr acc.reverse) S) r = _
    rw [List.append_nil]
  | x :: xs, acc, S, r, hd => by
    have hd' : S.length + 1 + max (depth x) (depthL xs) ≤ maxDepth := by simpa only [depthL] using hd
    simp only [toksTail, List.cons_append, List.append_assoc, prun_cons]
    show prun ⟨.val, .arr acc :: S⟩ (toks x ++ (toksTail xs ++ r)) = _
    rw [prun_toks x .val (.arr acc :: S) _ rfl (by simp only [List.length_cons]; omega)]
    show prun ⟨.sep, .arr (x :: acc) :: S⟩ (toksTail xs ++ r) = _
    rw [prun_toksTail xs (x :: acc) S r (by omega), List.reverse_cons, List.append_assoc]
    rfl
theorem prun_toksMTail : ∀ (kvs : List (Bytes × JVal)) (acc : List (Bytes × JVal)) (S : List Frame) (r : List Tok),
    S.length + 1 + depthM kvs ≤ maxDepth →
    prun ⟨.sep, .obj acc :: S⟩ (toksMTail kvs ++ r) = prun (complete (.obj (acc.reverse ++ kvs)) S) r
  | [], acc, S, r, _ => by
    show prun (complete (.obj acc.reverse) S) r = _
    rw [List.append_nil]
  | (k, x) :: kvs, acc, S, r, hd => by
    have hd' : S.length + 1 + max (depth x) (depthM kvs) ≤ maxDepth := by simpa only [depthM] using hd
    simp only [toksMTail, List.cons_append, List.append_assoc, prun_cons]
    show prun ⟨.val, .key acc k :: S⟩ (toks x ++ (toksMTail kvs ++ r)) = _
    rw [prun_toks x .val (.key acc k :: S) _ rfl (by simp only [List.length_cons]; omega)]
    show prun ⟨.sep, .obj ((k, x) :: acc) :: S⟩ (toksMTail kvs ++ r) = _
    rw [prun_toksMTail kvs ((k, x) :: acc) S r (by omega), List.reverse_cons, List.append_assoc]
    rfl
end

theorem parseToks_toks (v : JVal) (hd : depth v ≤ maxDepth) : parseToks (toks v) = some v := by
  have := prun_toks v .val [] [] rfl (by simpa using hd)
  simp only [List.append_nil] at this
  simp [parseToks, pinit, this, complete, prun_nil]

/-! ## White space -/

theorem lexGo_ws (ws r : Bytes) (h : ws.all isWs = true) : lexGo 0 (ws ++ r) = lexGo 0 r := by
  induction ws with
  | nil => rfl
  | cons c ws ih =>
    rw [List.all_cons, Bool.and_eq_true] at h
    rw [List.cons_append, lexGo_wsByte h.1, ih h.2]

theorem isWs_noCont {c : UInt8} (h : isWs c = true) : isNumCont c = false := by
  simp [isWs] at h
  simp [isNumCont, isDigit]
  omega

theorem noCont_ws (ws : Bytes) (h : ws.all isWs = true) : NoCont ws := by
  intro c hc
  cases ws with
  | nil => simp at hc
  | cons x ws =>
    simp at hc; subst hc
    simp only [List.all_cons, Bool.and_eq_true] at h
    exact isWs_noCont h.1

theorem parse_print_ws (v : JVal) (hwf : WF v) (hd : depth v ≤ maxDepth) (ws1 ws2 : Bytes)
    (h1 : ws1.all isWs = true) (h2 : ws2.all isWs = true) : parse (ws1 ++ print v ++ ws2) = some v := by
  have h := lex_print v ws2 hwf (noCont_ws ws2 h2)
  have h3 : lexGo 0 ws2 = some [] := by
    have := lexGo_ws ws2 [] h2
    simpa [lexGo] using this
  simp only [h3, Option.map_some, List.append_nil] at h
  simp [parse, lex, List.append_assoc, lexGo_ws ws1 _ h1, h, parseToks_toks v hd]

theorem parse_print (v : JVal) (hwf : WF v) (hd : depth v ≤ maxDepth) : parse (print v) = some v := by
  simpa using parse_print_ws v hwf hd [] [] rfl rfl

/-! ## Unquoting yields well-formed UTF-8 -/

theorem validGo_chunk (c : UInt8) (pre rest : Bytes) (h : seqLen c (pre ++ rest) = pre.length + 1) :
    validGo 0 (c :: (pre ++ rest)) = validGo 0 rest := by
  rw [validGo, h]
  exact (validGo_drop _ _).trans (by rw [List.drop_left])

theorem validGo_ascii (c : UInt8) (rest : Bytes) (h : c.toNat < 0x80) : validGo 0 (c :: rest) = validGo 0 rest := by
  have := validGo_chunk c [] rest (by simpa using seqLen_ascii h rest)
  simpa using this

theorem validGo_replacement (rest : Bytes) : validGo 0 (replacement ++ rest) = validGo 0 rest :=
  validGo_chunk 0xEF [0xBF, 0xBD] rest (seqLen_lead3 (by decide) (by decide) _)

theorem isCont_ofNat {m : Nat} (h : m < 64) : isCont (UInt8.ofNat (0x80 + m)) = true := by
  simp only [isCont, UInt8.toNat_ofNat_of_lt' (show 0x80 + m < 256 by omega), Bool.and_eq_true, decide_eq_true_eq]
  omega

/-- `utf8.EncodeRune` writes well-formed sequences: a scalar value is neither overlong in its
form, nor a surrogate, nor above U+10FFFF, which is what the accept ranges ask of the second byte. -/
theorem validGo_encodeRune (r : Nat) (hr : r < 0x110000) (hs : ¬ (0xD800 ≤ r ∧ r < 0xE000)) (rest : Bytes) :
    validGo 0 (encodeRune r ++ rest) = validGo 0 rest := by
  have m64 : ∀ n : Nat, n % 64 < 64 := fun n => Nat.mod_lt n (by decide)
  unfold encodeRune
  by_cases h1 : r < 0x80
  · rw [if_pos h1]
    exact validGo_ascii _ rest (by rw [UInt8.toNat_ofNat_of_lt' (Nat.lt_trans h1 (by decide))]; exact h1)
  by_cases h2 : r < 0x800
  · rw [if_neg h1, if_pos h2]
    have a : (UInt8.ofNat (0xC0 + r / 64)).toNat = 0xC0 + r / 64 := UInt8.toNat_ofNat_of_lt' (by show _ < 256; omega)
    apply validGo_chunk _ [_] rest
    rw [seqLen_lead2 (by omega) (by omega)]
    exact if_pos (isCont_ofNat (m64 r))
  by_cases h3 : r < 0x10000
  · rw [if_neg h1, if_neg h2, if_pos h3]
    have a : (UInt8.ofNat (0xE0 + r / 4096)).toNat = 0xE0 + r / 4096 := UInt8.toNat_ofNat_of_lt' (by show _ < 256; omega)
    have b : (UInt8.ofNat (0x80 + r / 64 % 64)).toNat = 0x80 + r / 64 % 64 := UInt8.toNat_ofNat_of_lt' (by show _ < 256; omega)
    apply validGo_chunk _ [_, _] rest
    rw [seqLen_lead3 (by omega) (by omega)]
    exact if_pos (by
      rw [Bool.and_eq_true]
      exact ⟨accepts_of (by omega) (by omega) (by omega) (by omega) (by omega), isCont_ofNat (m64 r)⟩)
  · rw [if_neg h1, if_neg h2, if_neg h3]
    have a : (UInt8.ofNat (0xF0 + r / 262144)).toNat = 0xF0 + r / 262144 := UInt8.toNat_ofNat_of_lt' (by show _ < 256; omega)
    have b : (UInt8.ofNat (0x80 + r / 4096 % 64)).toNat = 0x80 + r / 4096 % 64 := UInt8.toNat_ofNat_of_lt' (by show _ < 256; omega)
    apply validGo_chunk _ [_, _, _] rest
    rw [seqLen_lead4 (by omega) (by omega)]
    exact if_pos (by
      simp only [Bool.and_eq_true]
      exact ⟨⟨accepts_of (by omega) (by omega) (by omega) (by omega) (by omega), isCont_ofNat (m64 _)⟩,
        isCont_ofNat (m64 r)⟩)

theorem hexVal_lt {c : UInt8} {x : Nat} (h : hexVal c = some x) : x < 16 := by
  unfold hexVal at h
  simp only at h
  by_cases h1 : 0x30 ≤ c.toNat ∧ c.toNat ≤ 0x39
  · rw [if_pos h1] at h; cases h; omega
  by_cases h2 : 0x61 ≤ c.toNat ∧ c.toNat ≤ 0x66
  · rw [if_neg h1, if_pos h2] at h; cases h; omega
  by_cases h3 : 0x41 ≤ c.toNat ∧ c.toNat ≤ 0x46
  · rw [if_neg h1, if_neg h2, if_pos h3] at h; cases h; omega
  · rw [if_neg h1, if_neg h2, if_neg h3] at h; cases h

theorem hex4_lt {bs : Bytes} {r : Nat} (h : hex4 bs = some r) : r < 65536 := by
  match bs, h with
  | a :: b :: c :: d :: _, h =>
    simp only [hex4] at h
    split at h
    · rename_i ha hb hc hd
      have := hexVal_lt ha; have := hexVal_lt hb; have := hexVal_lt hc; have := hexVal_lt hd
      cases h; omega
    · cases h

theorem simpleEsc_ascii {e : UInt8} (h : isSimpleEsc e = true) : (simpleEsc e).toNat < 0x80 := by
  have he : e.toNat < 0x80 := by
    simp only [isSimpleEsc, Bool.or_eq_true, beq_iff_eq] at h; omega
  unfold simpleEsc
  simp only
  by_cases h1 : e.toNat = 0x62
  · rw [if_pos h1]; decide
  by_cases h2 : e.toNat = 0x66
  · rw [if_neg h1, if_pos h2]; decide
  by_cases h3 : e.toNat = 0x6E
  · rw [if_neg h1, if_neg h2, if_pos h3]; decide
  by_cases h4 : e.toNat = 0x72
  · rw [if_neg h1, if_neg h2, if_neg h3, if_pos h4]; decide
  by_cases h5 : e.toNat = 0x74
  · rw [if_neg h1, if_neg h2, if_neg h3, if_neg h4, if_pos h5]; decide
  · rw [if_neg h1, if_neg h2, if_neg h3, if_neg h4, if_neg h5]; exact he

theorem validGo_escAt (bs rest : Bytes) : validGo 0 ((escAt bs).1 ++ rest) = validGo 0 rest := by
  cases bs with
  | nil => rfl
  | cons e tl =>
    unfold escAt
    dsimp only
    by_cases hu : e.toNat = 0x75
    · rw [if_pos hu]
      cases hr : hex4 tl with
      | none => rfl
      | some r =>
        dsimp only
        have hlt := hex4_lt hr
        by_cases hs : 0xD800 ≤ r ∧ r < 0xE000
        · -- a surrogate: U+FFFD, unless it is a high one and an escaped low one follows
          rw [if_pos hs]
          split
          next b u rest2 _ =>
            split
            next =>
              split
              next r2 hr2 =>
                have hlt2 := hex4_lt hr2
                split
                next hc =>
                  dsimp only
                  generalize hx : (r - 55296) * 1024 + (r2 - 56320) + 65536 = x
                  exact validGo_encodeRune x (by omega) (by omega) rest
                next => exact validGo_replacement rest
              next => exact validGo_replacement rest
            next => exact validGo_replacement rest
          next => exact validGo_replacement rest
        · rw [if_neg hs]
          exact validGo_encodeRune r (by omega) hs rest
    · rw [if_neg hu]
      by_cases hs : isSimpleEsc e = true
      · rw [if_pos hs]
        exact validGo_ascii _ rest (simpleEsc_ascii hs)
      · rw [if_neg hs]; rfl

theorem valid_unqGo : ∀ (raw : Bytes) (n : Nat), validGo 0 (unqGo n raw) = true := by
  intro raw
  induction raw with
  | nil => intro n; cases n <;> rfl
  | cons c bs ih =>
    intro n
    cases n with
    | succ n => exact ih n
    | zero =>
      by_cases hb : c.toNat = 0x5C
      · rw [UInt8.toNat_inj.mp (show c.toNat = (0x5C : UInt8).toNat from hb), unqGo_esc, validGo_escAt]; exact ih _
      rcases seqLen_cases c bs with ⟨h80, _⟩ | ⟨_, h0⟩ | ⟨_, pre, t, rfl, _, _, hall⟩
      · rw [unqGo_ascii h80 hb, validGo_ascii c _ h80]; exact ih 0
      · rw [unqGo_bad hb h0, validGo_replacement]; exact ih 0
      · rw [unqGo_seq hb (hall t), validGo_chunk c pre _ (hall _)]; exact ih _

theorem valid_unquote (raw : Bytes) : ValidUtf8 (unquote raw) := valid_unqGo raw 0

/-! ## One step of the lexer -/

/-- Tokens the canonical printer can render faithfully. -/
def TokOK : Tok → Prop
  | .num t => NumOK t
  | .str s => ValidUtf8 s
  | _ => True

theorem consTok_some {tk : Tok} {o : Option (List Tok)} {ts : List Tok} (h : consTok tk o = some ts) :
    ∃ ts', ts = tk :: ts' ∧ o = some ts' := by
  cases o with
  | none => simp [consTok] at h
  | some ts' => simp [consTok] at h; exact ⟨ts', h.symm, rfl⟩

theorem hex4_append (rest junk : Bytes) (x : Nat) (h : hex4 rest = some x) : hex4 (rest ++ junk) = some x := by
  match rest, h with
  | a :: b :: c :: d :: t, h => exact (show hex4 (a :: b :: c :: d :: (t ++ junk)) = some x from h)

theorem escLen_append (d junk : Bytes) (k : Nat) (h : escLen d = some k) : escLen (d ++ junk) = some k := by
  cases d with
  | nil => simp [escLen] at h
  | cons e rest =>
    simp only [escLen, List.cons_append] at h ⊢
    by_cases hu : e.toNat = 0x75
    · simp only [hu, if_true] at h ⊢
      cases hx : hex4 rest with
      | none => simp [hx] at h
      | some x => simp [hx] at h; simp [hex4_append rest junk x hx, h]
    · simpa [hu] using h

theorem spanGo_append (junk : Bytes) : ∀ (d : Bytes) (n m : Nat), spanGo n d = some m →
    spanGo n (d ++ junk) = some m ∧ m < d.length := by
  intro d
  induction d with
  | nil => intro n m h; cases n <;> cases h
  | cons c d ih =>
    intro n m h
    -- every branch that goes on does so `k` bytes further
    have step : ∀ k, (spanGo k d).map (· + 1) = some m →
        (spanGo k (d ++ junk)).map (· + 1) = some m ∧ m < d.length + 1 := by
      intro k hk
      cases hg : spanGo k d with
      | none => rw [hg] at hk; cases hk
      | some m' =>
        rw [hg] at hk; cases hk
        obtain ⟨h1, h2⟩ := ih k m' hg
        rw [h1]; exact ⟨rfl, Nat.succ_lt_succ h2⟩
    rw [List.cons_append, List.length_cons]
    cases n with
    | succ n => exact step n h
    | zero =>
      rw [spanGo] at h ⊢
      by_cases hq : c.toNat = 0x22
      · rw [if_pos hq] at h ⊢; cases h; exact ⟨rfl, Nat.zero_lt_succ _⟩
      rw [if_neg hq] at h ⊢
      by_cases hb : c.toNat = 0x5C
      · rw [if_pos hb] at h ⊢
        cases he : escLen d with
        | none => rw [he] at h; cases h
        | some k => rw [he] at h; rw [escLen_append d junk k he]; exact step k h
      rw [if_neg hb] at h ⊢
      by_cases hctl : c.toNat < 0x20
      · rw [if_pos hctl] at h; cases h
      · rw [if_neg hctl] at h ⊢; exact step 0 h

/-- The lexer at a byte that is not white space: no token, or a token `tk` and the number `k` of
further bytes that belong to it — the same when more input follows, unless `tk` is a number that
runs to the end of the input and the further input goes on like one. -/
theorem lexGo_step (c : UInt8) (d : Bytes) (hws : isWs c = false) :
    lexGo 0 (c :: d) = none ∨ ∃ tk k, lexGo 0 (c :: d) = consTok tk (lexGo k d) ∧ k ≤ d.length ∧ TokOK tk ∧
      ∀ junk, ((∀ x, tk ≠ .num x) ∨ k < d.length ∨ NoCont junk) →
        lexGo 0 (c :: (d ++ junk)) = consTok tk (lexGo k (d ++ junk)) := by
  by_cases hp : ∃ tk, (c.toNat = 0x7B ∧ tk = Tok.lbrace) ∨ (c.toNat = 0x7D ∧ tk = .rbrace) ∨ (c.toNat = 0x5B ∧ tk = .lbrack) ∨
      (c.toNat = 0x5D ∧ tk = .rbrack) ∨ (c.toNat = 0x3A ∧ tk = .colon) ∨ (c.toNat = 0x2C ∧ tk = .comma)
  · obtain ⟨tk, h⟩ := hp
    exact Or.inr ⟨tk, 0, lexGo_punct c tk d h, Nat.zero_le _,
      by rcases h with ⟨_, rfl⟩ | ⟨_, rfl⟩ | ⟨_, rfl⟩ | ⟨_, rfl⟩ | ⟨_, rfl⟩ | ⟨_, rfl⟩ <;> trivial,
      fun junk _ => lexGo_punct c tk _ h⟩
  by_cases h7 : c.toNat = 0x22
  · have e := lexGo_quote h7
    cases hs : spanStr d with
    | none => left; rw [e, hs]
    | some m =>
      refine Or.inr ⟨.str (unquote (d.take m)), m + 1, by rw [e, hs], ?_, valid_unquote _, fun junk _ => ?_⟩
      · exact (spanGo_append [] d 0 m hs).2
      · have ha := spanGo_append junk d 0 m hs
        rw [e, spanStr, ha.1]
        dsimp only
        rw [List.take_append_of_le_length (by omega)]
  by_cases hl : ∃ l tk, (c.toNat = 0x74 ∧ l = litRue ∧ tk = Tok.tru) ∨ (c.toNat = 0x66 ∧ l = litAlse ∧ tk = .fls) ∨
      (c.toNat = 0x6E ∧ l = litUll ∧ tk = .null)
  · obtain ⟨l, tk, h⟩ := hl
    have e := lexGo_lit c l tk
    by_cases hl : d.take l.length = l
    · have hlen : l.length ≤ d.length := by
        have := congrArg List.length hl; rw [List.length_take] at this; omega
      refine Or.inr ⟨tk, l.length, (e d h).trans (if_pos hl), hlen,
        by rcases h with ⟨_, _, rfl⟩ | ⟨_, _, rfl⟩ | ⟨_, _, rfl⟩ <;> trivial, fun junk _ => ?_⟩
      rw [e _ h, List.take_append_of_le_length hlen, if_pos hl]
    · exact Or.inl ((e d h).trans (if_neg hl))
  have e := lexGo_other hws (fun e => hp ⟨_, Or.inl ⟨e, rfl⟩⟩) (fun e => hp ⟨_, Or.inr (Or.inl ⟨e, rfl⟩)⟩)
    (fun e => hp ⟨_, Or.inr (Or.inr (Or.inl ⟨e, rfl⟩))⟩) (fun e => hp ⟨_, Or.inr (Or.inr (Or.inr (Or.inl ⟨e, rfl⟩)))⟩)
    (fun e => hp ⟨_, Or.inr (Or.inr (Or.inr (Or.inr (Or.inl ⟨e, rfl⟩))))⟩)
    (fun e => hp ⟨_, Or.inr (Or.inr (Or.inr (Or.inr (Or.inr ⟨e, rfl⟩))))⟩) h7
    (fun e => hl ⟨_, _, Or.inl ⟨e, rfl, rfl⟩⟩) (fun e => hl ⟨_, _, Or.inr (Or.inl ⟨e, rfl, rfl⟩)⟩)
    (fun e => hl ⟨_, _, Or.inr (Or.inr ⟨e, rfl, rfl⟩)⟩)
  cases hs : spanNum (c :: d) with
  | none => left; rw [e, hs]
  | some k1 =>
    cases k1 with
    | zero => left; rw [e, hs]
    | succ k =>
      obtain ⟨hle, htake, hin⟩ := numGo_some _ _ _ hs
      have hkd : k ≤ d.length := Nat.le_of_succ_le_succ hle
      refine Or.inr ⟨_, k, by rw [e, hs], hkd, ?_, fun junk hj => ?_⟩
      · show NumOK (c :: d.take k)
        rw [List.take_succ_cons] at htake
        rw [NumOK, spanNum, htake, List.length_cons, List.length_take, Nat.min_eq_left hkd]
      · have hs' : spanNum (c :: (d ++ junk)) = some (k + 1) := by
          rcases hj with hj | hj | hj
          · exact absurd rfl (hj _)
          · exact hin (Nat.succ_lt_succ hj) junk
          · by_cases hlt : k < d.length
            · exact hin (Nat.succ_lt_succ hlt) junk
            · -- the number runs to the end of `d`
              have := numGo_append hj .begin (c :: d)
              rw [spanNum, List.cons_append] at *
              rw [this, hs]
        rw [e, hs']
        dsimp only
        rw [List.take_append_of_le_length hkd]

theorem lexGo_ok : ∀ (bs : Bytes) (n : Nat) (ts : List Tok), lexGo n bs = some ts → ∀ t ∈ ts, TokOK t := by
  intro bs
  induction bs with
  | nil => intro n ts h; simp [lexGo] at h; subst h; simp
  | cons c bs ih =>
    intro n ts h
    cases n with
    | succ n => rw [lexGo] at h; exact ih n ts h
    | zero =>
      by_cases hws : isWs c = true
      · rw [lexGo_wsByte hws] at h; exact ih 0 ts h
      rcases lexGo_step c bs (by simpa using hws) with hn | ⟨tk, k, hk, _, hok, _⟩
      · rw [hn] at h; cases h
      · rw [hk] at h
        obtain ⟨ts', rfl, hts'⟩ := consTok_some h
        intro t ht
        rcases List.mem_cons.mp ht with rfl | ht'
        · exact hok
        · exact ih k ts' hts' t ht'

/-! ## Nothing after the value -/

theorem prun_failed (ts : List Tok) (S : List Frame) : (prun ⟨.fail, S⟩ ts).mode = .fail := by
  induction ts generalizing S with
  | nil => rfl
  | cons t ts ih => simp only [prun_cons, pstep, pstepM, failed]; exact ih []

theorem parseToks_eq_some_iff {ts : List Tok} {v : JVal} : parseToks ts = some v ↔ (prun pinit ts).mode = .done v := by
  unfold parseToks
  cases (prun pinit ts).mode <;> simp

theorem parseToks_append_none (ta tb : List Tok) (v : JVal) (h : parseToks ta = some v) (hb : tb ≠ []) :
    parseToks (ta ++ tb) = none := by
  rw [parseToks_eq_some_iff] at h
  unfold parseToks
  rw [prun_append]
  cases tb with
  | nil => exact absurd rfl hb
  | cons t tb =>
    rw [prun_cons]
    generalize prun pinit ta = st at h
    obtain ⟨m, S⟩ := st
    simp only at h
    subst h
    simp only [pstep, pstepM, failed]
    rw [prun_failed]

def endsNum (ts : List Tok) : Bool :=
  match ts.getLast? with
  | some (.num _) => true
  | _ => false

theorem endsNum_tail (t : Tok) (ts : List Tok) (h : endsNum (t :: ts) = false) : endsNum ts = false := by
  cases ts with
  | nil => rfl
  | cons t' ts => simpa [endsNum, List.getLast?_cons_cons] using h

theorem lex_append (junk : Bytes) : ∀ (d : Bytes) (n : Nat) (ts : List Tok), lexGo n d = some ts → n ≤ d.length →
    (endsNum ts = false ∨ NoCont junk) → lexGo n (d ++ junk) = (lexGo 0 junk).map (ts ++ ·) := by
  intro d
  induction d with
  | nil =>
    intro n ts h hn _
    simp at hn; subst hn
    simp [lexGo] at h; subst h
    simp only [List.nil_append]
    cases lexGo 0 junk <;> simp
  | cons c d ih =>
    intro n ts h hn hc
    cases n with
    | succ n =>
      simp only [lexGo, List.cons_append] at h ⊢
      exact ih n ts h (by simpa using hn) hc
    | zero =>
      rw [List.cons_append]
      by_cases hws : isWs c = true
      · rw [lexGo_wsByte hws] at h ⊢; exact ih 0 ts h (by simp) hc
      rcases lexGo_step c d (by simpa using hws) with hn | ⟨tk, k, hk, hle, _, hst⟩
      · rw [hn] at h; cases h
      · rw [hk] at h
        obtain ⟨ts', rfl, hts'⟩ := consTok_some h
        have hc' : endsNum ts' = false ∨ NoCont junk := hc.elim (fun h => Or.inl (endsNum_tail _ _ h)) Or.inr
        rw [hst junk ?_, ih k ts' hts' hle hc']
        · cases lexGo 0 junk <;> rfl
        · -- a number that runs to the end of `d` is the last token
          by_cases hlt : k < d.length
          · exact Or.inr (Or.inl hlt)
          rcases hc with hc | hc
          · have hkd : k = d.length := by omega
            rw [lexGo_drop, hkd, List.drop_length] at hts'
            cases hts'
            exact Or.inl (fun x e => by subst e; simp [endsNum] at hc)
          · exact Or.inr (Or.inr hc)

theorem lex_nil_ws : ∀ (junk : Bytes) (n : Nat), lexGo n junk = some [] → (junk.drop n).all isWs = true := by
  intro junk
  induction junk with
  | nil => intro n _; simp
  | cons c junk ih =>
    intro n h
    cases n with
    | succ n => simp only [lexGo] at h; simpa using ih n h
    | zero =>
      by_cases hws : isWs c = true
      · rw [lexGo_wsByte hws] at h
        simpa [hws] using ih 0 h
      · exfalso
        rcases lexGo_step c junk (by simpa using hws) with hn | ⟨tk, k, hk, _⟩
        · rw [hn] at h; cases h
        · rw [hk] at h
          obtain ⟨_, h', _⟩ := consTok_some h
          cases h'

theorem pstepM_num_done (m : Mode) (S : List Frame) (x : Bytes) (v : JVal) (S' : List Frame)
    (h : pstepM m S (.num x) = ⟨.done v, S'⟩) : v = .num x := by
  have hc : ∀ S, complete (.num x) S = ⟨.done v, S'⟩ → v = .num x := by
    intro S hS
    cases S with
    | nil => simp [complete] at hS; exact hS.1.symm
    | cons f S => cases f <;> simp [complete, failed] at hS
  cases m <;> simp [pstepM, startValue, startKey, sepStep, failed] at h
  · exact hc _ h
  · exact hc _ h

theorem parseToks_endsNum (ts : List Tok) (v : JVal) (h : parseToks ts = some v) (hv : ∀ x, v ≠ .num x) :
    endsNum ts = false := by
  cases hl : ts.getLast? with
  | none => simp [endsNum, hl]
  | some t =>
    cases t with
    | num x =>
      exfalso
      obtain ⟨ts0, rfl⟩ : ∃ ts0, ts = ts0 ++ [.num x] := by
        have := List.getLast?_eq_some_iff.mp hl
        obtain ⟨ys, rfl⟩ := this; exact ⟨ys, rfl⟩
      rw [parseToks_eq_some_iff, prun_append, prun_cons, prun_nil] at h
      generalize prun pinit ts0 = st at h
      obtain ⟨m, S⟩ := st
      simp only [pstep] at h
      cases hst : pstepM m S (.num x) with
      | mk m' S' =>
        rw [hst] at h
        simp only at h
        subst h
        exact hv x (pstepM_num_done m S x _ S' hst)
    | _ => simp [endsNum, hl]

/-- Nothing but white space may follow the value: anything else makes the reader reject the whole,
provided the value is not a bare number or the extra input does not start like the continuation
of one. -/
theorem parse_append_none (d junk : Bytes) (v : JVal) (h : parse d = some v) (hj : junk.all isWs = false)
    (hb : (∀ t, v ≠ .num t) ∨ NoCont junk) : parse (d ++ junk) = none := by
  unfold parse at h ⊢
  cases hl : lex d with
  | none => rw [hl] at h; cases h
  | some ts =>
    rw [hl] at h
    have he : endsNum ts = false ∨ NoCont junk := hb.imp (parseToks_endsNum ts v h) id
    rw [lex, lex_append junk d 0 ts hl (Nat.zero_le _) he]
    cases hlj : lexGo 0 junk with
    | none => rfl
    | some tb =>
      refine parseToks_append_none ts tb v h (fun e => ?_)
      have := lex_nil_ws junk 0 (e ▸ hlj)
      rw [List.drop_zero, hj] at this; cases this

/-! ## What the reader yields is well-formed -/

theorem wfl_iff (xs : List JVal) : WFL xs ↔ ∀ x ∈ xs, WF x := by
  induction xs with
  | nil => simp [WFL]
  | cons x xs ih => simp [WFL, ih]

theorem wfm_iff (kvs : List (Bytes × JVal)) : WFM kvs ↔ ∀ kv ∈ kvs, ValidUtf8 kv.1 ∧ WF kv.2 := by
  induction kvs with
  | nil => simp [WFM]
  | cons kv kvs ih => obtain ⟨k, v⟩ := kv; simp [WFM, ih, and_assoc]

theorem depthL_le (xs : List JVal) (k : Nat) : depthL xs ≤ k ↔ ∀ x ∈ xs, depth x ≤ k := by
  induction xs with
  | nil => simp [depthL]
  | cons x xs ih => simp [depthL, Nat.max_le, ih]

theorem depthM_le (kvs : List (Bytes × JVal)) (k : Nat) : depthM kvs ≤ k ↔ ∀ kv ∈ kvs, depth kv.2 ≤ k := by
  induction kvs with
  | nil => simp [depthM]
  | cons kv kvs ih => obtain ⟨k', v⟩ := kv; simp [depthM, Nat.max_le, ih]

/-- The members read so far are well-formed and leave room for the `lvl` containers around them. -/
def FrameOK (lvl : Nat) : Frame → Prop
  | .arr acc => ∀ x ∈ acc, WF x ∧ depth x + lvl ≤ maxDepth
  | .obj acc => ∀ kv ∈ acc, ValidUtf8 kv.1 ∧ WF kv.2 ∧ depth kv.2 + lvl ≤ maxDepth
  | .key acc k => ValidUtf8 k ∧ ∀ kv ∈ acc, ValidUtf8 kv.1 ∧ WF kv.2 ∧ depth kv.2 + lvl ≤ maxDepth

def StackOK : List Frame → Prop
  | [] => True
  | f :: s => FrameOK (s.length + 1) f ∧ s.length + 1 ≤ maxDepth ∧ StackOK s

def StateOK (st : PState) : Prop :=
  StackOK st.stack ∧ ∀ v, st.mode = .done v → WF v ∧ depth v ≤ maxDepth

theorem stateOK_failed : StateOK failed := ⟨trivial, by simp [failed]⟩

theorem stack_len_le {S : List Frame} (h : StackOK S) : S.length ≤ maxDepth := by
  cases S with
  | nil => simp
  | cons f s => exact h.2.1

theorem complete_ok (v : JVal) (S : List Frame) (hw : WF v) (hd : depth v + S.length ≤ maxDepth)
    (hS : StackOK S) : StateOK (complete v S) := by
  cases S with
  | nil => exact ⟨trivial, by intro v' hv'; simp [complete] at hv'; subst hv'; exact ⟨hw, by simpa using hd⟩⟩
  | cons f s =>
    obtain ⟨hf, hl, hs⟩ := hS
    cases f with
    | arr acc =>
      refine ⟨⟨?_, hl, hs⟩, by simp [complete]⟩
      intro x hx
      rcases List.mem_cons.mp hx with rfl | hx'
      · exact ⟨hw, by simpa using hd⟩
      · exact hf x hx'
    | obj acc => exact stateOK_failed
    | key acc k =>
      refine ⟨⟨?_, hl, hs⟩, by simp [complete]⟩
      intro kv hkv
      rcases List.mem_cons.mp hkv with rfl | hkv'
      · exact ⟨hf.1, hw, by simpa using hd⟩
      · exact hf.2 kv hkv'

theorem startValue_ok (t : Tok) (S : List Frame) (ht : TokOK t) (hS : StackOK S) : StateOK (startValue t S) := by
  have hl := stack_len_le hS
  cases t with
  | null | tru | fls => exact complete_ok _ S (by simp [WF]) (by simpa [depth] using hl) hS
  | num x | str x => exact complete_ok _ S (by simp only [WF]; exact ht) (by simpa [depth] using hl) hS
  | lbrack | lbrace =>
    simp only [startValue]
    split
    · exact ⟨⟨by intro x hx; simp at hx, by omega, hS⟩, by simp⟩
    · exact stateOK_failed
  | _ => exact stateOK_failed

theorem closeArr_ok (S : List Frame) (hS : StackOK S) : StateOK (closeArr S) := by
  cases S with
  | nil => exact stateOK_failed
  | cons f s =>
    cases f with
    | arr acc =>
      obtain ⟨hf, hl, hs⟩ := hS
      apply complete_ok _ s _ _ hs
      · simp only [WF]; rw [wfl_iff]; intro x hx; exact (hf x (by simpa using hx)).1
      · have : depthL acc.reverse ≤ maxDepth - (s.length + 1) := by
          rw [depthL_le]; intro x hx
          have := (hf x (by simpa using hx)).2
          omega
        simp only [depth]; omega
    | _ => exact stateOK_failed

theorem closeObj_ok (S : List Frame) (hS : StackOK S) : StateOK (closeObj S) := by
  cases S with
  | nil => exact stateOK_failed
  | cons f s =>
    cases f with
    | obj acc =>
      obtain ⟨hf, hl, hs⟩ := hS
      apply complete_ok _ s _ _ hs
      · simp only [WF]; rw [wfm_iff]; intro kv hkv
        have := hf kv (by simpa using hkv); exact ⟨this.1, this.2.1⟩
      · have : depthM acc.reverse ≤ maxDepth - (s.length + 1) := by
          rw [depthM_le]; intro kv hkv
          have := (hf kv (by simpa using hkv)).2.2
          omega
        simp only [depth]; omega
    | _ => exact stateOK_failed

theorem startKey_ok (t : Tok) (S : List Frame) (ht : TokOK t) (hS : StackOK S) : StateOK (startKey t S) := by
  unfold startKey
  split
  · rename_i k acc s
    obtain ⟨hf, hl, hs⟩ := hS
    exact ⟨⟨⟨ht, hf⟩, hl, hs⟩, by simp⟩
  · exact stateOK_failed

theorem sepStep_ok (t : Tok) (S : List Frame) (hS : StackOK S) : StateOK (sepStep t S) := by
  unfold sepStep
  split
  · split
    · exact ⟨hS, by simp⟩
    · exact ⟨hS, by simp⟩
    · exact stateOK_failed
  · exact closeArr_ok S hS
  · exact closeObj_ok S hS
  · exact stateOK_failed

theorem pstep_ok (st : PState) (t : Tok) (ht : TokOK t) (h : StateOK st) : StateOK (pstep st t) := by
  obtain ⟨m, S⟩ := st
  have hS : StackOK S := h.1
  simp only [pstep, pstepM]
  cases m with
  | val => exact startValue_ok t S ht hS
  | valOrClose =>
    simp only
    split
    · exact closeArr_ok S hS
    · exact startValue_ok t S ht hS
  | keyOrClose =>
    simp only
    split
    · exact closeObj_ok S hS
    · exact startKey_ok t S ht hS
  | key => exact startKey_ok t S ht hS
  | colon =>
    simp only
    split
    · exact ⟨hS, by simp⟩
    · exact stateOK_failed
  | sep => exact sepStep_ok t S hS
  | done v => exact stateOK_failed
  | fail => exact stateOK_failed

theorem prun_ok (ts : List Tok) (st : PState) (hts : ∀ t ∈ ts, TokOK t) (h : StateOK st) : StateOK (prun st ts) := by
  induction ts generalizing st with
  | nil => exact h
  | cons t ts ih =>
    rw [prun_cons]
    exact ih _ (fun t' ht' => hts t' (by simp [ht'])) (pstep_ok st t (hts t (by simp)) h)

theorem parse_wf (b : Bytes) (v : JVal) (h : parse b = some v) : WF v ∧ depth v ≤ maxDepth := by
  unfold parse at h
  cases hl : lex b with
  | none => simp [hl] at h
  | some ts =>
    rw [hl] at h
    exact (prun_ok ts pinit (lexGo_ok b 0 ts hl) ⟨trivial, by simp [pinit]⟩).2 _ (parseToks_eq_some_iff.mp h)

end OciModel.Json
