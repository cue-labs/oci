/-
Helper lemmas for C13 (model in `OciModel/Sub.lean`).
-/
import OciModel.Sub
import OciModel.ScopeLemmas

namespace OciModel.Sub
open OciModel.Generated.Sub OciModel.Generated OciModel.Scope
open OciModel.Select (Call Env Ev feed)

variable {ε σ : Type}

theorem cutPrefix_append (pre s : Bytes) : cutPrefix pre (pre ++ s) = some s := by
  induction pre with
  | nil => simp [cutPrefix]
  | cons a pre ih => simp [cutPrefix, ih]

theorem cutPrefix_eq_some (pre x s : Bytes) : cutPrefix pre x = some s ↔ x = pre ++ s := by
  induction pre generalizing x with
  | nil => simp [cutPrefix, eq_comm]
  | cons a pre ih =>
    cases x with
    | nil => simp [cutPrefix]
    | cons b x =>
      simp only [cutPrefix, List.cons_append, List.cons.injEq]
      by_cases h : a = b
      · simp [h, ih]
      · simp [h, Ne.symm h]

theorem mapName_eq (p n : Bytes) : mapName p n = (p ++ [47]) ++ n := by simp [mapName]

theorem stripName_mapName (p n : Bytes) : stripName p (mapName p n) = some n := by
  rw [stripName, mapName_eq, cutPrefix_append]

theorem stripName_eq_some (p x n : Bytes) : stripName p x = some n ↔ x = mapName p n := by
  rw [stripName, cutPrefix_eq_some, mapName_eq]

theorem compare_append_left (p a b : Bytes) : compare (p ++ a) (p ++ b) = compare a b := by
  induction p with
  | nil => rfl
  | cons x xs ih => simp [List.compare_cons_cons, ih]

theorem compare_mapName (p a b : Bytes) : compare (mapName p a) (mapName p b) = compare a b := by
  rw [mapName_eq, mapName_eq, compare_append_left]

theorem mapName_injective (p a b : Bytes) (h : mapName p a = mapName p b) : a = b := by
  have := stripName_mapName p a
  rw [h, stripName_mapName] at this
  exact (Option.some.inj this).symm

/-! ### Listings -/

theorem visible_error (p : Bytes) (names : List Bytes) (e : ε) (rest : List (Ev ε)) :
    visible p (names.map .item ++ .error e :: rest) = (names.filterMap (stripName p)).map .item ++ [.error e] := by
  induction names with
  | nil => simp [visible]
  | cons n ns ih =>
    simp only [List.map_cons, List.cons_append, visible, List.filterMap_cons]
    cases h : stripName p n <;> simp [ih]

/-! ### Scopes -/

theorem iter_of_isEmpty (s : Scope) (h : Scope.isEmpty s = true) : iter s = [] := by
  simp only [Scope.isEmpty, Bool.and_eq_true, List.isEmpty_iff, Bool.not_eq_true'] at h
  obtain ⟨⟨hr, ho⟩, hu⟩ := h
  simp [iter, hu, hr, ho, expand, mergeIter]

theorem mapScopesBy_fixed (g : String) (hg : guardPassesUnlimited g = true) (p : Bytes) (s : Scope) :
    mapScopesBy g (mapName p) s = .ok (mapScopes p s) := by
  have hk : guardKnown g = true := by simp [guardKnown, hg]
  unfold mapScopesBy mapScopes
  by_cases he : Scope.isEmpty s = true
  · simp [hk, he]
  · cases s.unlimited <;> simp [hk, he, hg]

/-! ### Methods -/

theorem rowOk_unfold (r : Row) (h : RowOk r = true) (ips : List String)
    (hips : ifaceParamNames r.method = some ips) :
    r.shapeKnown = true ∧ r.mapScopes = true ∧ r.callee = r.method ∧ r.callArgs.map (·.name) = r.params ∧
    r.callArgs.all (·.known) = true ∧ ips.length = r.params.length ∧
    r.callArgs.map (·.mapped) = ips.map (specMapped r.method) ∧
    r.shape = if r.method = "Repositories" then "strip" else "direct" := by
  simp only [RowOk, hips, Bool.and_eq_true, beq_iff_eq] at h
  obtain ⟨⟨⟨⟨⟨⟨hk, hms⟩, hcal⟩, hnames⟩, hknown⟩, hlen, hmapped⟩, hshape⟩ := h
  exact ⟨hk, hms, hcal, hnames, hknown, hlen, hmapped, by simpa using hshape⟩

theorem mapNameBy_concat (p n : Bytes) : mapNameBy "concat" p n = some (mapName p n) := rfl

/-- The code around the table is as modelled: `repo` concatenates (`repoMap`), the guard of `mapScopes` passes
empty and unlimited scopes through, its body and the constructor have the modelled shape. -/
def CodeOk : Bool :=
  repoMap == "concat" && guardPassesUnlimited mapScopesGuard && mapScopesBodyKnown && constructorKnown

theorem args_eq (p : Bytes) (env : Env) (m : String) :
    ∀ (as : List Arg) (ips ps : List String), as.map (·.name) = ps →
      as.map (·.mapped) = ips.map (specMapped m) →
      as.map (fun a => if a.mapped then mapName p (env a.name) else env a.name) = specArgs p env m ips ps := by
  intro as
  induction as with
  | nil =>
    intro ips ps h1 h2
    cases ps <;> cases ips <;> simp_all [specArgs]
  | cons a as ih =>
    intro ips ps h1 h2
    cases ps with
    | nil => simp at h1
    | cons x ps =>
      cases ips with
      | nil => simp at h2
      | cons i ips =>
        simp only [List.map_cons, List.cons.injEq] at h1 h2
        have := ih ips ps h1.2 h2.2
        simp only [specArgs, List.zip_cons_cons, List.map_cons] at this ⊢
        rw [this, h1.1, h2.1]

end OciModel.Sub
