/-
The link between the CLIENT half of `Wire` (`Call.request1`, and the first request of the three listings
in `clientCallS`) and the source: the regenerated table `OciModel/Generated/ClientReq.lean` lists every
`ocirequest.Request{…}` composite literal of package ociclient with the function it stands in, its `Kind`
constant and, for every other field, the provenance of its value (which parameter, which field of the
receiver, which conversion).

* `rowRequest env row args` — the `ReqCodec.Request` a row denotes when the enclosing function is called
  with the arguments `args` (indexed like the Go parameters, `ctx` is 0). Fields are set one by one on the
  zero request, so the order of the keys in the literal does not matter (as in Go).
* `fnOf c`, `argsOf c` — the ociclient method a `Wire.Call` models and the arguments it is called with
  (the correspondence `Call` ↔ `ociregistry.Interface` of `Call.site` in `WireSource.lean`, client side).
* `siteRequest cfg c` — the request denoted by THE literal of that method (`none` unless there is exactly one).
* `Call.rreq cfg c` — the `ocirequest.Request` the model hands to `newRequest` for `c`, as a record.

`Props/C03C.lean` states that the two agree for all arguments, and that `Call.request1` is `newRequest`
(`mkReq?`) of it, followed by the headers/body the method sets afterwards (`Call.decorate`).

What is interpreted, not translated (trusted, small): `string(x)` is the identity on strings,
`digest.FromBytes` is `Cfg.H`, the receiver's `listPageSize` is `Pager.effectivePageSize cfg.pageSize`
(`ociclient.New`, client.go:105-115), the names of the fields of `ocirequest.Request` (`setField`) and of
its kinds (`SrvHandlers.kindName`, which C06S ties to the constants of `ocirequest`).
-/
import OciModel.Wire
import OciModel.Pager
import OciModel.SrvHandlers
import OciModel.Generated.ClientReq

namespace OciModel.Wire
open OciModel OciModel.ReqCodec OciModel.RespCodec
open OciModel.Generated.ClientReq (Prov Row)

/-! ## What a row of the table denotes -/

/-- An actual argument of an ociclient method. -/
inductive Val where
  | str (b : Bytes)        -- `string`, `ociregistry.Digest`, `[]byte`
  | int (i : Int)          -- `int`, `int64`
  | desc (d : Desc)        -- `ociregistry.Descriptor`
  | opaque                 -- `context.Context`, `io.Reader`: nothing a request may be built from
  deriving DecidableEq, Repr

/-- The names a literal may use besides the parameters. -/
structure Env where
  recv : String → Option Val              -- a field of the receiver
  app : String → Val → Option Val         -- a conversion / one-argument function

/-- own, structurally recursive `xs[i]?` (reduces under `rfl` with symbolic elements) -/
def nth {α : Type} : List α → Nat → Option α
  | [], _ => none
  | x :: _, 0 => some x
  | _ :: xs, i + 1 => nth xs i

def descField (d : Desc) (f : String) : Option Val :=
  if f == "Digest" then some (.str d.digest)
  else if f == "MediaType" then some (.str d.mediaType)
  else if f == "Size" then some (.int d.size)
  else none

/-- the value of a field's expression (`none`: the table says `other`, or the expression is ill-typed) -/
def evalProv (env : Env) (args : List Val) : Prov → Option Val
  | .param i => nth args i
  | .paramField i f =>
    match nth args i with
    | some (.desc d) => descField d f
    | _ => none
  | .recv f => env.recv f
  | .app fn p =>
    match evalProv env args p with
    | some v => env.app fn v
    | none => none
  | .other _ => none

/-- `r.<f> = v` for a field of `ocirequest.Request` (request.go:51-112), with Go's typing -/
def setField (r : Request) (f : String) (v : Val) : Option Request :=
  match v with
  | .str b =>
    if f == "Repo" then some { r with repo := b }
    else if f == "Digest" then some { r with digest := b }
    else if f == "Tag" then some { r with tag := b }
    else if f == "FromRepo" then some { r with fromRepo := b }
    else if f == "UploadID" then some { r with uploadID := b }
    else if f == "ListLast" then some { r with listLast := b }
    else none
  | .int n => if f == "ListN" then some { r with listN := n } else none
  | _ => none

def kindOfName (s : String) : Option Kind := SrvHandlers.allKinds.find? fun k => SrvHandlers.kindName k == s

def setFields (env : Env) (args : List Val) : List (String × Prov) → Request → Option Request
  | [], r => some r
  | (f, p) :: fs, r =>
    match evalProv env args p with
    | some v =>
      match setField r f v with
      | some r' => setFields env args fs r'
      | none => none
    | none => none

/-- **The request a literal denotes**: the zero `Request` with the literal's kind, then every field set. -/
def rowRequest (env : Env) (row : Row) (args : List Val) : Option Request :=
  match kindOfName row.kind with
  | some k => setFields env args row.fields { kind := k }
  | none => none

/-- the literals in method `fn` of `*client` -/
def rowsOf (fn : String) : List Row :=
  Generated.ClientReq.requests.filter fun row => row.recv == "client" && row.fn == fn

/-! ## The client's environment and the calls -/

/-- `string(x)`, `digest.FromBytes(x)`, `c.listPageSize` -/
def clientEnv (cfg : Cfg) : Env where
  recv f := if f == "listPageSize" then some (.int (Pager.effectivePageSize cfg.pageSize)) else none
  app fn v :=
    match v with
    | .str b =>
      if fn == "string" then some (.str b)
      else if fn == "digest.FromBytes" then some (.str (cfg.H b))
      else none
    | _ => none

/-- The method of `*client` whose request literal a call's first request comes from (`""`: none — the
upload steps build their requests from the `Location` they were given, writer.go:214-218, 321-347).
`GetBlobRange(…, 0, <0)` is `GetBlob` (reader.go:38-40). -/
def fnOf : Call → String
  | .getBlob .. => "GetBlob"
  | .getBlobRange _ _ o0 o1 => if o0 = 0 ∧ o1 < 0 then "GetBlob" else "GetBlobRange"
  | .getManifest .. => "GetManifest"
  | .getTag .. => "GetTag"
  | .resolveBlob .. => "ResolveBlob"
  | .resolveManifest .. => "ResolveManifest"
  | .resolveTag .. => "ResolveTag"
  | .pushBlob .. => "PushBlob"
  | .pushManifest .. => "PushManifest"
  | .mountBlob .. => "MountBlob"
  | .deleteBlob .. => "DeleteBlob"
  | .deleteManifest .. => "DeleteManifest"
  | .deleteTag .. => "DeleteTag"
  | .startUpload .. => "PushBlobChunked"
  | .tags .. => "Tags"
  | .repositories .. => "Repositories"
  | .referrers .. => "Referrers"
  | .uploadInfo .. | .uploadChunk .. | .uploadCommit .. => ""

/-- The arguments of that method, in the order of its Go parameters (`ctx` first). -/
def argsOf : Call → List Val
  | .getBlob repo dg => [.opaque, .str repo, .str dg]
  | .getBlobRange repo dg o0 o1 =>
    if o0 = 0 ∧ o1 < 0 then [.opaque, .str repo, .str dg] else [.opaque, .str repo, .str dg, .int o0, .int o1]
  | .getManifest repo dg => [.opaque, .str repo, .str dg]
  | .getTag repo tag => [.opaque, .str repo, .str tag]
  | .resolveBlob repo dg => [.opaque, .str repo, .str dg]
  | .resolveManifest repo dg => [.opaque, .str repo, .str dg]
  | .resolveTag repo tag => [.opaque, .str repo, .str tag]
  | .pushBlob repo d _ => [.opaque, .str repo, .desc d, .opaque]
  | .pushManifest repo tag content mt => [.opaque, .str repo, .str tag, .str content, .str mt]
  | .mountBlob fromRepo toRepo dg => [.opaque, .str fromRepo, .str toRepo, .str dg]
  | .deleteBlob repo dg => [.opaque, .str repo, .str dg]
  | .deleteManifest repo dg => [.opaque, .str repo, .str dg]
  | .deleteTag repo tag => [.opaque, .str repo, .str tag]
  | .startUpload repo cs => [.opaque, .str repo, .int cs]
  | .tags repo start => [.opaque, .str repo, .str start]
  | .repositories start => [.opaque, .str start]
  | .referrers repo dg => [.opaque, .str repo, .str dg, .str []]
  | .uploadInfo .. | .uploadChunk .. | .uploadCommit .. => []

/-- **The request the source builds for a call**: the one denoted by the only literal of the method. -/
def siteRequest (cfg : Cfg) (c : Call) : Option Request :=
  match rowsOf (fnOf c) with
  | [row] => rowRequest (clientEnv cfg) row (argsOf c)
  | _ => none

/-- The calls whose first request `Call.request1` builds from a literal. -/
def covered : Call → Bool
  | .uploadInfo .. | .uploadChunk .. | .uploadCommit .. => false
  | .tags .. | .repositories .. | .referrers .. => false
  | _ => true

/-- The listings: their first request is built from a literal too, inside `clientCallS`. -/
def coveredList : Call → Bool
  | .tags .. | .repositories .. | .referrers .. => true
  | _ => false

/-- **The `ocirequest.Request` of the model** for a call, as a record: every field. -/
def Call.rreq (cfg : Cfg) : Call → Request
  | .getBlob repo dg | .getBlobRange repo dg _ _ => { kind := .blobGet, repo := repo, digest := dg }
  | .getManifest repo dg => { kind := .manifestGet, repo := repo, digest := dg }
  | .getTag repo tag => { kind := .manifestGet, repo := repo, tag := tag }
  | .resolveBlob repo dg => { kind := .blobHead, repo := repo, digest := dg }
  | .resolveManifest repo dg => { kind := .manifestHead, repo := repo, digest := dg }
  | .resolveTag repo tag => { kind := .manifestHead, repo := repo, tag := tag }
  | .pushBlob repo _ _ | .startUpload repo _ => { kind := .blobStartUpload, repo := repo }
  | .pushManifest repo tag content _ => { kind := .manifestPut, repo := repo, tag := tag, digest := cfg.H content }
  | .mountBlob fromRepo toRepo dg => { kind := .blobMount, repo := toRepo, digest := dg, fromRepo := fromRepo }
  | .deleteBlob repo dg => { kind := .blobDelete, repo := repo, digest := dg }
  | .deleteManifest repo dg => { kind := .manifestDelete, repo := repo, digest := dg }
  | .deleteTag repo tag => { kind := .manifestDelete, repo := repo, tag := tag }
  | .tags repo start =>
    { kind := .tagsList, repo := repo, listN := Pager.effectivePageSize cfg.pageSize, listLast := start }
  | .repositories start => { kind := .catalogList, listN := Pager.effectivePageSize cfg.pageSize, listLast := start }
  | .referrers repo dg =>
    { kind := .referrersList, repo := repo, digest := dg, listN := Pager.effectivePageSize cfg.pageSize }
  -- not covered: no `ocirequest.Request` is built for the upload steps (the value is a placeholder)
  | .uploadInfo .. | .uploadChunk .. | .uploadCommit .. => { kind := .ping }

/-- The method refuses before it builds a request (`PushManifest` with an empty media type, writer.go:38-40). -/
def Call.proceeds : Call → Bool
  | .pushManifest _ _ _ mt => mt ≠ []
  | _ => true

/-- What the method adds to the `http.Request` that `newRequest` made: the `Range` header of `GetBlobRange`
(reader.go:50-54), content type, length and body of `PushManifest` (writer.go:53-58). -/
def Call.decorate : Call → HttpRequest → HttpRequest
  | .getBlobRange _ _ o0 o1 => fun rq => { rq with range := if o0 = 0 ∧ o1 < 0 then [] else cliRangeHdr o0 o1 }
  | .pushManifest _ _ content mt => fun rq => { rq with contentType := mt, contentLength := content.length, body := content }
  | _ => id

/-- The digest `read` / `resolve` hand to `descriptorFromResponse` as known: `rreq.Digest` (reader.go:95-104, 140). -/
def knownDigest : RespCodec.Call → Option Bytes
  | .getBlob dg | .getManifest dg | .resolveBlob dg | .resolveManifest dg => some dg
  | .getTag | .resolveTag => some []
  | _ => none

/-! ## Well-formedness of the table -/

/-- the methods of `*client` that build a request from a literal, as the model knows them -/
def modelledFns : List String :=
  ["GetBlob", "GetBlobRange", "GetManifest", "GetTag", "ResolveBlob", "ResolveManifest", "ResolveTag", "PushBlob",
   "PushManifest", "MountBlob", "DeleteBlob", "DeleteManifest", "DeleteTag", "PushBlobChunked", "Tags", "Repositories",
   "Referrers"]

def provKnown : Prov → Bool
  | .other _ => false
  | .app _ p => provKnown p
  | _ => true

/-- Every literal is in a modelled method of `*client`, every modelled method has exactly one, every kind
is a kind of `ocirequest` and no value has an unknown provenance. -/
def tableOk (rows : List Row) : Bool :=
  rows.all (fun row => row.recv == "client" && modelledFns.contains row.fn &&
    (kindOfName row.kind).isSome && row.fields.all fun f => provKnown f.2) &&
  modelledFns.all fun f => (rows.filter fun row => row.recv == "client" && row.fn == f).length == 1

/-- an argument has the shape of its parameter's Go type -/
def valTyped (ty : String) : Val → Bool
  | .str _ => ty == "string" || ty == "ociregistry.Digest" || ty == "[]byte"
  | .int _ => ty == "int" || ty == "int64"
  | .desc _ => ty == "ociregistry.Descriptor"
  | .opaque => ty == "context.Context" || ty == "io.Reader"

def argsTyped : List (String × String) → List Val → Bool
  | [], [] => true
  | p :: ps, v :: vs => valTyped p.2 v && argsTyped ps vs
  | _, _ => false

/-- `construct` prints the tag when there is one: with a tag, the digest of a manifest request is not sent. -/
theorem mkReq?_manifestPut_digest (repo tag d : Bytes) :
    mkReq? { kind := .manifestPut, repo := repo, tag := tag, digest := if tag = [] then d else [] } =
    mkReq? { kind := .manifestPut, repo := repo, tag := tag, digest := d } := by
  have h : mkReq { kind := .manifestPut, repo := repo, tag := tag, digest := if tag = [] then d else [] } =
      mkReq { kind := .manifestPut, repo := repo, tag := tag, digest := d } := by
    by_cases ht : tag = [] <;> simp [mkReq, construct, tagOrDigest, ht]
  simp only [mkReq?, h]

/-- `construct` prints no query for a referrers request: `ListN` is not sent. -/
theorem mkReq_referrers_listN (repo dg : Bytes) (n m : Int) :
    mkReq { kind := .referrersList, repo := repo, digest := dg, listN := n } =
    mkReq { kind := .referrersList, repo := repo, digest := dg, listN := m } := by
  simp [mkReq, construct]

theorem mkReq?_referrers_listN (repo dg : Bytes) (n m : Int) :
    mkReq? { kind := .referrersList, repo := repo, digest := dg, listN := n } =
    mkReq? { kind := .referrersList, repo := repo, digest := dg, listN := m } := by
  simp only [mkReq?, mkReq_referrers_listN repo dg n m]

theorem site_row (c : Call) (h : covered c = true ∨ coveredList c = true) :
    ∃ row, rowsOf (fnOf c) = [row] ∧ argsTyped row.params (argsOf c) = true ∧
      ∀ cfg, rowRequest (clientEnv cfg) row (argsOf c) = some (c.rreq cfg) := by
  cases c
  case getBlobRange repo dg o0 o1 =>
    by_cases hd : o0 = 0 ∧ o1 < 0
    · simp only [fnOf, argsOf, if_pos hd]; exact ⟨_, rfl, rfl, fun _ => rfl⟩
    · simp only [fnOf, argsOf, if_neg hd]; exact ⟨_, rfl, rfl, fun _ => rfl⟩
  case uploadInfo => simp [covered, coveredList] at h
  case uploadChunk => simp [covered, coveredList] at h
  case uploadCommit => simp [covered, coveredList] at h
  all_goals exact ⟨_, rfl, rfl, fun _ => rfl⟩

theorem siteRequest_eq (cfg : Cfg) (c : Call) (h : covered c = true ∨ coveredList c = true) :
    siteRequest cfg c = some (c.rreq cfg) := by
  obtain ⟨row, h1, _, h3⟩ := site_row c h
  simp only [siteRequest, h1, h3]

theorem request1_eq (cfg : Cfg) (c : Call) (h : covered c = true) :
    Call.request1 cfg c = if c.proceeds then (mkReq? (c.rreq cfg)).map c.decorate else none := by
  cases c
  case pushManifest repo tag content mt =>
    by_cases hm : mt = []
    · simp [Call.request1, Call.proceeds, hm]
    · simp only [Call.request1, Call.proceeds, Call.rreq, if_neg hm, mkReq?_manifestPut_digest]
      simp [hm, Call.decorate]
  case getBlobRange => simp [Call.request1, Call.proceeds, Call.rreq, Call.decorate]
  case uploadInfo => simp [covered] at h
  case uploadChunk => simp [covered] at h
  case uploadCommit => simp [covered] at h
  case tags => simp [covered] at h
  case repositories => simp [covered] at h
  case referrers => simp [covered] at h
  all_goals simp [Call.request1, Call.proceeds, Call.rreq, Call.decorate]

theorem argsOf_typed (c : Call) (h : covered c = true ∨ coveredList c = true) :
    ∃ row, rowsOf (fnOf c) = [row] ∧ argsTyped row.params (argsOf c) = true := by
  obtain ⟨row, h1, h2, _⟩ := site_row c h
  exact ⟨row, h1, h2⟩

end OciModel.Wire
