/-
Helper lemmas for C13's `sub_equals_restriction` / `sub_frame` (definitions in `SubMem.lean`).
-/
import OciModel.SubMem
import OciModel.SubLemmas
import OciModel.MemLemmas
import OciModel.RefLemmas

namespace OciModel.SubMem
open OciModel OciModel.Mem OciModel.Sub

/-! ### Names -/

/-- `p/n` is a valid repository name iff both `p` and `n` are (no length limit in `ocimem`). -/
theorem isRepo_mapName (p n : Bytes) : Ref.isRepo (mapName p n) = (Ref.isRepo p && Ref.isRepo n) := by
  have : mapName p n = p ++ Ref.cSlash :: n := rfl
  rw [this, Ref.isRepo, Ref.splitOn_append_sep, List.all_append]
  rfl

theorem stripName_ne_of_none {p k : Bytes} (h : stripName p k = none) (n : Bytes) : k ≠ mapName p n := by
  intro e; rw [e, stripName_mapName] at h; cases h

/-! ### Restriction of the repository map -/

theorem restrictRepos_cons_some {p k n : Bytes} (h : stripName p k = some n) (v : Repo) (m : List (Bytes × Repo)) :
    restrictRepos p ((k, v) :: m) = (n, v) :: restrictRepos p m := by
  simp [restrictRepos, h]

theorem restrictRepos_cons_none {p k : Bytes} (h : stripName p k = none) (v : Repo) (m : List (Bytes × Repo)) :
    restrictRepos p ((k, v) :: m) = restrictRepos p m := by
  simp [restrictRepos, h]

theorem alookup_restrictRepos (p n : Bytes) (m : List (Bytes × Repo)) :
    alookup n (restrictRepos p m) = alookup (mapName p n) m := by
  induction m with
  | nil => rfl
  | cons kv m ih =>
    obtain ⟨k, v⟩ := kv
    cases h : stripName p k with
    | none =>
      rw [restrictRepos_cons_none h, ih, alookup_cons, if_neg (stripName_ne_of_none h n)]
    | some n' =>
      have hk : k = mapName p n' := (stripName_eq_some p k n').mp h
      rw [restrictRepos_cons_some h, alookup_cons, alookup_cons, ih]
      by_cases e : n' = n
      · simp [e, hk]
      · have : k ≠ mapName p n := by
          rw [hk]; intro e'; exact e (mapName_injective p _ _ e')
        simp [e, this]

theorem restrictRepos_aerase (p n : Bytes) (m : List (Bytes × Repo)) :
    restrictRepos p (aerase (mapName p n) m) = aerase n (restrictRepos p m) := by
  induction m with
  | nil => rfl
  | cons kv m ih =>
    obtain ⟨k, v⟩ := kv
    cases h : stripName p k with
    | none =>
      rw [aerase_cons, if_neg (stripName_ne_of_none h n), restrictRepos_cons_none h, restrictRepos_cons_none h, ih]
    | some n' =>
      have hk : k = mapName p n' := (stripName_eq_some p k n').mp h
      rw [aerase_cons, restrictRepos_cons_some h, aerase_cons]
      by_cases e : n' = n
      · subst e; simp [hk, ih]
      · have : k ≠ mapName p n := by
          rw [hk]; intro e'; exact e (mapName_injective p _ _ e')
        rw [if_neg this, if_neg e, restrictRepos_cons_some h, ih]

theorem restrictRepos_ainsert (p n : Bytes) (v : Repo) (m : List (Bytes × Repo)) :
    restrictRepos p (ainsert (mapName p n) v m) = ainsert n v (restrictRepos p m) := by
  unfold ainsert
  rw [restrictRepos_cons_some (stripName_mapName p n), restrictRepos_aerase]

theorem outsideRepos_aerase (p n : Bytes) (m : List (Bytes × Repo)) :
    outsideRepos p (aerase (mapName p n) m) = outsideRepos p m := by
  induction m with
  | nil => rfl
  | cons kv m ih =>
    obtain ⟨k, v⟩ := kv
    rw [aerase_cons]
    by_cases e : k = mapName p n
    · rw [if_pos e, ih]
      simp [outsideRepos, e, stripName_mapName]
    · rw [if_neg e]
      simp only [outsideRepos, List.filter_cons] at ih ⊢
      rw [ih]

theorem outsideRepos_ainsert (p n : Bytes) (v : Repo) (m : List (Bytes × Repo)) :
    outsideRepos p (ainsert (mapName p n) v m) = outsideRepos p m := by
  unfold ainsert
  have : outsideRepos p ((mapName p n, v) :: aerase (mapName p n) m) = outsideRepos p (aerase (mapName p n) m) := by
    simp [outsideRepos, stripName_mapName]
  rw [this, outsideRepos_aerase]

theorem alookup_outsideRepos {p k : Bytes} (h : stripName p k = none) (m : List (Bytes × Repo)) :
    alookup k (outsideRepos p m) = alookup k m := by
  induction m with
  | nil => rfl
  | cons kv m ih =>
    obtain ⟨k', v⟩ := kv
    by_cases e : k' = k
    · subst e; simp [outsideRepos, h, alookup_cons]
    · cases h' : stripName p k' with
      | none =>
        have : outsideRepos p ((k', v) :: m) = (k', v) :: outsideRepos p m := by simp [outsideRepos, h']
        rw [this, alookup_cons, alookup_cons, if_neg e, if_neg e, ih]
      | some n' =>
        have : outsideRepos p ((k', v) :: m) = outsideRepos p m := by simp [outsideRepos, h']
        rw [this, alookup_cons, if_neg e, ih]

/-! ### State accessors -/

@[simp] theorem restrict_immutableTags (p : Bytes) (s : State) : (restrict p s).immutableTags = s.immutableTags := rfl
@[simp] theorem restrict_nextID (p : Bytes) (s : State) : (restrict p s).nextID = s.nextID := rfl
@[simp] theorem restrict_repos (p : Bytes) (s : State) : (restrict p s).repos = restrictRepos p s.repos := rfl

theorem restrict_setNextID (p : Bytes) (s : State) (k : Nat) :
    restrict p { s with nextID := k } = { restrict p s with nextID := k } := rfl

@[simp] theorem getRepo_restrict (p n : Bytes) (s : State) : getRepo (restrict p s) n = getRepo s (mapName p n) :=
  alookup_restrictRepos p n s.repos

theorem restrict_putRepo (p n : Bytes) (s : State) (rp : Repo) :
    restrict p (putRepo s (mapName p n) rp) = putRepo (restrict p s) n rp := by
  simp [restrict, putRepo, restrictRepos_ainsert]

theorem restrict_putBuffer (p n : Bytes) (s : State) (rp : Repo) (id : Bytes) (b : Buffer) :
    restrict p (putBuffer s (mapName p n) rp id b) = putBuffer (restrict p s) n rp id b := by
  simp [putBuffer, restrict_putRepo]

@[simp] theorem blobFor_restrict (p n d : Bytes) (s : State) : blobFor (restrict p s) n d = blobFor s (mapName p n) d := by
  simp [blobFor]

@[simp] theorem manifestFor_restrict (p n d : Bytes) (s : State) :
    manifestFor (restrict p s) n d = manifestFor s (mapName p n) d := by
  simp [manifestFor]

@[simp] theorem getBuffer_restrict (p n id : Bytes) (s : State) :
    getBuffer (restrict p s) n id = getBuffer s (mapName p n) id := by
  simp [getBuffer]

theorem makeRepo_restrict {p : Bytes} (hp : Ref.isRepo p = true) (n : Bytes) (s : State) :
    makeRepo (restrict p s) n = (makeRepo s (mapName p n)).map fun x => (restrict p x.1, x.2) := by
  simp only [makeRepo, isRepo_mapName, hp, Bool.true_and, getRepo_restrict]
  cases Ref.isRepo n
  · simp
  · cases getRepo s (mapName p n) <;> simp [restrict_putRepo]

/-! ### The frame -/

/-- The repositories of `s` that are not under `p/`. -/
def outside (p : Bytes) (s : State) : List (Bytes × Repo) := outsideRepos p s.repos

theorem outside_putRepo (p n : Bytes) (s : State) (rp : Repo) : outside p (putRepo s (mapName p n) rp) = outside p s := by
  simp [outside, putRepo, outsideRepos_ainsert]

theorem outside_setNextID (p : Bytes) (s : State) (k : Nat) : outside p { s with nextID := k } = outside p s := rfl

/-! ### Repository listings -/

/-- Ascending, possibly with repeats. -/
def AscB (l : List Bytes) : Prop := l.Pairwise (fun a b => compare a b ≠ .gt)

theorem asc_sortBytes (l : List Bytes) : AscB (sortBytes l) := by
  rw [sortBytes, insertSorted_eq]
  exact asc_foldr_insertBy id l

theorem insertSorted_of_le {n : Bytes} {l : List Bytes} (h : ∀ x ∈ l, compare n x ≠ .gt) :
    insertSorted n l = n :: l := by
  cases l with
  | nil => rfl
  | cons x xs =>
    have := h x List.mem_cons_self
    simp [insertSorted, this]

theorem filterMap_insertSorted (p k : Bytes) {l : List Bytes} (hl : AscB l) :
    (insertSorted k l).filterMap (stripName p) =
      match stripName p k with
      | some n => insertSorted n (l.filterMap (stripName p))
      | none => l.filterMap (stripName p) := by
  induction l with
  | nil => cases h : stripName p k <;> simp [insertSorted, h]
  | cons x xs ih =>
    unfold AscB at hl
    rw [List.pairwise_cons] at hl
    have ih := ih hl.2
    by_cases hgt : compare k x = .gt
    · have e : insertSorted k (x :: xs) = x :: insertSorted k xs := by simp [insertSorted, hgt]
      rw [e, List.filterMap_cons, ih]
      cases hk : stripName p k with
      | none => simp [List.filterMap_cons]
      | some n =>
        cases hx : stripName p x with
        | none => simp [hx]
        | some m =>
          have hgt' : compare n m = .gt := by
            rw [(stripName_eq_some p k n).mp hk, (stripName_eq_some p x m).mp hx, compare_mapName] at hgt
            exact hgt
          simp [hx, insertSorted, hgt']
    · have e : insertSorted k (x :: xs) = k :: x :: xs := by simp [insertSorted, hgt]
      rw [e, List.filterMap_cons]
      cases hk : stripName p k with
      | none => rfl
      | some n =>
        simp only []
        rw [insertSorted_of_le]
        intro m hm
        obtain ⟨y, hy, hym⟩ := List.mem_filterMap.mp hm
        have hky : compare k y ≠ .gt := by
          rcases List.mem_cons.mp hy with hy | hy
          · subst hy; exact hgt
          · exact cmp_le_trans hgt (hl.1 y hy)
        rw [(stripName_eq_some p k n).mp hk, (stripName_eq_some p y m).mp hym, compare_mapName] at hky
        exact hky

theorem filterMap_sortBytes (p : Bytes) (l : List Bytes) :
    (sortBytes l).filterMap (stripName p) = sortBytes (l.filterMap (stripName p)) := by
  induction l with
  | nil => rfl
  | cons k ks ih =>
    have e : sortBytes (k :: ks) = insertSorted k (sortBytes ks) := rfl
    rw [e, filterMap_insertSorted p k (asc_sortBytes ks), ih, List.filterMap_cons]
    cases stripName p k <;> rfl

theorem filter_filterMap_strip (p start : Bytes) (l : List Bytes) :
    (l.filter fun k => compare (mapName p start) k == .lt).filterMap (stripName p) =
      (l.filterMap (stripName p)).filter fun n => compare start n == .lt := by
  induction l with
  | nil => rfl
  | cons k ks ih =>
    cases hk : stripName p k with
    | none =>
      rw [List.filterMap_cons, hk, ← ih, List.filter_cons]
      split
      · rw [List.filterMap_cons, hk]
      · rfl
    | some n =>
      have e : compare (mapName p start) k = compare start n := by
        rw [(stripName_eq_some p k n).mp hk, compare_mapName]
      rw [List.filterMap_cons, hk, List.filter_cons, List.filter_cons, e, ← ih]
      split
      · rw [List.filterMap_cons, hk]
      · rfl

theorem keys_restrictRepos (p : Bytes) (m : List (Bytes × Repo)) :
    (restrictRepos p m).map (·.1) = (m.map (·.1)).filterMap (stripName p) := by
  induction m with
  | nil => rfl
  | cons kv m ih =>
    obtain ⟨k, v⟩ := kv
    cases h : stripName p k with
    | none => rw [restrictRepos_cons_none h, ih]; simp [h]
    | some n => rw [restrictRepos_cons_some h, List.map_cons, ih]; simp [h]

theorem keysAfter_restrictRepos (p start : Bytes) (m : List (Bytes × Repo)) :
    keysAfter (restrictRepos p m) start = (keysAfter m (mapName p start)).filterMap (stripName p) := by
  unfold keysAfter
  rw [filterMap_sortBytes, filter_filterMap_strip, keys_restrictRepos]

/-! ### One step -/

/-- After the reads of both sides have been made the same, a write case of `step_restrict` is a tree of
`if`/`match` with the same conditions on both sides: split it; a leaf that leaves the state alone is `rfl`,
a leaf that writes closes once `restrict` is moved inside `putRepo` / `putBuffer` / the new counter. -/
macro "fin_restrict" : tactic =>
  `(tactic| repeat' (first | rfl | split | simp only [restrict_putRepo, restrict_putBuffer, restrict_setNextID, restrict_nextID]))

variable (H : Bytes → Bytes)

theorem step_restrict {p : Bytes} (s : State) (op : Op) (hp : creates op = true → Ref.isRepo p = true) :
    step H (restrict p s) op =
      (restrict p (step H s (mapOp p op)).1, mapOut p op (step H s (mapOp p op)).2) := by
  cases op
  -- reads: the restricted registry reads `n` where the whole one reads `p/n`; then both sides branch alike
  case getBlob | getBlobRange | getManifest | getTag | resolveBlob | resolveManifest | resolveTag | wSize | tags
      | referrers =>
    simp only [step, mapOp, mapOut, blobFor_restrict, manifestFor_restrict, getRepo_restrict, getBuffer_restrict]
    -- no leaf changes the state, so every leaf is the same pair on both sides
    repeat' split
    all_goals rfl
  case repositories => simp only [step, mapOp, mapOut, restrict_repos, keysAfter_restrictRepos]
  -- writes: the same reads, and `restrict` commutes with the writes to `p/n`
  case wWrite r id _ | wCancel r id | wCommit r id _ =>
    simp only [step, mapOp, mapOut, getBuffer_restrict]
    cases getBuffer s (mapName p r) id with
    | none => rfl
    | some x => obtain ⟨rp, b⟩ := x; simp only []; fin_restrict
  case pushBlob r _ _ | pushChunked r | resume r _ _ | mount _ r _ =>
    simp only [step, mapOp, mapOut, makeRepo_restrict (hp rfl)]
    cases makeRepo s (mapName p r) with
    | none => repeat' (first | rfl | split)   -- `pushBlob` checks the descriptor before; no leaf writes
    | some x =>
      obtain ⟨s1, rp⟩ := x
      simp only [Option.map_some, blobFor_restrict, getRepo_restrict]
      fin_restrict
  case pushManifest r t data mt dec =>
    simp only [step, mapOp, mapOut, makeRepo_restrict (hp rfl)]
    cases makeRepo s (mapName p r) with
    | none => rfl
    | some x =>
      obtain ⟨s1, rp⟩ := x
      simp only [Option.map_some, ← restrict_putRepo]
      -- `(restrict p s1).immutableTags` also sits inside `Decidable` instances, where no rewrite reaches it
      generalize himm : (restrict p s1).immutableTags = imm
      change s1.immutableTags = imm at himm
      subst himm
      -- every condition is about `rp` and the mode only: decide each once, for both sides
      generalize (if t ≠ [] ∧ s1.immutableTags = true then alookup t rp.tags else none) = ex
      generalize (s1.immutableTags && _) = re
      generalize (checkDescData H _ data).isSome = cd
      by_cases h1 : t ≠ [] ∧ (!Ref.isTag t) = true
      · simp only [if_pos h1]
      · simp only [if_neg h1]
        cases ex with
        | some cur =>
          simp only []
          by_cases h2 : cur.digest = H data
          · simp only [if_pos h2]
            by_cases h3 : cur.mediaType ≠ mt
            · simp only [if_pos h3]
            · simp only [if_neg h3]
          · simp only [if_neg h2]
        | none =>
          -- a re-typing or a bad descriptor is refused alike on both sides: only `false`, `false` goes on
          cases re <;> cases cd <;> simp only [Bool.false_eq_true, if_false, if_true]
          cases dec <;> simp only []
          all_goals cases checkRefs rp _ [] <;> rfl
  case deleteBlob | deleteManifest | deleteTag =>
    simp only [step, mapOp, mapOut, blobFor_restrict, manifestFor_restrict, getRepo_restrict]
    generalize himm : (restrict p s).immutableTags = imm
    change s.immutableTags = imm at himm
    subst himm
    fin_restrict

theorem step_outside (p : Bytes) (s : State) (op : Op) :
    outside p (step H s (mapOp p op)).1 = outside p s := by
  cases op
  case repositories => rfl
  -- `step_touch`: the state is untouched, or the repository the operation names (`p/n`) is replaced
  all_goals
    rcases step_touch H s (mapOp p _) with h | ⟨rp', n, h, _⟩ <;> rw [h]
    exact outside_putRepo p _ s rp'

/-! ### Histories -/

theorem run_restrict {p : Bytes} (s : State) (ops : List Op)
    (hp : (∃ op ∈ ops, creates op = true) → Ref.isRepo p = true) :
    run H (restrict p s) ops =
      (restrict p (run H s (ops.map (mapOp p))).1, mapOuts p ops (run H s (ops.map (mapOp p))).2) := by
  induction ops generalizing s with
  | nil => rfl
  | cons op ops ih =>
    have h1 : creates op = true → Ref.isRepo p = true := fun h => hp ⟨op, List.mem_cons_self, h⟩
    have h2 : (∃ o ∈ ops, creates o = true) → Ref.isRepo p = true :=
      fun ⟨o, ho, h⟩ => hp ⟨o, List.mem_cons_of_mem _ ho, h⟩
    simp only [run, List.map_cons, step_restrict H s op h1, ih _ h2, mapOuts]

end OciModel.SubMem
