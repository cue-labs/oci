/-
`Mem` (the model of ocimem's code) refines `MemSpec` (the reference registry of C02):
`abs` commutes with every step, with equal outputs, for every state whose association lists
have unique keys (`Mem.KeysUnique`, an invariant of `Mem.step`: `ku_step`); hence equal outputs
over every history from the initial state. All 22 operations of `Mem.Op` are covered.

Equality of abstract states is equality of structures whose map fields are functions, i.e.
extensional equality of the maps (`funext`) plus equality of the domain lists.
-/
import OciModel.MemSpec
import OciModel.MemLemmas

namespace OciModel.MemSpec
open OciModel.Mem (alookup aerase ainsert KU KeysUnique RepoKU)

/-! ### Association lists denote partial maps -/

section AList
variable {β γ : Type}

theorem keys_aerase (k : Bytes) (m : List (Bytes × β)) :
    (aerase k m).map (·.1) = (m.map (·.1)).filter (fun x => x != k) := by
  induction m with
  | nil => rfl
  | cons p m ih =>
    obtain ⟨k', v⟩ := p
    by_cases h : k' = k
    · simp [Mem.aerase_cons, h, ih]
    · simp [Mem.aerase_cons, h, ih]

@[simp] theorem absMap_get (f : β → γ) (m : List (Bytes × β)) (k : Bytes) :
    (absMap f m).get k = (alookup k m).map f := rfl

@[simp] theorem absMap_dom (f : β → γ) (m : List (Bytes × β)) : (absMap f m).dom = m.map (·.1) := rfl

theorem absMap_nil (f : β → γ) : absMap f [] = PMap.empty := rfl

@[simp] theorem absFun_apply (f : β → γ) (m : List (Bytes × β)) (k : Bytes) :
    absFun f m k = (alookup k m).map f := rfl

theorem absFun_nil (f : β → γ) : absFun f [] = FMap.empty := rfl

theorem absFun_aerase (f : β → γ) (k : Bytes) (m : List (Bytes × β)) :
    absFun f (aerase k m) = (absFun f m).del k := by
  funext x
  show (alookup x (aerase k m)).map f = if x = k then none else (alookup x m).map f
  rw [Mem.alookup_aerase]
  by_cases h : k = x
  · rw [if_pos h, if_pos h.symm]; rfl
  · rw [if_neg h, if_neg (Ne.symm h)]

theorem absFun_ainsert (f : β → γ) (k : Bytes) (v : β) (m : List (Bytes × β)) :
    absFun f (ainsert k v m) = (absFun f m).set k (f v) := by
  funext x
  show (alookup x (ainsert k v m)).map f = if x = k then some (f v) else (alookup x m).map f
  rw [Mem.alookup_ainsert]
  by_cases h : k = x
  · rw [if_pos h, if_pos h.symm]; rfl
  · rw [if_neg h, if_neg (Ne.symm h)]

theorem FMap.set_same {p : FMap γ} {k : Bytes} {v : γ} (h : p k = some v) : p.set k v = p := by
  funext x
  by_cases hx : x = k
  · simp [FMap.set, hx, h]
  · simp [FMap.set, hx]

/-- Re-binding a key to a value with the same image does not change the function. -/
theorem absFun_ainsert_same (f : β → γ) {k : Bytes} {v v' : β} {m : List (Bytes × β)}
    (h : alookup k m = some v) (hf : f v' = f v) : absFun f (ainsert k v' m) = absFun f m := by
  rw [absFun_ainsert, hf]
  exact FMap.set_same (by rw [absFun_apply, h]; rfl)

theorem absMap_aerase (f : β → γ) (k : Bytes) (m : List (Bytes × β)) :
    absMap f (aerase k m) = (absMap f m).del k := by
  unfold absMap PMap.del
  rw [keys_aerase]
  congr 1
  exact absFun_aerase f k m

theorem absMap_ainsert (f : β → γ) (k : Bytes) (v : β) (m : List (Bytes × β)) :
    absMap f (ainsert k v m) = (absMap f m).set k (f v) := by
  unfold absMap PMap.set
  congr 1
  · exact absFun_ainsert f k v m
  · rw [ainsert, List.map_cons, keys_aerase]

theorem filterMap_congr' {α δ : Type} {g g' : α → Option δ} :
    ∀ {l : List α}, (∀ x ∈ l, g x = g' x) → l.filterMap g = l.filterMap g'
  | [], _ => rfl
  | a :: l, h => by
    have h1 : g a = g' a := h a (List.mem_cons_self ..)
    have h2 := filterMap_congr' (l := l) fun x hx => h x (List.mem_cons_of_mem _ hx)
    simp [List.filterMap_cons, h1, h2]

theorem absMap_values (f : β → γ) {m : List (Bytes × β)} (hku : KU m) :
    (absMap f m).values = m.map (fun p => f p.2) := by
  induction m with
  | nil => rfl
  | cons p m ih =>
    obtain ⟨k, v⟩ := p
    have hk : k ∉ m.map (·.1) := (List.nodup_cons.mp hku).1
    have hm : KU m := (List.nodup_cons.mp hku).2
    have ih' := ih hm
    show ((k :: m.map (·.1)).filterMap fun x => (alookup x ((k, v) :: m)).map f) = f v :: m.map (fun p => f p.2)
    rw [List.filterMap_cons]
    simp only [Mem.alookup_cons, if_true, Option.map_some]
    congr 1
    rw [← ih']
    show _ = (m.map (·.1)).filterMap fun x => (alookup x m).map f
    apply filterMap_congr'
    intro x hx
    have : ¬ k = x := fun e => hk (e ▸ hx)
    simp [this]

theorem absMap_wf (f : β → γ) {m : List (Bytes × β)} (hku : KU m) : (absMap f m).WF := by
  refine ⟨hku, fun k => ?_⟩
  simp only [absMap_dom, absMap_get, Option.isSome_map]
  exact Mem.alookup_isSome_iff.symm

theorem absMap_keysAfter (f : β → γ) (m : List (Bytes × β)) (start : Bytes) :
    (absMap f m).keysAfter start = Mem.keysAfter m start := rfl

end AList

/-! ### Well-formedness of the spec's maps is kept by `set` and `del` -/

section WF
variable {β : Type}

theorem PMap.wf_empty : (PMap.empty : PMap β).WF := ⟨List.nodup_nil, fun k => by simp [PMap.empty]⟩

theorem PMap.wf_set {p : PMap β} (h : p.WF) (k : Bytes) (v : β) : (p.set k v).WF := by
  refine ⟨?_, fun x => ?_⟩
  · simp only [PMap.set, List.nodup_cons]
    exact ⟨by simp, h.1.filter _⟩
  · by_cases hx : x = k
    · simp [PMap.set, hx]
    · simp [PMap.set, hx, h.2 x]

theorem PMap.wf_del {p : PMap β} (h : p.WF) (k : Bytes) : (p.del k).WF := by
  refine ⟨h.1.filter _, fun x => ?_⟩
  by_cases hx : x = k
  · simp [PMap.del, hx]
  · simp [PMap.del, hx, h.2 x]

end WF

/-! ### State-level laws -/

theorem abs_init (imm : Bool) : abs (Mem.init imm) = init imm := rfl

@[simp] theorem abs_nextID (s : Mem.State) : (abs s).nextID = s.nextID := rfl
@[simp] theorem abs_immutableTags (s : Mem.State) : (abs s).immutableTags = s.immutableTags := rfl

theorem abs_repos_get (s : Mem.State) (r : Bytes) : (abs s).repos.get r = (Mem.getRepo s r).map absRepo := rfl

theorem abs_putRepo (s : Mem.State) (r : Bytes) (rp : Mem.Repo) :
    abs (Mem.putRepo s r rp) = (abs s).put r (absRepo rp) := by
  simp [abs, Mem.putRepo, State.put, absMap_ainsert]

theorem abs_setNextID (s : Mem.State) (n : Nat) : abs { s with nextID := n } = { abs s with nextID := n } := rfl

theorem absRepo_empty : absRepo Mem.emptyRepo = emptyRepo := rfl

theorem abs_putBuffer (s : Mem.State) (r : Bytes) (rp : Mem.Repo) (id : Bytes) (b : Mem.Buffer) :
    abs (Mem.putBuffer s r rp id b) = (abs s).putSession r (absRepo rp) id (absBuffer b) := by
  simp [Mem.putBuffer, abs_putRepo, State.putSession, absRepo, absFun_ainsert]

theorem ensureRepo_abs (s : Mem.State) (r : Bytes) :
    ensureRepo (abs s) r = (Mem.makeRepo s r).map fun p => (abs p.1, absRepo p.2) := by
  unfold ensureRepo Mem.makeRepo
  by_cases hr : Ref.isRepo r
  · simp only [hr, Bool.not_true, Bool.false_eq_true, if_false, abs_repos_get]
    cases Mem.getRepo s r with
    | none => simp [abs_putRepo, absRepo_empty]
    | some rp => simp
  · simp [hr]

theorem findBlob_abs (s : Mem.State) (r d : Bytes) :
    findBlob (abs s) r d = match Mem.blobFor s r d with
      | .error e => .error e
      | .ok b => .ok (absBlob b) := by
  unfold findBlob Mem.blobFor
  rw [abs_repos_get]
  cases Mem.getRepo s r with
  | none => rfl
  | some rp =>
    simp only [Option.map_some, absRepo, absFun_apply]
    cases alookup d rp.blobs <;> rfl

theorem findManifest_abs (s : Mem.State) (r d : Bytes) :
    findManifest (abs s) r d = match Mem.manifestFor s r d with
      | .error e => .error e
      | .ok b => .ok (absManifest b) := by
  unfold findManifest Mem.manifestFor
  rw [abs_repos_get]
  cases Mem.getRepo s r with
  | none => rfl
  | some rp =>
    simp only [Option.map_some, absRepo, absMap_get]
    cases alookup d rp.manifests <;> rfl

theorem findSession_abs (s : Mem.State) (r id : Bytes) :
    findSession (abs s) r id = (Mem.getBuffer s r id).map fun p => (absRepo p.1, absBuffer p.2) := by
  unfold findSession Mem.getBuffer
  rw [abs_repos_get]
  cases Mem.getRepo s r with
  | none => rfl
  | some rp =>
    simp only [Option.map_some, absRepo, absFun_apply]
    cases alookup id rp.uploads <;> rfl

section
variable (H : Bytes → Bytes)

theorem absBlob_desc (b : Mem.Blob) : (absBlob b).desc H = Mem.descOf H b := rfl
theorem absManifest_desc (b : Mem.Blob) : (absManifest b).desc H = Mem.descOf H b := rfl

end

theorem checkRefs_abs (rp : Mem.Repo) (rs : List Mem.RefInfo) (subj : Bytes) :
    checkRefs (absRepo rp) rs subj = Mem.checkRefs rp rs subj := by
  induction rs generalizing subj with
  | nil => rfl
  | cons r rest ih =>
    simp only [checkRefs, Mem.checkRefs, ih]
    simp [absRepo]

theorem refsAs_abs (b : Mem.Blob) (mt : Bytes) : refsAs (absManifest b) mt = Mem.refsAs b mt := rfl

theorem reaches_abs (rp : Mem.Repo) (target : Bytes) (fuel : Nat) (refs : List Mem.RefInfo) :
    reaches (absMap absManifest rp.manifests).get target fuel refs = Mem.refersTo rp target fuel refs := by
  induction fuel generalizing refs with
  | zero => simp [reaches, Mem.refersTo]
  | succ n ih =>
    induction refs with
    | nil => simp [reaches, Mem.refersTo]
    | cons r rest ihl =>
      rw [Mem.refersTo, ← ihl]
      simp only [reaches, List.any_cons, absMap_get]
      cases hb : alookup r.desc.digest rp.manifests with
      | none =>
        -- both sides are the same Boolean function of the two tests `hd`, `hk`
        by_cases hd : r.desc.digest = target <;> by_cases hk : (r.kind = 1 ∨ r.kind = 2) <;> simp [hd, hk]
      | some b =>
        simp only [Option.map_some]
        rw [← ih b.refs, ← ih (Mem.refsAs b r.desc.mediaType)]
        by_cases hd : r.desc.digest = target <;> by_cases hk : (r.kind = 1 ∨ r.kind = 2) <;>
          (simp [hd, hk, absManifest]) <;> rfl

theorem tagged_abs {rp : Mem.Repo} (hku : RepoKU rp) (target : Bytes) :
    tagged (absRepo rp) target = Mem.taggedRefersTo rp target := by
  unfold tagged Mem.taggedRefersTo Mem.tagRefs
  have hv : (absRepo rp).tags.values = rp.tags.map (fun p => p.2) := by
    simp [absRepo, absMap_values id hku.1]
  -- with `hv` the fuel and the list of tag references are those of `taggedRefersTo`
  rw [hv]
  simp only [absRepo, absMap_dom, List.length_map, List.map_map]
  exact reaches_abs rp target _ _

/-! ### The refinement, one step -/

section Step
variable (H : Bytes → Bytes)

theorem step_abs {s : Mem.State} (hs : KeysUnique s) (op : Mem.Op) :
    step H (abs s) op = (abs (Mem.step H s op).1, (Mem.step H s op).2) := by
  cases op with
  | getBlob r d | resolveBlob r d =>
    simp only [step, Mem.step, findBlob_abs]
    cases Mem.blobFor s r d <;> rfl
  | getBlobRange r d o0 o1 =>
    simp only [step, Mem.step, findBlob_abs]
    cases Mem.blobFor s r d with
    | error e => rfl
    | ok b =>
      by_cases h : o0 < 0 ∨ o0 > (if o1 < 0 ∨ o1 > (b.data.length : Int) then (b.data.length : Int) else o1)
      · simp [range, absBlob, h]
      · simp [range, absBlob, h, Content.desc, Mem.descOf]
  | getManifest r d | resolveManifest r d =>
    simp only [step, Mem.step, findManifest_abs]
    cases Mem.manifestFor s r d <;> rfl
  | getTag r t =>
    simp only [step, Mem.step, abs_repos_get]
    cases Mem.getRepo s r with
    | none => rfl
    | some rp =>
      simp only [Option.map_some, absRepo, absMap_get]
      cases alookup t rp.tags with
      | none => rfl
      | some d =>
        simp only [Option.map_some, id]
        cases alookup d.digest rp.manifests <;> rfl
  | resolveTag r t =>
    simp only [step, Mem.step, abs_repos_get]
    cases Mem.getRepo s r with
    | none => rfl
    | some rp =>
      simp only [Option.map_some, absRepo, absMap_get]
      cases alookup t rp.tags <;> rfl
  | pushBlob r desc data =>
    simp only [step, Mem.step, ensureRepo_abs]
    cases Mem.checkDescData H desc data with
    | some e => rfl
    | none =>
      cases Mem.makeRepo s r with
      | none => rfl
      | some p =>
        obtain ⟨s1, rp⟩ := p
        simp [abs_putRepo, absRepo, absFun_ainsert, absBlob]
  | pushChunked r =>
    simp only [step, Mem.step, ensureRepo_abs]
    cases Mem.makeRepo s r with
    | none => rfl
    | some p =>
      obtain ⟨s1, rp⟩ := p
      simp [abs_setNextID, abs_putBuffer, absBuffer]
  | resume r id offset =>
    simp only [step, Mem.step, ensureRepo_abs]
    cases Mem.makeRepo s r with
    | none => rfl
    | some p =>
      obtain ⟨s1, rp⟩ := p
      cases hu : alookup id rp.uploads with
      | some b => simp [hu, abs_putBuffer, absBuffer, absRepo]
      | none =>
        by_cases hid : id = []
        · subst hid; simp [hu, abs_setNextID, abs_putBuffer, absBuffer, absRepo]
        · simp [hu, hid, abs_putBuffer, absBuffer, absRepo]
  | wWrite r id data =>
    simp only [step, Mem.step, findSession_abs]
    cases Mem.getBuffer s r id with
    | none => rfl
    | some p =>
      obtain ⟨rp, b⟩ := p
      simp only [Option.map_some, absBuffer]
      split
      · rfl
      · simp [abs_putBuffer, absBuffer]
  | wSize r id =>
    simp only [step, Mem.step, findSession_abs]
    cases Mem.getBuffer s r id with
    | none => rfl
    | some p => rfl
  | wCancel r id =>
    simp only [step, Mem.step, findSession_abs]
    cases Mem.getBuffer s r id with
    | none => rfl
    | some p =>
      obtain ⟨rp, b⟩ := p
      simp [abs_putBuffer, absBuffer]
  | wCommit r id dig =>
    simp only [step, Mem.step, findSession_abs]
    cases hgb : Mem.getBuffer s r id with
    | none => rfl
    | some p =>
      obtain ⟨rp, b⟩ := p
      have hu : alookup id rp.uploads = some b := (Mem.getBuffer_spec hgb).2
      simp only [Option.map_some, absBuffer]
      cases hce : b.commitErr with
      | some e => rfl
      | none =>
        by_cases hd : H b.buf = dig
        · have hsame : (absFun absBuffer rp.uploads).set id
              (absBuffer { buf := b.buf, checkStart := b.checkStart, committed := true, commitErr := none })
              = absFun absBuffer rp.uploads := FMap.set_same (by simp [hu, absBuffer, hce])
          simp [hd, abs_putRepo, absRepo, absFun_ainsert, absBlob, hsame]
        · simp [hd, abs_putBuffer, absBuffer]
  | mount fromR toR d =>
    simp only [step, Mem.step, ensureRepo_abs]
    cases Mem.makeRepo s toR with
    | none => rfl
    | some p =>
      obtain ⟨s1, rp0⟩ := p
      simp only [Option.map_some, findBlob_abs]
      cases Mem.blobFor s1 fromR d with
      | error e => rfl
      | ok b =>
        simp only [abs_repos_get]
        cases Mem.getRepo s1 toR with
        | none => rfl
        | some rto => simp [abs_putRepo, absRepo, absFun_ainsert, absBlob_desc]
  | pushManifest r t data mt dec =>
    simp only [step, Mem.step, ensureRepo_abs]
    cases hm : Mem.makeRepo s r with
    | none => rfl
    | some p =>
      obtain ⟨s1, rp⟩ := p
      have hku := (Mem.ku_makeRepo hs hm).2
      have htg := tagged_abs hku (H data)
      have hcr := fun rs => checkRefs_abs rp rs []
      simp only [absRepo] at htg hcr
      simp only [Option.map_some, absRepo, absMap_get, abs_immutableTags, Option.map_id_fun, id, htg, hcr]
      by_cases ht : t ≠ [] ∧ (!Ref.isTag t) = true
      · rw [if_pos ht, if_pos ht]
      · rw [if_neg ht, if_neg ht]
        generalize (if t ≠ [] ∧ s1.immutableTags = true then alookup t rp.tags else none) = ex
        cases ex with
        | some cur =>
          -- same digest and same media type: the idempotent re-push; the three other cases: DENIED
          by_cases h1 : cur.digest = H data <;> by_cases h2 : cur.mediaType = mt <;> simp [h1, h2]
        | none =>
          -- The re-typing test. Nothing is stored under the digest: it passes.
          cases alookup (H data) rp.manifests
          case' none =>
            simp only [Option.map_none, Bool.and_false, Bool.false_eq_true, if_false]
          -- Something is stored: the test refuses on both sides, or passes.
          case' some b =>
            simp only [Option.map_some, absManifest]
            by_cases hc : (s1.immutableTags && (b.mediaType != mt && Mem.taggedRefersTo rp (H data))) = true
            case pos =>
              simp only [hc, if_true]
            simp only [hc, Bool.false_eq_true, if_false]
          -- Both ways of passing leave the same goal: descriptor check, decoding, reference check, store.
          all_goals
            by_cases hcd : (Mem.checkDescData H ⟨mt, H data, data.length⟩ data).isSome = true
            · simp only [hcd, if_true]
            · simp only [hcd, Bool.false_eq_true, if_false]
              cases dec
              case malformed => rfl
              all_goals
                simp only [decRefs]
                generalize Mem.checkRefs rp _ [] = o
                cases o with
                | none => rfl
                | some subj =>
                  -- stored untagged, or stored and tagged: `absMap_ainsert` once or twice
                  by_cases hte : t = [] <;> simp [hte, abs_putRepo, absRepo, absMap_ainsert, absManifest]
  | deleteBlob r d =>
    simp only [step, Mem.step, Mem.blobFor, abs_repos_get]
    cases hg : Mem.getRepo s r with
    | none => rfl
    | some rp =>
      have hku := Mem.ku_getRepo hs hg
      simp only [Option.map_some, absRepo, absFun_apply]
      cases hb : alookup d rp.blobs with
      | none => rfl
      | some b =>
        have ht := tagged_abs hku d
        simp only [absRepo] at ht
        simp only [Option.map_some, Option.isNone_some, Bool.false_eq_true, if_false, abs_immutableTags, ht]
        split
        · rfl
        · simp [abs_putRepo, absRepo, absFun_aerase]
  | deleteManifest r d =>
    simp only [step, Mem.step, Mem.manifestFor, abs_repos_get]
    cases hg : Mem.getRepo s r with
    | none => rfl
    | some rp =>
      have hku := Mem.ku_getRepo hs hg
      simp only [Option.map_some, absRepo, absMap_get]
      cases hb : alookup d rp.manifests with
      | none => rfl
      | some b =>
        have ht := tagged_abs hku d
        simp only [absRepo] at ht
        simp only [Option.map_some, Option.isNone_some, Bool.false_eq_true, if_false, abs_immutableTags, ht]
        split
        · rfl
        · simp [abs_putRepo, absRepo, absMap_aerase]
  | deleteTag r t =>
    simp only [step, Mem.step, abs_repos_get]
    cases hg : Mem.getRepo s r with
    | none => rfl
    | some rp =>
      -- unknown tag (either mode), DENIED in immutable mode, else the tag erased (`absMap_aerase`)
      by_cases hn : (alookup t rp.tags).isNone <;> by_cases hi : s.immutableTags <;>
        simp [hn, hi, absRepo, abs_putRepo, absMap_aerase]
  | repositories start => rfl
  | tags r start =>
    simp only [step, Mem.step, abs_repos_get]
    cases Mem.getRepo s r <;> rfl
  | referrers r d =>
    simp only [step, Mem.step, abs_repos_get]
    cases hg : Mem.getRepo s r with
    | none => rfl
    | some rp =>
      have hku := Mem.ku_getRepo hs hg
      simp only [Option.map_some, absRepo, absMap_values absManifest hku.2.1]
      simp [List.filter_map, List.map_map, Function.comp_def, absManifest, Manifest.desc, Mem.descOf]

theorem step_out {s : Mem.State} (hs : KeysUnique s) (op : Mem.Op) :
    (step H (abs s) op).2 = (Mem.step H s op).2 := by rw [step_abs H hs op]

theorem step_state {s : Mem.State} (hs : KeysUnique s) (op : Mem.Op) :
    (step H (abs s) op).1 = abs (Mem.step H s op).1 := by rw [step_abs H hs op]

/-! ### The refinement, whole histories -/

theorem run_abs {s : Mem.State} (hs : KeysUnique s) (ops : List Mem.Op) :
    run H (abs s) ops = (abs (Mem.run H s ops).1, (Mem.run H s ops).2) := by
  induction ops generalizing s with
  | nil => rfl
  | cons op rest ih =>
    simp only [run, Mem.run, step_abs H hs op, ih (Mem.ku_step H s op hs)]

theorem run_init (imm : Bool) (ops : List Mem.Op) :
    run H (init imm) ops = (abs (Mem.run H (Mem.init imm) ops).1, (Mem.run H (Mem.init imm) ops).2) := by
  rw [← abs_init]; exact run_abs H (Mem.ku_init imm) ops

end Step

/-! ### The spec's own invariant: every enumerated domain is the support of its map -/

/-- Every enumerated map of the state (repositories; per repository manifests and tags) has as
domain exactly the keys it binds, each once. -/
def State.WF (s : State) : Prop :=
  s.repos.WF ∧ ∀ r rp, s.repos.get r = some rp → rp.manifests.WF ∧ rp.tags.WF

theorem abs_wf {s : Mem.State} (hs : KeysUnique s) : (abs s).WF := by
  refine ⟨absMap_wf absRepo hs.1, fun r rp h => ?_⟩
  rw [abs_repos_get] at h
  cases hg : Mem.getRepo s r with
  | none => rw [hg] at h; cases h
  | some rp0 =>
    rw [hg] at h
    cases h
    have hku := Mem.ku_getRepo hs hg
    exact ⟨absMap_wf absManifest hku.2.1, absMap_wf id hku.1⟩

theorem run_wf (H : Bytes → Bytes) (imm : Bool) (ops : List Mem.Op) : (run H (init imm) ops).1.WF := by
  rw [run_init]; exact abs_wf (Mem.ku_run H _ ops (Mem.ku_init imm))

end OciModel.MemSpec
