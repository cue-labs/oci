/-
Helper lemmas for C14W (model in `OciModel/WrapRO.lean`).
-/
import OciModel.WrapRO
import OciModel.Props.C20

namespace OciModel.WrapRO
open OciModel.Mem (Op Out)
open OciModel.Generated OciModel.Generated.WrapRO

variable {S : Type}

/-! ### ReadOnly -/

theorem ro_nilFuncs (B : Backend S) (s : S) (op : Op) (m : String)
    (hm : methodOf op = some m) (hs : sourceOf m = .nilFuncs)
    (row : Generated.Funcs.Row) (hrow : funcsRow m = some row) (hok : Funcs.RowOk row = true) :
    roStep B s op = (s, some (.err "UNSUPPORTED"), []) := by
  have h := Props.C20.funcs_unset_clean row hok nilFuncs (Or.inl rfl)
  have h' : Funcs.call nilFuncs row = .unset row.method row.errRepo false row.unsetShape := by
    rw [h]; simp [nilFuncs]
  simp only [roStep, hm, hs, hrow, h']

theorem readOnlyOk_read (h : ReadOnlyOk = true) (m : String) (hm : isReadMethod m = true) :
    sourceOf m = .wrapped := by
  simp only [ReadOnlyOk, Bool.and_eq_true, List.all_eq_true, List.mem_append, beq_iff_eq] at h
  obtain ⟨⟨_, hreads⟩, _⟩ := h
  simp only [isReadMethod, Bool.or_eq_true, List.contains_iff_mem] at hm
  exact hreads m hm

theorem readOnlyOk_mut (h : ReadOnlyOk = true) (m : String) (hm : isMutatorMethod m = true) :
    sourceOf m = .nilFuncs ∧ ∃ row, funcsRow m = some row ∧ Funcs.RowOk row = true := by
  simp only [ReadOnlyOk, Bool.and_eq_true, List.all_eq_true, List.mem_append, beq_iff_eq] at h
  obtain ⟨_, hmuts⟩ := h
  simp only [isMutatorMethod, Bool.or_eq_true, List.contains_iff_mem] at hm
  obtain ⟨hsrc, hrow⟩ := hmuts m hm
  refine ⟨hsrc, ?_⟩
  cases hr : funcsRow m with
  | none => simp [hr] at hrow
  | some row =>
    simp only [hr, Bool.and_eq_true] at hrow
    exact ⟨row, rfl, hrow.1⟩

/-! ### Immutable -/

theorem immutableOk_unfold (h : ImmutableOk = true) :
    immutablePushKnown = true ∧
    immutableOverrides = ["DeleteBlob", "DeleteManifest", "DeleteTag", "PushManifest"] ∧
    immutableDenies = ["DeleteBlob", "DeleteManifest", "DeleteTag"] := by
  simp only [ImmutableOk, Bool.and_eq_true, beq_iff_eq] at h
  obtain ⟨⟨⟨_, hpush⟩, hovr⟩, hden⟩ := h
  exact ⟨hpush, hovr, hden⟩

theorem immStep_pushManifest (hok : ImmutableOk = true) (H : Bytes → Bytes) (B : Backend S) (s : S)
    (r t data mt : Bytes) (dec : Mem.Decoded) :
    immStep H B s (.pushManifest r t data mt dec) =
      if t = [] then ((B s (.pushManifest r t data mt dec)).1, some (B s (.pushManifest r t data mt dec)).2,
        [.pushManifest r t data mt dec])
      else immPush H B s r t data mt dec := by
  obtain ⟨hpk, hovr, hden⟩ := immutableOk_unfold hok
  simp [immStep, methodOf, hden, hovr, hpk]

theorem immPush_calls (H : Bytes → Bytes) (B : Backend S) (s : S) (r t data mt : Bytes) (dec : Mem.Decoded) :
    ∀ c ∈ (immPush H B s r t data mt dec).2.2, c = .resolveTag r t ∨ c = .pushManifest r t data mt dec := by
  simp only [immPush]
  split
  · split <;> simp
  · split
    · simp
    · split
      · split <;> simp
      · simp

end OciModel.WrapRO
