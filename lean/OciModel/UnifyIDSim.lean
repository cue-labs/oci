/-
The unifier model read with the stand-in codec (the C15 line protocol) and with the real codec are
the same machine up to the harness's translation of composite IDs: a step on translated input gives
the translated output, the same two member states, and corresponding tables of live writers.
-/
import OciModel.UnifyIDStandin
import OciModel.UnifyLemmas
import OciModel.MemStep
import OciModel.ReqCodecLemmas
namespace OciModel.UnifyID
open OciModel OciModel.Json OciModel.Unify

/-- A member upload ID as the harness and `ocimem` make them: no `&`, well-formed UTF-8, no NUL. -/
def Plain (x : Bytes) : Prop := NoAmp x ∧ ValidUtf8 x ∧ (0 : UInt8) ∉ x

/-- A composite ID of the protocol: `&`-separated well-formed UTF-8 without NUL. -/
def Good (x : Bytes) : Prop := Dom x ∧ (0 : UInt8) ∉ x

theorem toReal_noamp (a : Bytes) (ha : NoAmp a) : toReal a = a := by
  have h : standin.jsonDec a = none := by
    rw [standin_jsonDec, splitAmp_noamp a ha]
    cases a <;> simp
  simp [toReal, h]

/-! ## Fresh IDs of `ocimem` are plain -/

theorem validUtf8_of_ascii (s : Bytes) (h : ∀ c ∈ s, c.toNat < 0x80) : ValidUtf8 s := by
  induction s with
  | nil => decide
  | cons c s ih =>
    show validGo 0 (c :: s) = true
    rw [validGo_ascii c s (h c (by simp))]
    exact ih (fun x hx => h x (by simp [hx]))

theorem freshID_bytes (n : Nat) : ∀ c ∈ Mem.freshID n, c = 64 ∨ Ref.isDigit c = true := by
  have hd : ∀ c ∈ Nat.toDigits 10 n, c.isDigit = true :=
    fun c hc => Nat.isDigit_of_mem_toDigits (by decide) (by decide) hc
  have e : strBytes (toString n) = (Nat.toDigits 10 n).map (fun c => c.val.toUInt8) := by
    rw [show toString n = String.ofList (Nat.toDigits 10 n) from rfl,
      ReqCodec.strBytes_ofList, ReqCodec.flatMap_utf8_digits _ hd]
  intro c hc
  simp only [Mem.freshID, List.mem_cons] at hc
  rcases hc with rfl | hc
  · exact Or.inl rfl
  · rw [e] at hc
    obtain ⟨c', hc', rfl⟩ := List.mem_map.mp hc
    exact Or.inr (ReqCodec.digit_byte (hd c' hc')).1

theorem freshID_plain (n : Nat) : Plain (Mem.freshID n) := by
  have hb := freshID_bytes n
  have hr : ∀ c ∈ Mem.freshID n, 48 ≤ c.toNat ∧ c.toNat ≤ 64 := by
    intro c hc
    rcases hb c hc with rfl | h
    · decide
    · simp only [Ref.isDigit, Bool.and_eq_true, decide_eq_true_eq, UInt8.le_iff_toNat_le] at h
      have h1 : (48 : UInt8).toNat = 48 := by decide
      have h2 : (57 : UInt8).toNat = 57 := by decide
      omega
  refine ⟨?_, validUtf8_of_ascii _ (fun c hc => by have := hr c hc; omega), ?_⟩
  · intro h; have := hr _ h; revert this; decide
  · intro h; have := hr _ h; revert this; decide

/-! ## Keys of the writers table -/

theorem zero_sep_inj : ∀ (r r' x y : Bytes), (0 : UInt8) ∉ x → (0 : UInt8) ∉ y →
    r ++ 0 :: x = r' ++ 0 :: y → r = r' ∧ x = y
  | [], [], x, y, _, _, h => by simpa using h
  | [], c :: r', x, y, hx, _, h => by
    simp at h
    exact absurd (h.2 ▸ (by simp : (0 : UInt8) ∈ r' ++ 0 :: y)) hx
  | c :: r, [], x, y, _, hy, h => by
    simp at h
    exact absurd (h.2 ▸ (by simp : (0 : UInt8) ∈ r ++ 0 :: x)) hy
  | c :: r, c' :: r', x, y, hx, hy, h => by
    simp at h
    obtain ⟨h1, h2⟩ := zero_sep_inj r r' x y hx hy h.2
    exact ⟨by rw [h.1, h1], h2⟩

theorem wkey_inj {r r' x y : Bytes} (hx : (0 : UInt8) ∉ x) (hy : (0 : UInt8) ∉ y)
    (h : wkey r x = wkey r' y) : r = r' ∧ x = y := by
  simp only [wkey, List.append_assoc, List.cons_append, List.nil_append] at h
  exact zero_sep_inj r r' x y hx hy h

theorem toReal_zero_free {x : Bytes} (hx : Dom x) : (0 : UInt8) ∉ toReal x := by
  obtain ⟨parts, hd, _⟩ := hx
  simp only [toReal, hd]
  intro h
  have := encode_alphabet _ _ h
  revert this; decide

theorem key_corr {r r' x y : Bytes} (hx : Good x) (hy : Good y) :
    wkey r (toReal x) = wkey r' (toReal y) ↔ wkey r x = wkey r' y := by
  constructor
  · intro h
    obtain ⟨h1, h2⟩ := wkey_inj (toReal_zero_free hx.1) (toReal_zero_free hy.1) h
    rw [h1, toReal_inj hx.1 hy.1 h2]
  · intro h
    obtain ⟨h1, h2⟩ := wkey_inj hx.2 hy.2 h
    rw [h1, h2]

/-! ## The relation between the two readings of a state -/

structure Rel (s s' : UState) : Prop where
  m0 : s'.m0 = s.m0
  m1 : s'.m1 = s.m1
  w : ∀ r id, Good id → Mem.alookup (wkey r (toReal id)) s'.writers = Mem.alookup (wkey r id) s.writers

theorem rel_insert {w w' : List (Bytes × Int)}
    (hw : ∀ r id, Good id → Mem.alookup (wkey r (toReal id)) w' = Mem.alookup (wkey r id) w)
    (r x : Bytes) (hx : Good x) (v : Int) :
    ∀ r2 id, Good id → Mem.alookup (wkey r2 (toReal id)) (Mem.ainsert (wkey r (toReal x)) v w') =
      Mem.alookup (wkey r2 id) (Mem.ainsert (wkey r x) v w) := by
  intro r2 id hid
  rw [Mem.alookup_ainsert, Mem.alookup_ainsert, hw r2 id hid]
  by_cases h : wkey r x = wkey r2 id
  · rw [if_pos ((key_corr hx hid).mpr h), if_pos h]
  · rw [if_neg (fun h' => h ((key_corr hx hid).mp h')), if_neg h]

/-! ## Composite IDs of plain member IDs -/

theorem join_good (a b : Bytes) (ha : Plain a) (hb : Plain b) : Good (joinID standin a b) := by
  have h := standin_dec_enc_pair a b ha.1 hb.1
  refine ⟨⟨[a, b], h, ?_⟩, ?_⟩
  · intro p hp; simp at hp; rcases hp with rfl | rfl; exact ha.2.1; exact hb.2.1
  · have e : joinID standin a b = amp :: (a ++ amp :: b) := by
      simp [joinID, Driver.Unify.codec]
    rw [e]
    intro hm
    simp at hm
    rcases hm with hm | hm | hm | hm
    · revert hm; decide
    · exact ha.2.2 hm
    · revert hm; decide
    · exact hb.2.2 hm

theorem split_plain {x a b : Bytes} (hx : Good x) (h : splitID standin x = some (a, b)) : Plain a ∧ Plain b := by
  obtain ⟨⟨parts, hd, hv⟩, hz⟩ := hx
  rw [splitID_standin_of_dec hd] at h
  obtain ⟨he, _, hn⟩ := standin_dec_spec hd
  match parts, h with
  | [a', b'], h =>
    simp [pairOf] at h
    obtain ⟨rfl, rfl⟩ := h
    have e : x = amp :: (a' ++ amp :: b') := by rw [he]; simp [Driver.Unify.codec]
    refine ⟨⟨hn a' (by simp), hv a' (by simp), ?_⟩, ⟨hn b' (by simp), hv b' (by simp), ?_⟩⟩
    · intro hm; exact hz (by rw [e]; simp [hm])
    · intro hm; exact hz (by rw [e]; simp [hm])

/-! ## Which IDs a member reports -/

theorem opened_plain (H : Bytes → Bytes) {m m' : Mem.State} {op : Mem.Op} {o : Mem.Out} (hs : Mem.step H m op = (m', o))
    (hop : ∃ r, op = .pushChunked r ∨ ∃ id off, op = .resume r id off)
    (hp : ∀ r id off, op = .resume r id off → Plain id) (x : Bytes) (h : o = .okWriter x) : Plain x := by
  rcases mem_open_out H m op hop with ⟨c, hc⟩ | ⟨y, hy, hy'⟩
  · rw [hs, h] at hc; cases hc
  · obtain rfl : y = x := by rw [hs, h] at hy; cases hy; rfl
    rcases hy' with ⟨n, rfl⟩ | ⟨r', off', rfl⟩
    · exact freshID_plain n
    · exact hp _ _ _ rfl

/-! ## One step under both readings -/

/-- Operations that carry no upload ID and create none: the codec and the writers table play no part. -/
theorem step_plain_op {c c' : Codec} (H : Bytes → Bytes) (pol : Policy) (f : Bool) (m0 m1 : Mem.State)
    (w w' : List (Bytes × Int)) (op : Mem.Op) (h1 : opID op = none) (h2 : ∀ r, op ≠ .pushChunked r)
    (hw : ∀ r id, Good id → Mem.alookup (wkey r (toReal id)) w' = Mem.alookup (wkey r id) w) :
    Rel (step H c pol f ⟨m0, m1, w⟩ op).1 (step H c' pol f ⟨m0, m1, w'⟩ op).1 ∧
    (step H c' pol f ⟨m0, m1, w'⟩ op).2 = (step H c pol f ⟨m0, m1, w⟩ op).2 := by
  cases op
  all_goals first
    | (cases h1; done)              -- the operation carries an upload ID
    | exact absurd rfl (h2 _)       -- `PushBlobChunked`
    | exact ⟨⟨rfl, rfl, hw⟩, rfl⟩   -- `step` consults neither the codec nor the table

def trOut : UOut → UOut
  | .out (.okWriter id) => .out (.okWriter (toReal id))
  | o => o

theorem trOut_plain (x : Bytes) (hx : Plain x) : trOut (.out (.okWriter x)) = .out (.okWriter x) := by
  simp [trOut, toReal_noamp x hx.1]

theorem trOut_bothResults (o0 o1 : Mem.Out) (h : ∀ x, o0 = .okWriter x → Plain x) :
    trOut (.out (toOut (bothResults (ofOut o0) (ofOut o1)))) = .out (toOut (bothResults (ofOut o0) (ofOut o1))) := by
  cases o0 with
  | okWriter x =>
    have := trOut_plain x (h x rfl)
    cases o1 <;> simp [ofOut, bothResults, toOut, this] <;> rfl
  | _ => cases o1 <;> simp [ofOut, bothResults, toOut, trOut]

theorem step_pushChunked (H : Bytes → Bytes) (pol : Policy) (f : Bool) (m0 m1 : Mem.State)
    (w w' : List (Bytes × Int)) (r : Bytes)
    (hw : ∀ r id, Good id → Mem.alookup (wkey r (toReal id)) w' = Mem.alookup (wkey r id) w) :
    Rel (step H standin pol f ⟨m0, m1, w⟩ (.pushChunked r)).1 (step H realCodec pol f ⟨m0, m1, w'⟩ (.pushChunked r)).1 ∧
    (step H realCodec pol f ⟨m0, m1, w'⟩ (.pushChunked r)).2 = trOut (step H standin pol f ⟨m0, m1, w⟩ (.pushChunked r)).2 := by
  simp only [step, fan]
  rcases hs0 : Mem.step H m0 (.pushChunked r) with ⟨s0', o0⟩
  rcases hs1 : Mem.step H m1 (.pushChunked r) with ⟨s1', o1⟩
  have hpl0 := opened_plain H hs0 ⟨r, .inl rfl⟩ (fun _ _ _ h => nomatch h)
  have hpl1 := opened_plain H hs1 ⟨r, .inl rfl⟩ (fun _ _ _ h => nomatch h)
  simp only
  split
  · rename_i id0 id1
    have hg := join_good id0 id1 (hpl0 id0 rfl) (hpl1 id1 rfl)
    have hj := joinID_toReal id0 id1 (hpl0 id0 rfl).1 (hpl1 id1 rfl).1
    refine ⟨⟨rfl, rfl, ?_⟩, ?_⟩
    · simp only [hj]
      exact rel_insert hw r _ hg _
    · simp [trOut, hj]
  · exact ⟨⟨rfl, rfl, hw⟩, (trOut_bothResults o0 o1 hpl0).symm⟩
theorem step_resume (H : Bytes → Bytes) (pol : Policy) (f : Bool) (m0 m1 : Mem.State)
    (w w' : List (Bytes × Int)) (r id : Bytes) (off : Int) (hid : Good id)
    (hw : ∀ r id, Good id → Mem.alookup (wkey r (toReal id)) w' = Mem.alookup (wkey r id) w) :
    Rel (step H standin pol f ⟨m0, m1, w⟩ (.resume r id off)).1 (step H realCodec pol f ⟨m0, m1, w'⟩ (.resume r (toReal id) off)).1 ∧
    (step H realCodec pol f ⟨m0, m1, w'⟩ (.resume r (toReal id) off)).2 =
      trOut (step H standin pol f ⟨m0, m1, w⟩ (.resume r id off)).2 := by
  have hsp := splitID_toReal hid.1
  simp only [step, fan, hsp]
  cases hs : splitID standin id with
  | none => exact ⟨⟨rfl, rfl, hw⟩, rfl⟩
  | some p =>
    obtain ⟨a, b⟩ := p
    obtain ⟨hpa, hpb⟩ := split_plain hid hs
    simp only [Option.map_some]
    rcases hs0 : Mem.step H m0 (.resume r a off) with ⟨s0', o0⟩
    rcases hs1 : Mem.step H m1 (.resume r b off) with ⟨s1', o1⟩
    have hpl0 := opened_plain H hs0 ⟨r, .inr ⟨a, off, rfl⟩⟩ (fun _ _ _ h => by cases h; exact hpa)
    have hpl1 := opened_plain H hs1 ⟨r, .inr ⟨b, off, rfl⟩⟩ (fun _ _ _ h => by cases h; exact hpb)
    simp only
    split
    · rename_i id0 id1
      have hg := join_good id0 id1 (hpl0 id0 rfl) (hpl1 id1 rfl)
      have hj := joinID_toReal id0 id1 (hpl0 id0 rfl).1 (hpl1 id1 rfl).1
      -- the two sizes, read off the members' answers to `Size`
      repeat' split
      all_goals first
        | exact ⟨⟨rfl, rfl, hw⟩, rfl⟩     -- they differ: refused, the table stays
        | (refine ⟨⟨rfl, rfl, ?_⟩, ?_⟩    -- they agree: the writer is entered under the composite ID
           · simp only [hj]
             exact rel_insert hw r _ hg _
           · simp [trOut, hj])
    · exact ⟨⟨rfl, rfl, hw⟩, (trOut_bothResults o0 o1 hpl0).symm⟩

theorem step_writer (H : Bytes → Bytes) (pol : Policy) (f : Bool) (m0 m1 : Mem.State)
    (w w' : List (Bytes × Int)) (op : Mem.Op) (id : Bytes) (hop : opID op = some id) (hr : ∀ r off, op ≠ .resume r id off)
    (hid : Good id)
    (hw : ∀ r id, Good id → Mem.alookup (wkey r (toReal id)) w' = Mem.alookup (wkey r id) w) :
    Rel (step H standin pol f ⟨m0, m1, w⟩ op).1 (step H realCodec pol f ⟨m0, m1, w'⟩ (mapID toReal op)).1 ∧
    (step H realCodec pol f ⟨m0, m1, w'⟩ (mapID toReal op)).2 = (step H standin pol f ⟨m0, m1, w⟩ op).2 := by
  have hsp := splitID_toReal hid.1
  have hlk : ∀ r, Mem.alookup (wkey r (toReal id)) w' = Mem.alookup (wkey r id) w := fun r => hw r id hid
  have hins : ∀ r v, ∀ r2 id2, Good id2 → Mem.alookup (wkey r2 (toReal id2)) (Mem.ainsert (wkey r (toReal id)) v w') =
      Mem.alookup (wkey r2 id2) (Mem.ainsert (wkey r id) v w) := fun r v => rel_insert hw r id hid v
  cases op <;> simp [opID] at hop
  case resume => subst hop; exact absurd rfl (hr _ _)
  all_goals
    subst hop
    simp only [mapID, Driver.Unify.mapID, step, fan, hsp]
    cases hs : splitID standin _ with
    | none => exact ⟨⟨rfl, rfl, hw⟩, rfl⟩
    | some p =>
      obtain ⟨a, b⟩ := p
      simp only [Option.map_some, hlk]
      -- is the writer live, and do both members accept?
      repeat' split
      all_goals first
        | exact ⟨⟨rfl, rfl, hw⟩, rfl⟩          -- the table stays
        | exact ⟨⟨rfl, rfl, hins _ _⟩, rfl⟩    -- `Write` enters the size after the write


/-- The translation of an output: the composite ID a fresh or resumed upload reports. -/
def trOutFor (op : Mem.Op) (o : UOut) : UOut :=
  match op with
  | .pushChunked _ => trOut o
  | .resume _ _ _ => trOut o
  | _ => o

theorem step_translation (H : Bytes → Bytes) (pol : Policy) (f : Bool) (s s' : UState) (op : Mem.Op)
    (hrel : Rel s s') (hop : ∀ id, opID op = some id → Good id) :
    Rel (step H standin pol f s op).1 (step H realCodec pol f s' (mapID toReal op)).1 ∧
    (step H realCodec pol f s' (mapID toReal op)).2 = trOutFor op (step H standin pol f s op).2 := by
  obtain ⟨m0, m1, w⟩ := s
  obtain ⟨m0', m1', w'⟩ := s'
  obtain ⟨h0, h1, hw⟩ := hrel
  simp only at h0 h1 hw
  subst h0 h1
  by_cases hpc : ∃ r, op = .pushChunked r
  · obtain ⟨r, rfl⟩ := hpc
    exact step_pushChunked H pol f _ _ w w' r hw
  by_cases hre : ∃ r id off, op = .resume r id off
  · obtain ⟨r, id, off, rfl⟩ := hre
    exact step_resume H pol f _ _ w w' r id off (hop id rfl) hw
  have e : ∀ o, trOutFor op o = o := fun o => by
    cases op <;> first | rfl | exact absurd ⟨_, rfl⟩ hpc | exact absurd ⟨_, _, _, rfl⟩ hre
  rw [e]
  cases hid : opID op with
  | some id => exact step_writer H pol f m0' m1' w w' op id hid (fun r off h => hre ⟨r, id, off, h⟩) (hop id hid) hw
  | none =>
    have hm : mapID toReal op = op := by cases op <;> first | rfl | cases hid
    rw [hm]
    exact step_plain_op H pol f m0' m1' w w' op hid (fun r h => hpc ⟨r, h⟩) hw

theorem run_translation (H : Bytes → Bytes) (pol : Policy) (ops : List Mem.Op) :
    ∀ (s s' : UState), Rel s s' → (∀ op ∈ ops, ∀ id, opID op = some id → Good id) →
      Rel (run H standin pol s ops) (run H realCodec pol s' (ops.map (mapID toReal))) := by
  induction ops with
  | nil => intro s s' h _; exact h
  | cons op ops ih =>
    intro s s' h hg
    simp only [run, List.map_cons]
    exact ih _ _ (step_translation H pol true s s' op h (hg op (by simp))).1 (fun o ho => hg o (by simp [ho]))

theorem rel_refl_init (imm : Bool) : Rel (uinit imm) (uinit imm) :=
  ⟨rfl, rfl, fun _ _ _ => rfl⟩

end OciModel.UnifyID
