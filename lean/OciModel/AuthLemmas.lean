/-
Lemmas about the auth transport model (`OciModel/AuthTransport.lean`): the case
analysis of each function of the model (`acquireToken_cases`, `acquireAccessToken_spec`,
`section1_cases`, `section2_cases`, `afterChallenge_cases`, `roundTrip_cases`); the
invariant `J` of a per-host state and what the sections and a whole call send; the
whole transport (`SysJ`, `run`); the states reachable by interleaved sections (`Reach`);
and where each kind of secret sits in a message (`Place`). The property theorems are
in `Props/C10.lean` and `Props/C11.lean`.
-/
import OciModel.AuthTransport
import OciModel.ScopeLemmas
namespace OciModel.Auth
open OciModel OciModel.Scope

/-! ### Token requests -/

/-- `m` is a token request made from `st` for challenge `ch` with scope `sc`:
a POST carrying the state's refresh token, or a GET carrying the state's Basic
credentials (if any); realm, service and the naming host are the challenge's. -/
def TokMsg (st : HostSt) (ch : Chal) (sc : Scope) (m : Msg) : Prop :=
  (∃ rt, st.refresh = some rt ∧ m = postMsg ch rt sc) ∨ m = getMsg st ch sc

/-- The environment holds this JSON token reply at some (attempt, method) position of
phase `ph`. -/
def Delivered (env : Env) (ph : Nat) (t a r : Bytes) (e : Nat) : Prop :=
  ∃ att m, env.tok ph att m = .json t a r e

theorem replyRes_ok {x : TokReply} {t a r : Bytes} {e : Nat} (h : replyRes x = .ok t a r e) :
    x = .json t a r e := by
  cases x <;> simp [replyRes] at h
  obtain ⟨rfl, rfl, rfl, rfl⟩ := h; rfl

/-- Without a realm that is a URL `acquireToken` sends nothing and fails. Otherwise it
makes one or two token requests from this state and returns what the environment
answers at one position `k` of this attempt. -/
theorem acquireToken_cases (env : Env) (st : HostSt) (ch : Chal) (ph att : Nat) (sc : Scope) :
    acquireToken env st ch ph att sc = ([], .otherErr) ∨
    (ch.realm ≠ [] ∧ env.realmOk ch.realm = true ∧
      ∃ ms k, acquireToken env st ch ph att sc = (ms, replyRes (env.tok ph att k)) ∧
        ms ≠ [] ∧ ms.length ≤ 2 ∧ ∀ m ∈ ms, TokMsg st ch sc m) := by
  have he := acquireToken.eq_1 env st ch ph att sc
  split at he
  · exact Or.inl he
  split at he
  · exact Or.inl he
  rename_i hr hok
  refine Or.inr ⟨hr, by simpa using hok, ?_⟩
  have hg : TokMsg st ch sc (getMsg st ch sc) := Or.inr rfl
  split at he
  · rename_i rt hrt
    have hp : TokMsg st ch sc (postMsg ch rt sc) := Or.inl ⟨rt, hrt, rfl⟩
    split at he
    · -- POST answered 404, then GET: the answer is the GET's (method 1)
      exact ⟨_, 1, he, List.cons_ne_nil _ _, Nat.le_refl 2, by simp [hp, hg]⟩
    · -- POST alone (method 0)
      exact ⟨_, 0, he, List.cons_ne_nil _ _, Nat.le_succ 1, by simp [hp]⟩
  · -- no refresh token: GET alone (method 1)
    exact ⟨_, 1, he, List.cons_ne_nil _ _, Nat.le_succ 1, by simp [hg]⟩

theorem acquireToken_msgs (env : Env) (st : HostSt) (ch : Chal) (ph att : Nat) (sc : Scope) :
    ∀ m ∈ (acquireToken env st ch ph att sc).1,
      TokMsg st ch sc m ∧ ch.realm ≠ [] ∧ env.realmOk ch.realm = true := by
  rcases acquireToken_cases env st ch ph att sc with h | ⟨hr, hok, ms, k, h, _, _, hm⟩ <;> rw [h]
  · exact fun _ h => nomatch h
  · exact fun m h => ⟨hm m h, hr, hok⟩

theorem acquireToken_ok (env : Env) (st : HostSt) (ch : Chal) (ph att : Nat) (sc : Scope)
    {t a r : Bytes} {e : Nat} (h : (acquireToken env st ch ph att sc).2 = .ok t a r e) :
    (∃ m, m ∈ (acquireToken env st ch ph att sc).1) ∧ Delivered env ph t a r e := by
  rcases acquireToken_cases env st ch ph att sc with h0 | ⟨_, _, ms, k, h0, hne, _, _⟩ <;> rw [h0] at h ⊢
  · cases h
  · exact ⟨List.exists_mem_of_ne_nil ms hne, att, k, replyRes_ok h⟩

/-- `acquireToken` makes at most two requests, a POST first if there are two. -/
theorem acquireToken_length (env : Env) (st : HostSt) (ch : Chal) (ph att : Nat) (sc : Scope) :
    (acquireToken env st ch ph att sc).1.length ≤ 2 := by
  rcases acquireToken_cases env st ch ph att sc with h | ⟨_, _, ms, k, h, _, hl, _⟩ <;> rw [h]
  · exact Nat.zero_le 2
  · exact hl

/-! ### `finish` and `acquireAccessToken` -/

theorem adoptRefresh_host (st : HostSt) (b : Bytes) : (adoptRefresh st b).host = st.host := by
  unfold adoptRefresh; split <;> rfl
theorem adoptRefresh_challenge (st : HostSt) (b : Bytes) :
    (adoptRefresh st b).challenge = st.challenge := by
  unfold adoptRefresh; split <;> rfl
theorem adoptRefresh_basic (st : HostSt) (b : Bytes) : (adoptRefresh st b).basic = st.basic := by
  unfold adoptRefresh; split <;> rfl
theorem adoptRefresh_toks (st : HostSt) (b : Bytes) : (adoptRefresh st b).toks = st.toks := by
  unfold adoptRefresh; split <;> rfl
theorem adoptRefresh_refresh (st : HostSt) (b : Bytes) :
    (adoptRefresh st b).refresh = st.refresh ∨ ∃ b', (adoptRefresh st b).refresh = some ⟨st.host, .refresh, b'⟩ := by
  unfold adoptRefresh; split
  · exact Or.inl rfl
  · exact Or.inr ⟨b, rfl⟩

-- F41: the clamp keeps the lifetime positive
theorem margin_le_lifeOf (e : Nat) : marginMs ≤ lifeOf e * 1000 := by
  unfold lifeOf defaultExpirySec maxExpirySec marginMs; split <;> omega

/-- What an acquisition does to the state and what it returns. `scs` are the
scopes a new token may be recorded under. -/
structure AcqSpec (env : Env) (ph now : Nat) (st : HostSt) (scs : List Scope)
    (o : HostSt × List Msg × Option Atom) : Prop where
  host : o.1.host = st.host
  challenge : o.1.challenge = st.challenge
  basic : o.1.basic = st.basic
  refresh : o.1.refresh = st.refresh ∨ ∃ b, o.1.refresh = some ⟨st.host, .refresh, b⟩
  toks : (o.2.2 = none ∧ o.1.toks = st.toks) ∨
    ∃ sc t a rf e, sc ∈ scs ∧ Delivered env ph t a rf e ∧ pickToken t a ≠ [] ∧
      o.2.2 = some ⟨st.host, .access, pickToken t a⟩ ∧
      o.1.toks = st.toks ++ [⟨sc, ⟨st.host, .access, pickToken t a⟩, now + lifeOf e * 1000⟩]

theorem finish_spec (env : Env) (ph now : Nat) (st : HostSt) (ms : List Msg) (sc : Scope) (r : TokRes)
    (hd : ∀ t a rf e, r = .ok t a rf e → Delivered env ph t a rf e) {scs : List Scope} (hsc : sc ∈ scs) :
    (finish now st ms sc r).2.1 = ms ∧ AcqSpec env ph now st scs (finish now st ms sc r) := by
  unfold finish
  split
  · rename_i t a rf e
    split
    · exact ⟨rfl, adoptRefresh_host st rf, adoptRefresh_challenge st rf, adoptRefresh_basic st rf,
        adoptRefresh_refresh st rf, Or.inl ⟨rfl, adoptRefresh_toks st rf⟩⟩
    · rename_i hne
      exact ⟨rfl, adoptRefresh_host st rf, adoptRefresh_challenge st rf, adoptRefresh_basic st rf,
        adoptRefresh_refresh st rf,
        Or.inr ⟨sc, t, a, rf, e, hsc, hd t a rf e rfl, hne, rfl, by rw [adoptRefresh_toks]⟩⟩
  · exact ⟨rfl, rfl, rfl, rfl, Or.inl rfl, Or.inl ⟨rfl, rfl⟩⟩

theorem finish_toks_grow {now : Nat} {st : HostSt} {ms : List Msg} {sc0 : Scope} {r : TokRes}
    {sc : Scope} {a : Atom} {exp : Nat}
    (h : (finish now st ms sc0 r).1.toks = st.toks ++ [⟨sc, a, exp⟩]) :
    sc = sc0 ∧ ∃ t ac rf e, r = .ok t ac rf e := by
  unfold finish at h
  split at h
  · rename_i t ac rf e
    split at h
    · simp [adoptRefresh_toks] at h
    · simp [adoptRefresh_toks] at h
      exact ⟨h.1.symm, t, ac, rf, e, rfl⟩
  · simp at h

theorem AcqSpec.mem_toks {env : Env} {ph now : Nat} {st : HostSt} {scs : List Scope}
    {o : HostSt × List Msg × Option Atom} (h : AcqSpec env ph now st scs o) {t : Tok} (ht : t ∈ o.1.toks) :
    t ∈ st.toks ∨ ∃ sc ∈ scs, ∃ tk ac rf e, Delivered env ph tk ac rf e ∧
      t = ⟨sc, ⟨st.host, .access, pickToken tk ac⟩, now + lifeOf e * 1000⟩ := by
  rcases h.toks with ⟨_, h2⟩ | ⟨sc, tk, ac, rf, e, hsc, hd, _, _, h2⟩ <;> rw [h2] at ht
  · exact Or.inl ht
  · rcases List.mem_append.mp ht with h3 | h3
    · exact Or.inl h3
    · exact Or.inr ⟨sc, hsc, tk, ac, rf, e, hd, List.mem_singleton.mp h3⟩

/-- `o` is the outcome of an acquisition from state `st` against challenge `ch` that asks
for the scope `wide` and, after a 401, for `narrow`: its effect on the state; every
message sent is a token request from `st`, to the challenge's realm, for one of the two
scopes; and a token is recorded under exactly the scope whose text was sent in one of
these requests. -/
structure Acquired (env : Env) (ph now : Nat) (st : HostSt) (ch : Chal) (wide narrow : Scope)
    (o : HostSt × List Msg × Option Atom) : Prop where
  spec : AcqSpec env ph now st [wide, narrow] o
  msgs : ∀ m ∈ o.2.1,
    (TokMsg st ch wide m ∨ TokMsg st ch narrow m) ∧ ch.realm ≠ [] ∧ env.realmOk ch.realm = true
  recorded : ∀ sc a exp, o.1.toks = st.toks ++ [⟨sc, a, exp⟩] → ∃ m ∈ o.2.1, TokMsg st ch sc m

-- F39: `acquireAccessToken` asks for the requestable parts of its two scopes
theorem acquireAccessToken_spec (env : Env) (now : Nat) (st : HostSt) (ch : Chal) (ph : Nat)
    (first second : Scope) :
    Acquired env ph now st ch (union (requestable first) (requestable second)) (requestable first)
      (acquireAccessToken env now st ch ph first second) := by
  generalize hw : union (requestable first) (requestable second) = wide
  generalize hn : requestable first = narrow
  -- both branches end with `finish` on the outcome of their last `acquireToken`, for the scope it asked for
  obtain ⟨pre, att, sc, hpre, hsc, he⟩ : ∃ pre att sc,
      (∀ m ∈ pre, TokMsg st ch wide m ∧ ch.realm ≠ [] ∧ env.realmOk ch.realm = true) ∧
      (sc = wide ∨ sc = narrow) ∧
      acquireAccessToken env now st ch ph first second =
        finish now st (pre ++ (acquireToken env st ch ph att sc).1) sc (acquireToken env st ch ph att sc).2 := by
    unfold acquireAccessToken
    rw [hw, hn]
    split
    · exact ⟨_, 1, _, acquireToken_msgs env st ch ph 0 wide, Or.inr rfl, rfl⟩
    · exact ⟨[], 0, wide, by simp, Or.inl rfl, rfl⟩
  rw [he]
  have hf := finish_spec env ph now st (pre ++ (acquireToken env st ch ph att sc).1) sc _
    (fun t a rf e h => (acquireToken_ok env st ch ph att sc h).2) (scs := [wide, narrow]) (by simpa using hsc)
  have hms := acquireToken_msgs env st ch ph att sc
  refine ⟨hf.2, ?_, ?_⟩
  · intro m hm
    rw [hf.1] at hm
    rcases List.mem_append.mp hm with h | h
    · exact ⟨Or.inl (hpre m h).1, (hpre m h).2⟩
    · refine ⟨?_, (hms m h).2⟩
      rcases hsc with rfl | rfl
      · exact Or.inl (hms m h).1
      · exact Or.inr (hms m h).1
  · intro sc' a exp h
    obtain ⟨rfl, t, ac, rf, e, hr⟩ := finish_toks_grow h
    obtain ⟨⟨m, hm⟩, _⟩ := acquireToken_ok env st ch ph att sc' hr
    rw [hf.1]
    exact ⟨m, List.mem_append_right _ hm, (hms m hm).1⟩

/-! ### `requestable`: the part of a scope that can be named in a token request (F39) -/

theorem requestable_limited (s : Scope) : (requestable s).unlimited = false := by
  unfold requestable
  split
  · rfl
  · rename_i h; simpa using h

theorem requestable_of_limited {s : Scope} (h : s.unlimited = false) : requestable s = s := by
  simp [requestable, h]

theorem requestable_unlimited {s : Scope} (h : s.unlimited = true) : requestable s = Scope.empty := by
  simp [requestable, h]

theorem requestable_wf {s : Scope} (h : WF s) : WF (requestable s) := by
  unfold requestable
  split
  · exact wf_empty
  · exact h

/-- As a set of resource scopes the requestable part is the scope itself: the
unlimited scope yields no resource scope, like the empty one. -/
theorem mem_requestable (s : Scope) (r : RS) : Mem r (requestable s) ↔ Mem r s := by
  unfold requestable
  split
  · rename_i h
    simp [Mem, iter, h, Scope.empty, mergeIter, expand]
  · exact Iff.rfl

theorem union_requestable_limited (a b : Scope) : (union (requestable a) (requestable b)).unlimited = false :=
  union_limited (requestable_limited a) (requestable_limited b)

-- F39: no scope a section asks a token for (and records it under) is the unlimited one
theorem section1_scope_limited {a b sc : Scope}
    (h : sc = union (requestable a) (requestable b) ∨ sc = requestable a) :
    sc.unlimited = false := by
  rcases h with rfl | rfl
  · exact union_requestable_limited _ _
  · exact requestable_limited _

theorem section2_scope_limited {s : Bytes} {a b sc : Scope}
    (h : sc = union (parseScope s) (union (requestable a) (requestable b)) ∨ sc = parseScope s) :
    sc.unlimited = false := by
  rcases h with rfl | rfl
  · exact union_limited (parseScope_unlimited _) (union_requestable_limited _ _)
  · exact parseScope_unlimited _

/-! ### The cache -/

theorem mem_deleteExpired (n : Nat) (l : List Tok) (t : Tok) :
    t ∈ deleteExpired n l ↔ t ∈ l ∧ n ≤ t.expires := by
  simp [deleteExpired, Nat.not_lt]

theorem tokenFor_some {l : List Tok} {r : Scope} {t : Tok} (h : tokenFor l r = some t) :
    t ∈ l ∧ contains t.scope r = true := by
  unfold tokenFor at h
  exact ⟨List.mem_of_find?_eq_some h, by simpa using List.find?_some h⟩

theorem tokenFor_none {l : List Tok} {r : Scope} (h : tokenFor l r = none) :
    ∀ t ∈ l, contains t.scope r = false := by
  unfold tokenFor at h
  intro t ht
  have := List.find?_eq_none.mp h t ht
  simpa using this

@[simp] theorem prune_host (now : Nat) (st : HostSt) : (prune now st).host = st.host := rfl
@[simp] theorem prune_challenge (now : Nat) (st : HostSt) : (prune now st).challenge = st.challenge := rfl
@[simp] theorem prune_refresh (now : Nat) (st : HostSt) : (prune now st).refresh = st.refresh := rfl
@[simp] theorem prune_basic (now : Nat) (st : HostSt) : (prune now st).basic = st.basic := rfl
theorem mem_prune_toks (now : Nat) (st : HostSt) (t : Tok) :
    t ∈ (prune now st).toks ↔ t ∈ st.toks ∧ now + marginMs ≤ t.expires := by
  simp [prune, mem_deleteExpired]

@[simp] theorem setChallenge_host (st : HostSt) (ch : Chal) : (setChallenge st ch).host = st.host := rfl
@[simp] theorem setChallenge_challenge (st : HostSt) (ch : Chal) : (setChallenge st ch).challenge = some ch := rfl
@[simp] theorem setChallenge_refresh (st : HostSt) (ch : Chal) : (setChallenge st ch).refresh = st.refresh := rfl
@[simp] theorem setChallenge_basic (st : HostSt) (ch : Chal) : (setChallenge st ch).basic = st.basic := rfl
@[simp] theorem setChallenge_toks (st : HostSt) (ch : Chal) : (setChallenge st ch).toks = st.toks := rfl

/-! ### Case analysis of the two critical sections -/

/-- The ways through `setAuthorization`. Either nothing is sent and the state is only
pruned: a cached token that is still valid a second from now and covers the required
scope is used, or no header is set, or the stored Basic credentials answer the stored
Basic challenge. Or a token is acquired with the stored refresh token against the
stored Bearer challenge. -/
theorem section1_cases (env : Env) (now : Nat) (st : HostSt) (req : ReqInfo) :
    ((section1 env now st req).1 = prune now st ∧ (section1 env now st req).2.1 = [] ∧
      ((∃ t ∈ st.toks, now + marginMs ≤ t.expires ∧ contains t.scope req.required = true ∧
          (section1 env now st req).2.2 = some (.bearer t.tok)) ∨
       (tokenFor (prune now st).toks req.required = none ∧
         ((section1 env now st req).2.2 = some .none ∨
          ∃ ch u p, st.challenge = some ch ∧ ch.scheme = .basic ∧ st.basic = some (u, p) ∧
            (section1 env now st req).2.2 = some (.basic u p))))) ∨
    (tokenFor (prune now st).toks req.required = none ∧
      ∃ ch, st.challenge = some ch ∧ ch.scheme = .bearer ∧ st.refresh ≠ none ∧
        ∃ o, section1 env now st req = (o.1, o.2.1, o.2.2.map .bearer) ∧
          Acquired env 0 now (prune now st) ch
            (union (requestable req.required) (requestable req.want)) (requestable req.required) o) := by
  have hs := section1.eq_1 env now st req
  split at hs
  · rename_i t ht
    have hm := (mem_prune_toks now st t).mp (tokenFor_some ht).1
    rw [hs]; exact Or.inl ⟨rfl, rfl, Or.inl ⟨t, hm.1, hm.2, (tokenFor_some ht).2, rfl⟩⟩
  rename_i htf
  split at hs
  · rw [hs]; exact Or.inl ⟨rfl, rfl, Or.inr ⟨htf, Or.inl rfl⟩⟩
  rename_i ch hch
  split at hs
  · rename_i h
    refine Or.inr ⟨htf, ch, hch, h.2, Option.isSome_iff_ne_none.mp h.1, _, ?_,
      acquireAccessToken_spec env now (prune now st) ch 0 req.required req.want⟩
    rw [hs]
    generalize acquireAccessToken env now (prune now st) ch 0 req.required req.want = o
    rcases o with ⟨st1, ms, _ | a⟩ <;> rfl
  split at hs
  · rename_i u p hsch hb
    rw [hs]; exact Or.inl ⟨rfl, rfl, Or.inr ⟨htf, Or.inr ⟨ch, u, p, hch, hsch, hb, rfl⟩⟩⟩
  · rw [hs]; exact Or.inl ⟨rfl, rfl, Or.inr ⟨htf, Or.inl rfl⟩⟩

/-- The ways through `setAuthorizationFromChallenge`. A token is acquired in answer to
a Bearer challenge, for the challenge's scope together with the requestable parts of
`want` and `required`. A Basic challenge is answered with the configured credentials,
if there are any, and nothing is sent. -/
theorem section2_cases (env : Env) (now : Nat) (st : HostSt) (ch : Chal) (req : ReqInfo) :
    (ch.scheme = .bearer ∧ ∃ o,
      section2 env now st ch req =
        (o.1, o.2.1, match o.2.2 with
          | some a => .added (.bearer a) true
          | none => .error) ∧
      Acquired env 1 now (setChallenge st ch) ch
        (union (parseScope ch.scope) (union (requestable req.want) (requestable req.required)))
        (parseScope ch.scope) o) ∨
    (ch.scheme = .basic ∧ (section2 env now st ch req).1 = setChallenge st ch ∧
      (section2 env now st ch req).2.1 = [] ∧
      ((∃ u p, st.basic = some (u, p) ∧ (section2 env now st ch req).2.2 = .added (.basic u p) false) ∨
       (st.basic = none ∧ (section2 env now st ch req).2.2 = .notAdded))) := by
  have hs := section2.eq_1 env now st ch req
  split at hs
  · rename_i hsch
    have hsp := acquireAccessToken_spec env now (setChallenge st ch) ch 1 (parseScope ch.scope)
      (union (requestable req.want) (requestable req.required))
    rw [requestable_of_limited (parseScope_unlimited _),
      requestable_of_limited (union_requestable_limited _ _)] at hsp
    refine Or.inl ⟨hsch, _, ?_, hsp⟩
    rw [hs]
    generalize acquireAccessToken env now (setChallenge st ch) ch 1 (parseScope ch.scope)
      (union (requestable req.want) (requestable req.required)) = o
    rcases o with ⟨st1, ms, _ | a⟩ <;> rfl
  rename_i hsch
  split at hs
  · rename_i u p hb
    rw [hs]; exact Or.inr ⟨hsch, rfl, rfl, Or.inl ⟨u, p, hb, rfl⟩⟩
  · rename_i hb
    rw [hs]; exact Or.inr ⟨hsch, rfl, rfl, Or.inr ⟨hb, rfl⟩⟩

/-! ### The invariant and ownership of what is sent -/

def UserPassOwn (h : Bytes) (u p : Atom) : Prop :=
  (u.origin = h ∧ u.kind = .username) ∧ (p.origin = h ∧ p.kind = .password)

/-- The invariant of a per-host state: every cached token is an access token of
this host with a well-formed scope, the refresh token and the Basic credentials
are this host's, the stored challenge was sent by this host. -/
structure J (st : HostSt) : Prop where
  tok_own : ∀ t ∈ st.toks, t.tok.origin = st.host ∧ t.tok.kind = .access
  tok_wf : ∀ t ∈ st.toks, WF t.scope
  refresh_own : ∀ a, st.refresh = some a → a.origin = st.host ∧ a.kind = .refresh
  basic_own : ∀ u p, st.basic = some (u, p) → UserPassOwn st.host u p
  chal_own : ∀ ch, st.challenge = some ch → ch.sender = st.host

/-- The `Authorization` header carries only atoms of host `h`, of the right kinds. -/
def AuthOwn (h : Bytes) : AuthHdr → Prop
  | .none => True
  | .bearer t => t.origin = h ∧ t.kind = .access
  | .basic u p => UserPassOwn h u p

/-- The message was produced on behalf of registry host `h`: it goes to `h` or to
a realm named by `h`, carries only atoms of `h`, and each kind of atom sits only
where that kind belongs (access tokens as Bearer to the registry; user name and
password as Basic to the registry or on the GET to the realm; refresh tokens in
the POST to the realm). -/
def MsgOwn (h : Bytes) : Msg → Prop
  | .registry host a => host = h ∧ AuthOwn h a
  | .tokenPOST _ namedBy rt _ _ => namedBy = h ∧ rt.origin = h ∧ rt.kind = .refresh
  | .tokenGET _ namedBy b _ _ => namedBy = h ∧ ∀ u p, b = some (u, p) → UserPassOwn h u p

/-- The only token `registry.init` caches is the configured access token, good for every scope. -/
theorem mem_initSt_toks {host : Bytes} {e : ConfigEntry} {t : Tok} (h : t ∈ (initSt host e).toks) :
    e.accessToken ≠ [] ∧ t = ⟨unlimitedScope, ⟨host, .access, e.accessToken⟩, forever⟩ := by
  simp only [initSt] at h
  split at h
  · cases h
  · rename_i hne; exact ⟨hne, List.mem_singleton.mp h⟩

theorem J_init (host : Bytes) (e : ConfigEntry) : J (initSt host e) := by
  constructor
  · intro t ht
    obtain ⟨_, rfl⟩ := mem_initSt_toks ht
    exact ⟨rfl, rfl⟩
  · intro t ht
    obtain ⟨_, rfl⟩ := mem_initSt_toks ht
    exact wf_unlimitedScope
  · intro a ha
    simp only [initSt] at ha
    split at ha <;> cases ha
    exact ⟨rfl, rfl⟩
  · intro u p h
    simp only [initSt] at h
    split at h <;> cases h
    exact ⟨⟨rfl, rfl⟩, rfl, rfl⟩
  · intro ch h; cases h

theorem J_prune {st : HostSt} (h : J st) (now : Nat) : J (prune now st) :=
  ⟨fun t ht => h.tok_own t ((mem_prune_toks now st t).mp ht).1,
   fun t ht => h.tok_wf t ((mem_prune_toks now st t).mp ht).1,
   h.refresh_own, h.basic_own, h.chal_own⟩

theorem J_setChallenge {st : HostSt} (h : J st) {ch : Chal} (hc : ch.sender = st.host) :
    J (setChallenge st ch) :=
  ⟨h.tok_own, h.tok_wf, h.refresh_own, h.basic_own, by
    intro ch' h'; cases h'; exact hc⟩

theorem J_acq {env : Env} {ph now : Nat} {st : HostSt} {scs : List Scope}
    {o : HostSt × List Msg × Option Atom} (h : J st) (hs : ∀ s ∈ scs, WF s)
    (ho : AcqSpec env ph now st scs o) : J o.1 := by
  constructor
  · intro t ht
    rw [ho.host]
    rcases ho.mem_toks ht with h1 | ⟨_, _, _, _, _, _, _, rfl⟩
    · exact h.tok_own t h1
    · exact ⟨rfl, rfl⟩
  · intro t ht
    rcases ho.mem_toks ht with h1 | ⟨sc, hsc, _, _, _, _, _, rfl⟩
    · exact h.tok_wf t h1
    · exact hs sc hsc
  · intro a ha
    rw [ho.host]
    rcases ho.refresh with h1 | ⟨b, h1⟩ <;> rw [h1] at ha
    · exact h.refresh_own a ha
    · cases ha; exact ⟨rfl, rfl⟩
  · intro u p hb
    rw [ho.host]; rw [ho.basic] at hb; exact h.basic_own u p hb
  · intro ch hc
    rw [ho.host]; rw [ho.challenge] at hc; exact h.chal_own ch hc

theorem tokMsg_own {st : HostSt} (h : J st) {ch : Chal} (hc : ch.sender = st.host) {sc : Scope} {m : Msg}
    (hm : TokMsg st ch sc m) : MsgOwn st.host m := by
  rcases hm with ⟨rt, hrt, rfl⟩ | rfl
  · exact ⟨hc, h.refresh_own rt hrt⟩
  · exact ⟨hc, h.basic_own⟩

/-! ### First section -/

theorem section1_host (env : Env) (now : Nat) (st : HostSt) (req : ReqInfo) :
    (section1 env now st req).1.host = st.host := by
  rcases section1_cases env now st req with ⟨h, _⟩ | ⟨_, ch, _, _, _, o, h, ha⟩ <;> rw [h]
  · rfl
  · exact ha.spec.host

theorem section1_J (env : Env) (now : Nat) (st : HostSt) (req : ReqInfo) (hJ : J st)
    (hr : WF req.required) (hw : WF req.want) : J (section1 env now st req).1 := by
  rcases section1_cases env now st req with ⟨h, _⟩ | ⟨_, ch, _, _, _, o, h, ha⟩ <;> rw [h]
  · exact J_prune hJ now
  · exact J_acq (J_prune hJ now)
      (by simpa using ⟨union_wf _ _ (requestable_wf hr) (requestable_wf hw), requestable_wf hr⟩) ha.spec

theorem section1_own (env : Env) (now : Nat) (st : HostSt) (req : ReqInfo) (hJ : J st) :
    (∀ m ∈ (section1 env now st req).2.1, MsgOwn st.host m) ∧
    (∀ h, (section1 env now st req).2.2 = some h → AuthOwn st.host h) := by
  rcases section1_cases env now st req with ⟨_, hms, hh⟩ | ⟨_, ch, hch, _, _, o, he, hs⟩
  · rw [hms]
    refine ⟨by simp, fun h hh' => ?_⟩
    rcases hh with ⟨t, ht, _, _, hh⟩ | ⟨_, hh | ⟨_, u, p, _, _, hb, hh⟩⟩ <;> rw [hh] at hh' <;> cases hh'
    -- the header is the cached token, none, or the stored Basic pair
    · exact hJ.tok_own t ht
    · trivial
    · exact hJ.basic_own u p hb
  · rw [he]
    have hown := @tokMsg_own _ (J_prune hJ now) ch (hJ.chal_own ch hch)
    refine ⟨fun m hm => (hs.msgs m hm).1.elim hown hown, fun h hh => ?_⟩
    rcases hs.spec.toks with ⟨h1, _⟩ | ⟨_, _, _, _, _, _, _, _, h1, _⟩ <;> rw [h1] at hh <;> cases hh
    -- only an outcome with a token sets a header: this host's access token
    exact ⟨rfl, rfl⟩

/-- Where a Bearer token set by `setAuthorization` comes from. Either it is a
cached token (still valid a second from now, recorded under a scope that
contains the required scope; nothing is sent and the state is only pruned), or it
was just delivered by the token server in answer to a request made with the
refresh token for the requestable parts of `required ∪ want` (or, after a 401, of
`required` alone), and is recorded under that scope with the lifetime the answer gives
(`margin_le_lifeOf`: at least a second). -/
theorem section1_bearer (env : Env) (now : Nat) (st : HostSt) (req : ReqInfo) {a : Atom}
    (h : (section1 env now st req).2.2 = some (.bearer a)) :
    (∃ t ∈ st.toks, t.tok = a ∧ now + marginMs ≤ t.expires ∧ contains t.scope req.required = true ∧
        (section1 env now st req).2.1 = [] ∧ (section1 env now st req).1 = prune now st) ∨
    (∃ ch sc tk ac rf e, st.challenge = some ch ∧ ch.scheme = .bearer ∧ st.refresh ≠ none ∧
        (sc = union (requestable req.required) (requestable req.want) ∨ sc = requestable req.required) ∧
        Delivered env 0 tk ac rf e ∧
        a = ⟨st.host, .access, pickToken tk ac⟩ ∧
        (section1 env now st req).1.toks = (prune now st).toks ++ [⟨sc, a, now + lifeOf e * 1000⟩] ∧
        (section1 env now st req).2.1 ≠ []) := by
  rcases section1_cases env now st req with ⟨hst, hms, hh⟩ | ⟨_, ch, hch, hsch, hrt, o, he, hs⟩
  · left
    rcases hh with ⟨t, ht, hexp, hcon, hh⟩ | ⟨_, hh | ⟨_, _, _, _, _, _, hh⟩⟩ <;> rw [hh] at h <;> cases h
    -- only the cached-token case sets a Bearer header
    exact ⟨t, ht, rfl, hexp, hcon, hms, hst⟩
  · right
    rw [he] at h ⊢
    rcases hs.spec.toks with ⟨h1, _⟩ | ⟨sc, tk, ac, rf, e, hsc, hd, _, h1, h2⟩ <;> rw [h1] at h <;> cases h
    -- only an outcome with a token sets a header
    obtain ⟨m, hm, _⟩ := hs.recorded _ _ _ h2
    exact ⟨ch, sc, tk, ac, rf, e, hch, hsch, hrt, by simpa using hsc, hd, rfl, h2, List.ne_nil_of_mem hm⟩

theorem section1_basic (env : Env) (now : Nat) (st : HostSt) (req : ReqInfo) {u p : Atom}
    (h : (section1 env now st req).2.2 = some (.basic u p)) :
    ∃ ch, st.challenge = some ch ∧ ch.scheme = .basic ∧ st.basic = some (u, p) ∧
      (section1 env now st req).2.1 = [] := by
  rcases section1_cases env now st req with ⟨_, hms, hh⟩ | ⟨_, ch, _, _, _, o, he, _⟩
  · rcases hh with ⟨t, _, _, _, hh⟩ | ⟨_, hh | ⟨ch, u', p', hch, hsch, hb, hh⟩⟩ <;> rw [hh] at h <;> cases h
    -- only the Basic case is left
    exact ⟨ch, hch, hsch, hb, hms⟩
  · rw [he] at h
    cases hx : o.2.2 <;> rw [hx] at h <;> cases h

theorem section1_tokmsgs (env : Env) (now : Nat) (st : HostSt) (req : ReqInfo) :
    ∀ m ∈ (section1 env now st req).2.1,
      ∃ ch, st.challenge = some ch ∧ ch.scheme = .bearer ∧ st.refresh ≠ none ∧
        (TokMsg (prune now st) ch (union (requestable req.required) (requestable req.want)) m ∨
          TokMsg (prune now st) ch (requestable req.required) m) ∧
        ch.realm ≠ [] ∧ env.realmOk ch.realm = true := by
  intro m hm
  rcases section1_cases env now st req with ⟨_, hms, _⟩ | ⟨_, ch, hch, hsch, hrt, o, he, ha⟩
  · rw [hms] at hm; cases hm
  · rw [he] at hm
    exact ⟨ch, hch, hsch, hrt, ha.msgs m hm⟩

theorem section1_toks (env : Env) (now : Nat) (st : HostSt) (req : ReqInfo) :
    ∀ t ∈ (section1 env now st req).1.toks,
      (t ∈ st.toks ∧ now + marginMs ≤ t.expires) ∨
      ∃ sc tk ac rf e,
        (sc = union (requestable req.required) (requestable req.want) ∨ sc = requestable req.required) ∧
        Delivered env 0 tk ac rf e ∧
        t = ⟨sc, ⟨st.host, .access, pickToken tk ac⟩, now + lifeOf e * 1000⟩ := by
  intro t ht
  rcases section1_cases env now st req with ⟨h, _⟩ | ⟨_, ch, _, _, _, o, h, ha⟩ <;> rw [h] at ht
  · exact Or.inl ((mem_prune_toks now st t).mp ht)
  · rcases ha.spec.mem_toks ht with h1 | ⟨sc, hsc, tk, ac, rf, e, hd, h1⟩
    · exact Or.inl ((mem_prune_toks now st t).mp h1)
    · exact Or.inr ⟨sc, tk, ac, rf, e, by simpa using hsc, hd, h1⟩

/-! ### Second section -/

theorem section2_host (env : Env) (now : Nat) (st : HostSt) (ch : Chal) (req : ReqInfo) :
    (section2 env now st ch req).1.host = st.host := by
  rcases section2_cases env now st ch req with ⟨_, o, h, ho, _⟩ | ⟨_, h, _⟩ <;> rw [h]
  · exact ho.host
  · rfl

theorem section2_challenge (env : Env) (now : Nat) (st : HostSt) (ch : Chal) (req : ReqInfo) :
    (section2 env now st ch req).1.challenge = some ch := by
  rcases section2_cases env now st ch req with ⟨_, o, h, ho, _⟩ | ⟨_, h, _⟩ <;> rw [h]
  · exact ho.challenge
  · rfl

theorem section2_J (env : Env) (now : Nat) (st : HostSt) (ch : Chal) (req : ReqInfo) (hJ : J st)
    (hc : ch.sender = st.host) (hr : WF req.required) (hw : WF req.want) :
    J (section2 env now st ch req).1 := by
  rcases section2_cases env now st ch req with ⟨_, o, h, ho, _⟩ | ⟨_, h, _⟩ <;> rw [h]
  · have hp := parseScope_wf ch.scope
    exact J_acq (J_setChallenge hJ hc)
      (by simpa using ⟨union_wf _ _ hp (union_wf _ _ (requestable_wf hw) (requestable_wf hr)), hp⟩) ho
  · exact J_setChallenge hJ hc

theorem section2_own (env : Env) (now : Nat) (st : HostSt) (ch : Chal) (req : ReqInfo) (hJ : J st)
    (hc : ch.sender = st.host) :
    (∀ m ∈ (section2 env now st ch req).2.1, MsgOwn st.host m) ∧
    (∀ h acq, (section2 env now st ch req).2.2 = .added h acq → AuthOwn st.host h) := by
  rcases section2_cases env now st ch req with ⟨_, o, he, ho, hmsg, _⟩ | ⟨_, _, hms, hh⟩
  · rw [he]
    have hown := @tokMsg_own _ (J_setChallenge hJ hc) ch hc
    refine ⟨fun m hm => (hmsg m hm).1.elim hown hown, fun h acq hh => ?_⟩
    rcases ho.toks with ⟨h1, _⟩ | ⟨_, _, _, _, _, _, _, _, h1, _⟩ <;> rw [h1] at hh <;> cases hh
    -- only an outcome with a token adds a header: this host's access token
    exact ⟨rfl, rfl⟩
  · rw [hms]
    refine ⟨by simp, fun h acq hh' => ?_⟩
    rcases hh with ⟨u, p, hb, hh⟩ | ⟨_, hh⟩ <;> rw [hh] at hh' <;> cases hh'
    -- only the case with stored credentials adds a header
    exact hJ.basic_own u p hb

/-- A Bearer token set in answer to a challenge was just delivered by the token
server in answer to a request for the challenge's scope together with the requestable
parts of `want` and `required` (or, after a 401, the challenge's scope alone); it is
recorded under the scope that was asked for, which contains the challenge's scope, with
the lifetime the answer gives; and `tokenAcquired` is reported. -/
theorem section2_bearer (env : Env) (now : Nat) (st : HostSt) (ch : Chal) (req : ReqInfo)
    (hr : WF req.required) (hw : WF req.want) {a : Atom} {acq : Bool}
    (h : (section2 env now st ch req).2.2 = .added (.bearer a) acq) :
    ch.scheme = .bearer ∧ acq = true ∧
    ∃ sc tk ac rf e,
      (sc = union (parseScope ch.scope) (union (requestable req.want) (requestable req.required)) ∨ sc = parseScope ch.scope) ∧
      Delivered env 1 tk ac rf e ∧ a = ⟨st.host, .access, pickToken tk ac⟩ ∧
      (section2 env now st ch req).1.toks = st.toks ++ [⟨sc, a, now + lifeOf e * 1000⟩] ∧
      (section2 env now st ch req).2.1 ≠ [] ∧
      contains sc (parseScope ch.scope) = true := by
  rcases section2_cases env now st ch req with ⟨hsch, o, he, ho, _, hrec⟩ | ⟨_, _, _, hh⟩
  · rw [he] at h ⊢
    rcases ho.toks with ⟨h1, _⟩ | ⟨sc, tk, ac, rf, e, hsc, hd, _, h1, h2⟩ <;> rw [h1] at h <;> cases h
    -- only an outcome with a token adds a header
    obtain ⟨m, hm, _⟩ := hrec _ _ _ h2
    simp only [List.mem_cons, List.not_mem_nil, or_false] at hsc
    refine ⟨hsch, rfl, sc, tk, ac, rf, e, hsc, hd, rfl, h2, List.ne_nil_of_mem hm, ?_⟩
    rcases hsc with rfl | rfl
    · exact contains_union_left _ _ (parseScope_wf _) (union_wf _ _ (requestable_wf hw) (requestable_wf hr))
    · exact contains_refl _ (parseScope_wf _)
  · rcases hh with ⟨_, _, _, hh⟩ | ⟨_, hh⟩ <;> rw [hh] at h <;> cases h

/-- A header is added in answer to a challenge in two ways only: a freshly acquired
Bearer token against a Bearer challenge, reported as acquired; or the configured Basic
credentials against a Basic challenge, with nothing sent and no token reported. -/
theorem section2_added (env : Env) (now : Nat) (st : HostSt) (ch : Chal) (req : ReqInfo)
    {h : AuthHdr} {acq : Bool} (hh : (section2 env now st ch req).2.2 = .added h acq) :
    (ch.scheme = .bearer ∧ acq = true ∧ ∃ a, h = .bearer a) ∨
    (ch.scheme = .basic ∧ acq = false ∧ (section2 env now st ch req).2.1 = [] ∧
      ∃ u p, h = .basic u p ∧ st.basic = some (u, p)) := by
  rcases section2_cases env now st ch req with ⟨hsch, o, he, _⟩ | ⟨hsch, _, hms, hr⟩
  · rw [he] at hh
    cases hx : o.2.2 <;> rw [hx] at hh <;> cases hh
    -- only an outcome with a token is left
    exact Or.inl ⟨hsch, rfl, _, rfl⟩
  · rcases hr with ⟨u, p, hb, hr⟩ | ⟨_, hr⟩ <;> rw [hr] at hh <;> cases hh
    -- only the case with stored credentials is left
    exact Or.inr ⟨hsch, rfl, hms, u, p, rfl, hb⟩

theorem section2_tokmsgs (env : Env) (now : Nat) (st : HostSt) (ch : Chal) (req : ReqInfo) :
    ∀ m ∈ (section2 env now st ch req).2.1,
      ch.scheme = .bearer ∧
      (TokMsg (setChallenge st ch) ch (union (parseScope ch.scope) (union (requestable req.want) (requestable req.required))) m ∨
        TokMsg (setChallenge st ch) ch (parseScope ch.scope) m) ∧
      ch.realm ≠ [] ∧ env.realmOk ch.realm = true := by
  intro m hm
  rcases section2_cases env now st ch req with ⟨hsch, o, he, _, hmsg, _⟩ | ⟨_, _, hms, _⟩
  · rw [he] at hm
    exact ⟨hsch, hmsg m hm⟩
  · rw [hms] at hm; cases hm

theorem section2_toks (env : Env) (now : Nat) (st : HostSt) (ch : Chal) (req : ReqInfo) :
    ∀ t ∈ (section2 env now st ch req).1.toks,
      t ∈ st.toks ∨
      ∃ sc tk ac rf e,
        (sc = union (parseScope ch.scope) (union (requestable req.want) (requestable req.required)) ∨
          sc = parseScope ch.scope) ∧
        Delivered env 1 tk ac rf e ∧
        t = ⟨sc, ⟨st.host, .access, pickToken tk ac⟩, now + lifeOf e * 1000⟩ := by
  intro t ht
  rcases section2_cases env now st ch req with ⟨_, o, h, ho, _⟩ | ⟨_, h, _⟩ <;> rw [h] at ht
  · rcases ho.mem_toks ht with h1 | ⟨sc, hsc, tk, ac, rf, e, hd, h1⟩
    · exact Or.inl h1
    · exact Or.inr ⟨sc, tk, ac, rf, e, by simpa using hsc, hd, h1⟩
  · exact Or.inl ht

/-! ### The whole call -/

theorem chalOf_sender {host : Bytes} {values : List Bytes} {ch : Chal} (h : chalOf host values = some ch) :
    ch.sender = host := by
  unfold chalOf at h
  split at h
  · cases h; rfl
  · cases h

/-- The registry's first answer does not ask for (re-)authentication: a transport
error, a status other than 401, or a 401 without an acceptable challenge. -/
def NoChallenge (env : Env) (host : Bytes) : Prop :=
  env.reg 0 = .fail ∨ ∃ status hdrs, env.reg 0 = .resp status hdrs ∧ (status ≠ 401 ∨ chalOf host hdrs = none)

theorem not_noChallenge {env : Env} {host : Bytes} {hdrs : List Bytes} {ch : Chal}
    (hreg : env.reg 0 = .resp 401 hdrs) (hch : chalOf host hdrs = some ch) : ¬ NoChallenge env host := by
  rintro (hf | ⟨s, hd, hr, hs⟩)
  · rw [hreg] at hf; cases hf
  · rw [hreg] at hr; cases hr
    rcases hs with h | h
    · exact h rfl
    · rw [hch] at h; cases h

/-- The part of `RoundTrip` that follows a 401 with a challenge: it ends after the
second section when that adds no header; otherwise the request is forwarded once more,
and the result is DENIED exactly when a freshly acquired token is answered 401. -/
theorem afterChallenge_cases (env : Env) (now : Nat) (st1 : HostSt) (sent1 : List Msg) (ch : Chal) (req : ReqInfo) :
    (∃ r, r ≠ .denied ∧ (∀ h2 acq, (section2 env now st1 ch req).2.2 ≠ .added h2 acq) ∧
      afterChallenge env now st1 sent1 ch req =
        ((section2 env now st1 ch req).1, sent1 ++ (section2 env now st1 ch req).2.1, r)) ∨
    (∃ h2 acq r, (section2 env now st1 ch req).2.2 = .added h2 acq ∧
      (r = .denied ↔ acq = true ∧ ∃ hd2, env.reg 1 = .resp 401 hd2) ∧
      afterChallenge env now st1 sent1 ch req =
        ((section2 env now st1 ch req).1,
          sent1 ++ (section2 env now st1 ch req).2.1 ++ [Msg.registry st1.host h2], r)) := by
  unfold afterChallenge
  rcases section2 env now st1 ch req with ⟨st2, ms2, r⟩
  cases r with
  | error => exact Or.inl ⟨.err, Result.noConfusion, fun _ _ => Sec2.noConfusion, rfl⟩
  | notAdded => exact Or.inl ⟨.resp 401, Result.noConfusion, fun _ _ => Sec2.noConfusion, rfl⟩
  | added h2 acq =>
    cases env.reg 1 with
    | fail => exact Or.inr ⟨h2, acq, .err, rfl, by simp, rfl⟩
    | resp s2 hd =>
      refine Or.inr ⟨h2, acq, if s2 = 401 ∧ acq = true then .denied else .resp s2, rfl, ?_, ?_⟩
      · constructor
        · intro h
          split at h
          · rename_i c; exact ⟨c.2, hd, by rw [c.1]⟩
          · cases h
        · rintro ⟨hacq, hd2, h⟩
          cases h
          simp [hacq]
      · dsimp only
        split <;> rfl

/-- The ways through `RoundTrip`, with the state `st'` it leaves, what it sends after the
first section's token requests (`tail`) and its result. The first section fails; or the
request is forwarded and the answer asks for no authentication; or the answer carries a
challenge, the second section runs on it and, if that adds a header, the request is
forwarded once more: DENIED exactly when a freshly acquired token is answered 401. -/
theorem roundTrip_cases (env : Env) (now : Nat) (st : HostSt) (req : ReqInfo) :
    ∃ st' tail r, roundTrip env now st req = (st', (section1 env now st req).2.1 ++ tail, r) ∧
      (((section1 env now st req).2.2 = none ∧ st' = (section1 env now st req).1 ∧ tail = [] ∧ r = .err) ∨
       ∃ h1, (section1 env now st req).2.2 = some h1 ∧
        ((NoChallenge env st.host ∧ st' = (section1 env now st req).1 ∧
            tail = [Msg.registry st.host h1] ∧ r ≠ .denied) ∨
         ∃ hdrs ch, env.reg 0 = .resp 401 hdrs ∧ chalOf st.host hdrs = some ch ∧
          st' = (section2 env now (section1 env now st req).1 ch req).1 ∧
          ((tail = Msg.registry st.host h1 :: (section2 env now (section1 env now st req).1 ch req).2.1 ∧
              r ≠ .denied ∧
              ∀ h2 acq, (section2 env now (section1 env now st req).1 ch req).2.2 ≠ .added h2 acq) ∨
           ∃ h2 acq, (section2 env now (section1 env now st req).1 ch req).2.2 = .added h2 acq ∧
            tail = Msg.registry st.host h1 ::
              ((section2 env now (section1 env now st req).1 ch req).2.1 ++ [Msg.registry st.host h2]) ∧
            (r = .denied ↔ acq = true ∧ ∃ hd2, env.reg 1 = .resp 401 hd2)))) := by
  have hhost := section1_host env now st req
  unfold roundTrip
  revert hhost
  rcases section1 env now st req with ⟨st1, ms1, _ | h1⟩ <;> intro hhost
  · exact ⟨st1, [], .err, by rw [List.append_nil], Or.inl ⟨rfl, rfl, rfl, rfl⟩⟩
  · cases hreg : env.reg 0 with
    | fail =>
      exact ⟨st1, _, .err, rfl, Or.inr ⟨h1, rfl, Or.inl ⟨Or.inl hreg, rfl, rfl, Result.noConfusion⟩⟩⟩
    | resp status hdrs =>
      dsimp only
      by_cases h401 : status = 401
      · subst h401
        rw [if_neg (by simp)]
        cases hch : chalOf st.host hdrs with
        | none =>
          exact ⟨st1, _, .resp 401, rfl, Or.inr ⟨h1, rfl,
            Or.inl ⟨Or.inr ⟨401, hdrs, hreg, Or.inr hch⟩, rfl, rfl, Result.noConfusion⟩⟩⟩
        | some ch =>
          dsimp only at hhost ⊢
          rcases afterChallenge_cases env now st1 (ms1 ++ [Msg.registry st.host h1]) ch req with
            ⟨r, hr, hna, ha⟩ | ⟨h2, acq, r, hadd, hiff, ha⟩
          · exact ⟨_, _, r, by rw [ha, List.append_assoc]; rfl,
              Or.inr ⟨h1, rfl, Or.inr ⟨hdrs, ch, rfl, hch, rfl, Or.inl ⟨rfl, hr, hna⟩⟩⟩⟩
          · exact ⟨_, _, r, by rw [ha, hhost, List.append_assoc, List.append_assoc]; rfl,
              Or.inr ⟨h1, rfl, Or.inr ⟨hdrs, ch, rfl, hch, rfl, Or.inr ⟨h2, acq, hadd, rfl, hiff⟩⟩⟩⟩
      · rw [if_pos h401]
        exact ⟨st1, _, .resp status, rfl, Or.inr ⟨h1, rfl,
          Or.inl ⟨Or.inr ⟨status, hdrs, hreg, Or.inl h401⟩, rfl, rfl, Result.noConfusion⟩⟩⟩

theorem roundTrip_mem (env : Env) (now : Nat) (st : HostSt) (req : ReqInfo) {m : Msg}
    (hm : m ∈ (roundTrip env now st req).2.1) :
    m ∈ (section1 env now st req).2.1 ∨
    (∃ h1, (section1 env now st req).2.2 = some h1 ∧ m = Msg.registry st.host h1) ∨
    (∃ hdrs ch, env.reg 0 = .resp 401 hdrs ∧ chalOf st.host hdrs = some ch ∧
      (m ∈ (section2 env now (section1 env now st req).1 ch req).2.1 ∨
       ∃ h2 acq, (section2 env now (section1 env now st req).1 ch req).2.2 = .added h2 acq ∧
        m = Msg.registry st.host h2)) := by
  obtain ⟨st', tail, r, he, hc⟩ := roundTrip_cases env now st req
  rw [he] at hm
  rcases List.mem_append.mp hm with h | h
  · exact Or.inl h
  rcases hc with ⟨_, _, rfl, _⟩ | ⟨h1, hh1, ⟨_, _, rfl, _⟩ |
    ⟨hdrs, ch, hreg, hch, _, ⟨rfl, _⟩ | ⟨h2, acq, hadd, rfl, _⟩⟩⟩ <;>
    simp only [List.mem_cons, List.mem_append, List.not_mem_nil, or_false] at h
  -- an empty tail holds nothing; three shapes of tail are left
  · -- the forwarded request alone
    exact Or.inr (Or.inl ⟨h1, hh1, h⟩)
  · -- the forwarded request, then the second section's token requests
    rcases h with h | h
    · exact Or.inr (Or.inl ⟨h1, hh1, h⟩)
    · exact Or.inr (Or.inr ⟨hdrs, ch, hreg, hch, Or.inl h⟩)
  · -- … and the request forwarded once more
    rcases h with h | h | h
    · exact Or.inr (Or.inl ⟨h1, hh1, h⟩)
    · exact Or.inr (Or.inr ⟨hdrs, ch, hreg, hch, Or.inl h⟩)
    · exact Or.inr (Or.inr ⟨hdrs, ch, hreg, hch, Or.inr ⟨h2, acq, hadd, h⟩⟩)

theorem roundTrip_state (env : Env) (now : Nat) (st : HostSt) (req : ReqInfo) :
    (roundTrip env now st req).1 = (section1 env now st req).1 ∨
    ∃ hdrs ch, env.reg 0 = .resp 401 hdrs ∧ chalOf st.host hdrs = some ch ∧
      (roundTrip env now st req).1 = (section2 env now (section1 env now st req).1 ch req).1 := by
  obtain ⟨st', tail, r, he, hc⟩ := roundTrip_cases env now st req
  rw [he]
  rcases hc with ⟨_, rfl, _⟩ | ⟨h1, _, ⟨_, rfl, _⟩ | ⟨hdrs, ch, hreg, hch, rfl, _⟩⟩
  · exact Or.inl rfl
  · exact Or.inl rfl
  · exact Or.inr ⟨hdrs, ch, hreg, hch, rfl⟩

theorem roundTrip_first_msg (env : Env) (now : Nat) (st : HostSt) (req : ReqInfo) {h1 : AuthHdr}
    (hh : (section1 env now st req).2.2 = some h1) :
    ∃ rest, (roundTrip env now st req).2.1 =
      (section1 env now st req).2.1 ++ Msg.registry st.host h1 :: rest := by
  obtain ⟨st', tail, r, he, hc⟩ := roundTrip_cases env now st req
  rw [he]
  rcases hc with ⟨hn, _⟩ | ⟨h1', hh1, hc⟩
  · rw [hn] at hh; cases hh
  · rw [hh] at hh1; cases hh1
    rcases hc with ⟨_, _, rfl, _⟩ | ⟨_, _, _, _, _, ⟨rfl, _⟩ | ⟨_, _, _, rfl, _⟩⟩ <;> exact ⟨_, rfl⟩

theorem roundTrip_host (env : Env) (now : Nat) (st : HostSt) (req : ReqInfo) :
    (roundTrip env now st req).1.host = st.host := by
  rcases roundTrip_state env now st req with h | ⟨_, ch, _, _, h⟩ <;> rw [h]
  · exact section1_host env now st req
  · rw [section2_host]; exact section1_host env now st req

theorem roundTrip_J (env : Env) (now : Nat) (st : HostSt) (req : ReqInfo) (hJ : J st)
    (hr : WF req.required) (hw : WF req.want) : J (roundTrip env now st req).1 := by
  have h1 := section1_J env now st req hJ hr hw
  rcases roundTrip_state env now st req with h | ⟨_, ch, _, hch, h⟩ <;> rw [h]
  · exact h1
  · exact section2_J env now _ ch req h1 (by rw [section1_host]; exact chalOf_sender hch) hr hw

theorem roundTrip_own (env : Env) (now : Nat) (st : HostSt) (req : ReqInfo) (hJ : J st)
    (hr : WF req.required) (hw : WF req.want) :
    ∀ m ∈ (roundTrip env now st req).2.1, MsgOwn st.host m := by
  intro m hm
  have h1 := section1_own env now st req hJ
  have hh := section1_host env now st req
  rcases roundTrip_mem env now st req hm with h | ⟨h1', hh1, rfl⟩ | ⟨hdrs, ch, _, hch, h2⟩
  · exact h1.1 m h
  · exact ⟨rfl, h1.2 h1' hh1⟩
  · have h2' := section2_own env now _ ch req (section1_J env now st req hJ hr hw)
      (by rw [hh]; exact chalOf_sender hch)
    rw [hh] at h2'
    rcases h2 with h | ⟨h2, acq, hadd, rfl⟩
    · exact h2'.1 m h
    · exact ⟨rfl, h2'.2 h2 acq hadd⟩

def Msg.isRegistry : Msg → Bool
  | .registry _ _ => true
  | _ => false

/-- Number of requests forwarded to the registry among the messages. -/
def attempts (ms : List Msg) : Nat := (ms.filter Msg.isRegistry).length

theorem tokMsg_not_registry {st : HostSt} {ch : Chal} {sc : Scope} {m : Msg} (h : TokMsg st ch sc m) :
    m.isRegistry = false := by
  rcases h with ⟨rt, _, rfl⟩ | rfl <;> rfl

theorem attempts_eq_zero {ms : List Msg} (h : ∀ m ∈ ms, m.isRegistry = false) : attempts ms = 0 := by
  simp only [attempts, List.length_eq_zero_iff, List.filter_eq_nil_iff]
  intro m hm; simp [h m hm]

theorem attempts_append (a b : List Msg) : attempts (a ++ b) = attempts a + attempts b := by
  simp [attempts]

@[simp] theorem attempts_registry (h : Bytes) (a : AuthHdr) : attempts [Msg.registry h a] = 1 := rfl

theorem attempts_registry_cons (h : Bytes) (a : AuthHdr) (ms : List Msg) :
    attempts (Msg.registry h a :: ms) = attempts ms + 1 := rfl

theorem section1_not_registry (env : Env) (now : Nat) (st : HostSt) (req : ReqInfo) :
    ∀ m ∈ (section1 env now st req).2.1, m.isRegistry = false := by
  intro m hm
  obtain ⟨_, _, _, _, h, _⟩ := section1_tokmsgs env now st req m hm
  exact h.elim tokMsg_not_registry tokMsg_not_registry

theorem section2_not_registry (env : Env) (now : Nat) (st : HostSt) (ch : Chal) (req : ReqInfo) :
    ∀ m ∈ (section2 env now st ch req).2.1, m.isRegistry = false := by
  intro m hm
  obtain ⟨_, h, _⟩ := section2_tokmsgs env now st ch req m hm
  exact h.elim tokMsg_not_registry tokMsg_not_registry

/-- The realm and the naming host of a message (token requests only). -/
def Msg.realm? : Msg → Option (Bytes × Bytes)
  | .registry _ _ => none
  | .tokenPOST realm namedBy _ _ _ => some (realm, namedBy)
  | .tokenGET realm namedBy _ _ _ => some (realm, namedBy)

theorem tokMsg_realm {st : HostSt} {ch : Chal} {sc : Scope} {m : Msg} (h : TokMsg st ch sc m) :
    m.realm? = some (ch.realm, ch.sender) := by
  rcases h with ⟨rt, _, rfl⟩ | rfl <;> rfl

/-! ### The whole transport -/

/-- Every per-host state satisfies the invariant and sits under its own host. -/
def SysJ (sys : Sys) : Prop := ∀ h st, sys.lookup h = some st → J st ∧ st.host = h

theorem sysJ_nil : SysJ [] := fun _ _ h => nomatch h

theorem lookup_filter_ne {h host : Bytes} (hh : h ≠ host) (sys : Sys) :
    (sys.filter (fun p => p.1 != host)).lookup h = sys.lookup h := by
  induction sys with
  | nil => rfl
  | cons p rest ih =>
    rw [List.filter_cons, List.lookup_cons]
    split
    · rw [List.lookup_cons, ih]
    · rename_i hk
      have hk : p.1 = host := by simpa using hk
      rw [ih, beq_eq_false_iff_ne.mpr (hk ▸ hh)]

theorem lookup_put (sys : Sys) (host : Bytes) (st : HostSt) (h : Bytes) :
    (sys.put host st).lookup h = if h = host then some st else sys.lookup h := by
  unfold Sys.put
  rw [List.lookup_cons]
  by_cases hh : h = host
  · rw [if_pos hh, beq_iff_eq.mpr hh]
  · rw [if_neg hh, beq_eq_false_iff_ne.mpr hh, lookup_filter_ne hh]

theorem sys_get_J {cfg : Config} {sys : Sys} (hs : SysJ sys) {host : Bytes} {st : HostSt}
    (h : sys.get cfg host = some st) : J st ∧ st.host = host := by
  unfold Sys.get at h
  split at h
  · rename_i st' hl; cases h; exact hs host st hl
  · cases hc : cfg host <;> rw [hc] at h <;> cases h
    exact ⟨J_init host _, rfl⟩

theorem sysStep_J (cfg : Config) (env : Env) (now : Nat) (sys : Sys) (host : Bytes) (req : ReqInfo)
    (hs : SysJ sys) (hr : WF req.required) (hw : WF req.want) :
    SysJ (sysStep cfg env now sys host req).1 := by
  unfold sysStep
  cases hg : sys.get cfg host with
  | none => exact hs
  | some st =>
    obtain ⟨hJ, hh⟩ := sys_get_J hs hg
    intro h st' hl
    simp only [lookup_put] at hl
    split at hl
    · rename_i heq; cases hl; subst heq
      exact ⟨roundTrip_J env now st req hJ hr hw, by rw [roundTrip_host, hh]⟩
    · exact hs h st' hl

theorem sysStep_own (cfg : Config) (env : Env) (now : Nat) (sys : Sys) (host : Bytes) (req : ReqInfo)
    (hs : SysJ sys) (hr : WF req.required) (hw : WF req.want) :
    ∀ m ∈ (sysStep cfg env now sys host req).2.1, MsgOwn host m := by
  unfold sysStep
  cases hg : sys.get cfg host with
  | none => exact fun _ h => nomatch h
  | some st =>
    obtain ⟨hJ, hh⟩ := sys_get_J hs hg
    have := roundTrip_own env now st req hJ hr hw
    rwa [hh] at this

theorem run_J (cfg : Config) (sys : Sys) (calls : List Call) (hs : SysJ sys)
    (hwf : ∀ c ∈ calls, WF c.req.required ∧ WF c.req.want) : SysJ (run cfg sys calls).1 := by
  induction calls generalizing sys with
  | nil => exact hs
  | cons c cs ih =>
    have hc := hwf c List.mem_cons_self
    exact ih _ (sysStep_J cfg c.env c.now sys c.host c.req hs hc.1 hc.2)
      (fun c' hc' => hwf c' (List.mem_cons_of_mem _ hc'))

theorem run_own (cfg : Config) (sys : Sys) (calls : List Call) (hs : SysJ sys)
    (hwf : ∀ c ∈ calls, WF c.req.required ∧ WF c.req.want) :
    ∀ e ∈ (run cfg sys calls).2, ∀ m ∈ e.2.1, MsgOwn e.1 m := by
  induction calls generalizing sys with
  | nil => exact fun _ h => nomatch h
  | cons c cs ih =>
    have hc := hwf c List.mem_cons_self
    intro e he
    rcases List.mem_cons.mp he with rfl | he
    · exact sysStep_own cfg c.env c.now sys c.host c.req hs hc.1 hc.2
    · exact ih _ (sysStep_J cfg c.env c.now sys c.host c.req hs hc.1 hc.2)
        (fun c' hc' => hwf c' (List.mem_cons_of_mem _ hc')) e he

/-! ### Histories: states reachable under any interleaving of critical sections -/

/-- The states of host `host` (configured with entry `e`) reachable from the
initial state by any sequence of critical sections, each run with any
environment, time, request and (for the second section) any challenge sent by
this host. A sequential call is a first section followed, possibly, by a second
one; concurrent calls interleave their sections arbitrarily. The list records the
environments consulted so far. -/
inductive Reach (host : Bytes) (e : ConfigEntry) : HostSt → List Env → Prop
  | init : Reach host e (initSt host e) []
  | sec1 {st : HostSt} {envs : List Env} (env : Env) (now : Nat) (req : ReqInfo) :
      Reach host e st envs → WF req.required → WF req.want →
      Reach host e (section1 env now st req).1 (env :: envs)
  | sec2 {st : HostSt} {envs : List Env} (env : Env) (now : Nat) (ch : Chal) (req : ReqInfo) :
      Reach host e st envs → ch.sender = host → WF req.required → WF req.want →
      Reach host e (section2 env now st ch req).1 (env :: envs)

/-- The token value is the configured access token or was delivered by a token
server reply in one of the environments. -/
def Known (e : ConfigEntry) (envs : List Env) (v : Bytes) : Prop :=
  (v = e.accessToken ∧ v ≠ []) ∨
  ∃ env ∈ envs, ∃ ph tk ac rf ex, Delivered env ph tk ac rf ex ∧ v = pickToken tk ac

theorem Known.mono {e : ConfigEntry} {envs : List Env} {v : Bytes} (env : Env) (h : Known e envs v) :
    Known e (env :: envs) v := by
  rcases h with h | ⟨env', hm, rest⟩
  · exact Or.inl h
  · exact Or.inr ⟨env', List.mem_cons_of_mem _ hm, rest⟩

theorem reach_J {host : Bytes} {e : ConfigEntry} {st : HostSt} {envs : List Env}
    (h : Reach host e st envs) : J st ∧ st.host = host := by
  induction h with
  | init => exact ⟨J_init host e, rfl⟩
  | sec1 env now req _ hr hw ih =>
    exact ⟨section1_J env now _ req ih.1 hr hw, by rw [section1_host]; exact ih.2⟩
  | sec2 env now ch req _ hc hr hw ih =>
    exact ⟨section2_J env now _ ch req ih.1 (by rw [ih.2]; exact hc) hr hw, by rw [section2_host]; exact ih.2⟩

/-- Over every history a cached token is the configured access token, good for every
scope, or an access token of this host whose value one of the environments holds as a
token reply (`Delivered`), recorded under a limited scope. -/
theorem reach_toks {host : Bytes} {e : ConfigEntry} {st : HostSt} {envs : List Env}
    (h : Reach host e st envs) : ∀ t ∈ st.toks,
    (e.accessToken ≠ [] ∧ t = ⟨unlimitedScope, ⟨host, .access, e.accessToken⟩, forever⟩) ∨
    ∃ env ∈ envs, ∃ ph sc tk ac rf ex exp, sc.unlimited = false ∧ Delivered env ph tk ac rf ex ∧
      t = ⟨sc, ⟨host, .access, pickToken tk ac⟩, exp⟩ := by
  induction h with
  | init => exact fun t ht => Or.inl (mem_initSt_toks ht)
  | sec1 env now req hreach _ _ ih =>
    intro t ht
    rcases section1_toks env now _ req t ht with ⟨h, _⟩ | ⟨sc, tk, ac, rf, ex, hsc, hd, rfl⟩
    · exact (ih t h).imp id fun ⟨env', hm, rest⟩ => ⟨env', List.mem_cons_of_mem _ hm, rest⟩
    · exact Or.inr ⟨env, List.mem_cons_self, 0, sc, tk, ac, rf, ex, _, section1_scope_limited hsc, hd,
        by rw [(reach_J hreach).2]⟩
  | sec2 env now ch req hreach _ _ _ ih =>
    intro t ht
    rcases section2_toks env now _ ch req t ht with h | ⟨sc, tk, ac, rf, ex, hsc, hd, rfl⟩
    · exact (ih t h).imp id fun ⟨env', hm, rest⟩ => ⟨env', List.mem_cons_of_mem _ hm, rest⟩
    · exact Or.inr ⟨env, List.mem_cons_self, 1, sc, tk, ac, rf, ex, _, section2_scope_limited hsc, hd,
        by rw [(reach_J hreach).2]⟩

/-- A sequential call keeps the state reachable. -/
theorem reach_roundTrip {host : Bytes} {e : ConfigEntry} {st : HostSt} {envs : List Env}
    (h : Reach host e st envs) (env : Env) (now : Nat) (req : ReqInfo)
    (hr : WF req.required) (hw : WF req.want) :
    Reach host e (roundTrip env now st req).1 (env :: envs) ∨
    Reach host e (roundTrip env now st req).1 (env :: env :: envs) := by
  have h1 := Reach.sec1 env now req h hr hw
  rcases roundTrip_state env now st req with hs | ⟨hdrs, ch, _, hch, hs⟩ <;> rw [hs]
  · exact Or.inl h1
  · exact Or.inr (Reach.sec2 env now ch req h1 (by rw [← (reach_J h).2]; exact chalOf_sender hch) hr hw)

/-! ### Where each kind of atom sits in a message -/

/-- The places of a message that can hold a secret. -/
inductive Place where
  | bearer | basicUser | basicPass | postRefresh | getUser | getPass
  deriving DecidableEq, Repr

/-- Every atom of a message with the place it sits in. -/
def Msg.atoms : Msg → List (Place × Atom)
  | .registry _ .none => []
  | .registry _ (.bearer t) => [(.bearer, t)]
  | .registry _ (.basic u p) => [(.basicUser, u), (.basicPass, p)]
  | .tokenPOST _ _ rt _ _ => [(.postRefresh, rt)]
  | .tokenGET _ _ none _ _ => []
  | .tokenGET _ _ (some (u, p)) _ _ => [(.getUser, u), (.getPass, p)]

/-- The place is one where that kind of atom belongs. -/
def Place.fits : Place → Kind → Prop
  | .bearer, k => k = .access
  | .basicUser, k => k = .username
  | .basicPass, k => k = .password
  | .postRefresh, k => k = .refresh
  | .getUser, k => k = .username
  | .getPass, k => k = .password

theorem of_mem_atoms {m : Msg} {pl : Place} {a : Atom} (h : (pl, a) ∈ m.atoms) :
    match pl with
    | .bearer => ∃ host, m = .registry host (.bearer a)
    | .basicUser => ∃ host p, m = .registry host (.basic a p)
    | .basicPass => ∃ host u, m = .registry host (.basic u a)
    | .postRefresh => ∃ realm nb sc sv, m = .tokenPOST realm nb a sc sv
    | .getUser => ∃ realm nb p sc sv, m = .tokenGET realm nb (some (a, p)) sc sv
    | .getPass => ∃ realm nb u sc sv, m = .tokenGET realm nb (some (u, a)) sc sv := by
  rcases m with ⟨host, _ | t | ⟨u, p⟩⟩ | ⟨realm, nb, rt, sc, sv⟩ | ⟨realm, nb, _ | ⟨u, p⟩, sc, sv⟩ <;>
    simp only [Msg.atoms, List.mem_cons, List.not_mem_nil, or_false, Prod.mk.injEq] at h
  · obtain ⟨rfl, rfl⟩ := h; exact ⟨_, rfl⟩
  · rcases h with ⟨rfl, rfl⟩ | ⟨rfl, rfl⟩
    · exact ⟨_, _, rfl⟩
    · exact ⟨_, _, rfl⟩
  · obtain ⟨rfl, rfl⟩ := h; exact ⟨_, _, _, _, rfl⟩
  · rcases h with ⟨rfl, rfl⟩ | ⟨rfl, rfl⟩
    · exact ⟨_, _, _, _, _, rfl⟩
    · exact ⟨_, _, _, _, _, rfl⟩

theorem msgOwn_atoms {h : Bytes} {m : Msg} (hm : MsgOwn h m) :
    ∀ pa ∈ m.atoms, pa.2.origin = h ∧ pa.1.fits pa.2.kind := by
  rintro ⟨pl, a⟩ hpa
  have hf := of_mem_atoms hpa
  cases pl <;> dsimp only at hf
  · obtain ⟨_, rfl⟩ := hf; exact hm.2
  · obtain ⟨_, _, rfl⟩ := hf; exact hm.2.1
  · obtain ⟨_, _, rfl⟩ := hf; exact hm.2.2
  · obtain ⟨_, _, _, _, rfl⟩ := hf; exact hm.2
  · obtain ⟨_, _, _, _, _, rfl⟩ := hf; exact (hm.2 _ _ rfl).1
  · obtain ⟨_, _, _, _, _, rfl⟩ := hf; exact (hm.2 _ _ rfl).2

end OciModel.Auth
