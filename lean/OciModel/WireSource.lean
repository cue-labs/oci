/-
The link between `Wire.plan` (which backend call the handler of a classified request makes, with which
arguments) and the source: the regenerated handler table `OciModel/Generated/SrvHandlers.lean` lists, for
every handler, its call sites on `r.backend` with the provenance of every argument. `plan_site` says that
whatever call `plan` makes is one of the call sites of the handler the dispatch table names for the
request's kind, with the same method and — for every argument that is a field of the classified request —
the same field in the same position.
-/
import OciModel.Wire
import OciModel.SrvIR
import OciModel.SrvHandlers
import OciModel.Generated.SrvHandlers

namespace OciModel.Wire
open OciModel OciModel.ReqCodec OciModel.SrvIR

inductive Site where
  | call (method : String) (args : List Prov)
  | invoke (f : String)
  deriving DecidableEq, Repr

/-- a method of a reader/writer obtained from the backend (not of the backend itself) -/
def isResourceMethod (m : String) : Bool := Generated.SrvHandlers.resourceMethods.any (·.1 == m)

/-- the call sites on the backend in a handler's program, in source order (`invoke f`: the handler
delegates to `f`) -/
def progSites : Prog → List Site
  | .nil => []
  | .ret _ => []
  | .unknownShape _ => []
  | .atom a k =>
    (match a with
     | .call c _ => if isResourceMethod c.method then [] else [.call c.method c.args]
     | .acquire _ c => [.call c.method c.args]
     | .invoke f => [.invoke f]
     | _ => []) ++ progSites k
  | .alt _ p q k => progSites p ++ progSites q ++ progSites k

def handlerSites (f : String) : List Site :=
  match Generated.SrvHandlers.handlers.lookup f with
  | some p => progSites p
  | none => []

/-- the call sites of the handler serving kind `k` (and of the handlers it delegates to) -/
def sitesOf (k : Kind) : List Site :=
  let own := handlerSites (SrvHandlers.handlerOf Generated.SrvHandlers.dispatch k)
  own ++ own.flatMap fun s => match s with
    | .invoke f => handlerSites f
    | .call _ _ => []

/-- The `ociregistry.Interface` method a call is (the first one, for the compound upload steps), and its
arguments that are names (`none` for numbers, bodies and descriptors' other fields). -/
def Call.site : Call → String × List (Option Bytes)
  | .getBlob repo dg => ("GetBlob", [some repo, some dg])
  | .getBlobRange repo dg _ _ => ("GetBlobRange", [some repo, some dg, none, none])
  | .getManifest repo dg => ("GetManifest", [some repo, some dg])
  | .getTag repo tag => ("GetTag", [some repo, some tag])
  | .resolveBlob repo dg => ("ResolveBlob", [some repo, some dg])
  | .resolveManifest repo dg => ("ResolveManifest", [some repo, some dg])
  | .resolveTag repo tag => ("ResolveTag", [some repo, some tag])
  | .pushBlob repo d _ => ("PushBlob", [some repo, some d.digest, none])
  | .pushManifest repo tag _ _ => ("PushManifest", [some repo, some tag, none, none])
  | .mountBlob fromRepo toRepo dg => ("MountBlob", [some fromRepo, some toRepo, some dg])
  | .deleteBlob repo dg => ("DeleteBlob", [some repo, some dg])
  | .deleteManifest repo dg => ("DeleteManifest", [some repo, some dg])
  | .deleteTag repo tag => ("DeleteTag", [some repo, some tag])
  | .startUpload repo _ => ("PushBlobChunked", [some repo, none])
  | .uploadInfo repo id _ => ("PushBlobChunkedResume", [some repo, some id, none, none])
  | .uploadChunk repo id _ _ _ => ("PushBlobChunkedResume", [some repo, some id, none, none])
  | .uploadCommit repo id _ _ _ _ => ("PushBlobChunkedResume", [some repo, some id, none, none])
  | .tags repo start => ("Tags", [some repo, some start])
  | .repositories start => ("Repositories", [some start])
  | .referrers repo dg => ("Referrers", [some repo, some dg, some []])

/-- the value an argument of the given provenance has for the classified request `r` (`none`: not a name) -/
def provVal (r : Request) : Prov → Option Bytes
  | .field f => SrvHandlers.fieldVal r f
  | .fieldOrEmpty f => SrvHandlers.fieldVal r f
  | .lit s => some (strBytes s)
  | .desc p => provVal r p
  | .other _ => none

def siteMatches (r : Request) (site : Site) (c : Call) : Bool :=
  match site with
  | .call m args => m == c.site.1 && args.map (provVal r) == c.site.2
  | .invoke _ => false

/-- What `provVal` reads of a provenance: a field of the classified request, a literal, or no name. -/
inductive Src where
  | field (f : String)
  | lit (s : String)
  | none
  deriving DecidableEq

def srcOf : Prov → Src
  | .field f | .fieldOrEmpty f => .field f
  | .lit s => .lit s
  | .desc p => srcOf p
  | .other _ => .none

def Src.val (r : Request) : Src → Option Bytes
  | .field f => SrvHandlers.fieldVal r f
  | .lit s => some (strBytes s)
  | .none => Option.none

theorem provVal_srcOf (r : Request) (p : Prov) : provVal r p = (srcOf p).val r := by
  induction p with
  | desc p ih => exact ih
  | _ => rfl

/-- Whether a site calls method `m` with arguments that read `srcs`: the part of `siteMatches` that does
not depend on the request, so that it can be evaluated on the regenerated table. -/
def siteReads (m : String) (srcs : List Src) : Site → Bool
  | .call m' args => m' == m && args.map srcOf == srcs
  | .invoke _ => false

theorem site_of_reads (k : Kind) (m : String) (srcs : List Src) (r : Request) {c : Call}
    (hc : c.site = (m, srcs.map (Src.val r))) (h : (sitesOf k).any (siteReads m srcs) = true) :
    ∃ site ∈ sitesOf k, siteMatches r site c = true := by
  obtain ⟨site, hmem, hs⟩ := List.any_eq_true.mp h
  refine ⟨site, hmem, ?_⟩
  cases site with
  | invoke f => cases hs
  | call m' args =>
    simp only [siteReads, Bool.and_eq_true, beq_iff_eq] at hs
    simp only [siteMatches, hc, Bool.and_eq_true, beq_iff_eq]
    refine ⟨hs.1, ?_⟩
    rw [← hs.2, List.map_map]
    exact List.map_congr_left fun p _ => provVal_srcOf r p

/-- The calls `plan` can make for a request of kind `k`: the method, and what each argument reads. -/
def planReads : Kind → List (String × List Src)
  | .ping => []
  | .blobGet => [("GetBlob", [.field "Repo", .field "Digest"]), ("GetBlobRange", [.field "Repo", .field "Digest", .none, .none])]
  | .blobHead => [("ResolveBlob", [.field "Repo", .field "Digest"])]
  | .blobDelete => [("DeleteBlob", [.field "Repo", .field "Digest"])]
  | .blobStartUpload => [("PushBlobChunked", [.field "Repo", .none])]
  | .blobUploadBlob => [("PushBlobChunked", [.field "Repo", .none]), ("PushBlob", [.field "Repo", .field "Digest", .none])]
  | .blobMount => [("MountBlob", [.field "FromRepo", .field "Repo", .field "Digest"])]
  | .blobUploadInfo | .blobUploadChunk | .blobCompleteUpload =>
    [("PushBlobChunkedResume", [.field "Repo", .field "UploadID", .none, .none])]
  | .manifestGet => [("GetTag", [.field "Repo", .field "Tag"]), ("GetManifest", [.field "Repo", .field "Digest"])]
  | .manifestHead => [("ResolveTag", [.field "Repo", .field "Tag"]), ("ResolveManifest", [.field "Repo", .field "Digest"])]
  | .manifestPut => [("PushManifest", [.field "Repo", .field "Tag", .none, .none])]
  | .manifestDelete => [("DeleteTag", [.field "Repo", .field "Tag"]), ("DeleteManifest", [.field "Repo", .field "Digest"])]
  | .tagsList => [("Tags", [.field "Repo", .field "ListLast"])]
  | .referrersList => [("Referrers", [.field "Repo", .field "Digest", .lit ""])]
  | .catalogList => [("Repositories", [.field "ListLast"])]

theorem plan_reads (cfg : Cfg) (r : Request) (rq : HttpRequest) (c : Call) (h : plan cfg r rq = .ok (some c)) :
    ∃ p ∈ planReads r.kind, c.site = (p.1, p.2.map (Src.val r)) := by
  obtain ⟨kind, repo, digest, tag, fromRepo, uploadID, listN, listLast⟩ := r
  cases kind <;> simp only [plan] at h
  case ping => cases h
  case blobGet =>
    split at h
    · cases h
    · cases h; exact ⟨_, .head _, rfl⟩
    · cases h; exact ⟨_, .tail _ (.head _), rfl⟩
  case blobUploadBlob | manifestGet | manifestHead | manifestDelete =>
    split at h
    · cases h; exact ⟨_, .head _, rfl⟩
    · cases h; exact ⟨_, .tail _ (.head _), rfl⟩
  case blobUploadChunk | blobCompleteUpload | manifestPut | tagsList | referrersList | catalogList =>
    split at h
    · cases h
    · cases h; exact ⟨_, .head _, rfl⟩
  all_goals cases h; exact ⟨_, .head _, rfl⟩

/-- The one fact about the regenerated handler table: every call `plan` can make is a call site of the
handler of its kind. -/
theorem planReads_sites (k : Kind) : ∀ p ∈ planReads k, (sitesOf k).any (siteReads p.1 p.2) = true := by
  cases k <;> decide +kernel

/-- **`plan` makes the calls the source makes.** -/
theorem plan_site (cfg : Cfg) (r : Request) (rq : HttpRequest) (c : Call) (h : plan cfg r rq = .ok (some c)) :
    ∃ site ∈ sitesOf r.kind, siteMatches r site c = true := by
  obtain ⟨p, hp, hc⟩ := plan_reads cfg r rq c h
  exact site_of_reads r.kind p.1 p.2 r hc (planReads_sites r.kind p hp)

end OciModel.Wire
