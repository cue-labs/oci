/-
C02 — reference semantics of the in-memory registry model (`OciModel/Mem.lean`):
the association lists are maps, listings are exact and sorted, referrers are exact and ascending,
tags resolve to the last accepted push, a manifest is accepted only when its references are
sane, the error-code table, and a concrete run with a toy hash.

The last section is the umbrella sentence itself: `Mem` (the model of the code) refines `MemSpec` (the simple
reference registry: per repository three partial maps as functions), for all 22 operations and
every history — same outputs, same abstract state.

`H : Bytes → Bytes` is a parameter; nothing is assumed about it.
-/
import OciModel.MemLemmas
import OciModel.MemSpecLemmas

namespace OciModel.Props.C02
open OciModel OciModel.Mem

variable (H : Bytes → Bytes)

/-! ### Key uniqueness -/

def NoDupKeys {β : Type} (m : List (Bytes × β)) : Prop := (m.map (·.1)).Nodup

/-- The repository list and every repository's four maps have no duplicate keys. -/
def KeysUnique (s : State) : Prop :=
  NoDupKeys s.repos ∧
  ∀ p ∈ s.repos, NoDupKeys p.2.tags ∧ NoDupKeys p.2.manifests ∧ NoDupKeys p.2.blobs ∧ NoDupKeys p.2.uploads

theorem keysUnique_iff (s : State) : KeysUnique s ↔ Mem.KeysUnique s := Iff.rfl

theorem keysUnique_init (imm : Bool) : KeysUnique (init imm) := Mem.ku_init imm

theorem keysUnique_step (s : State) (op : Op) : KeysUnique s → KeysUnique (step H s op).1 :=
  Mem.ku_step H s op

theorem keysUnique_run (s : State) (ops : List Op) : KeysUnique s → KeysUnique (run H s ops).1 :=
  Mem.ku_run H s ops

/-- Under key uniqueness, membership in a map and lookup agree. -/
theorem mem_iff_lookup {β : Type} {m : List (Bytes × β)} (hm : NoDupKeys m) (k : Bytes) (v : β) :
    (k, v) ∈ m ↔ alookup k m = some v := Mem.mem_iff_alookup (show KU m from hm)

/-! ### Listings -/

/-- Strictly ascending w.r.t. `compare` on byte strings (bytewise lexicographic). -/
def StrictAscB (l : List Bytes) : Prop := l.Pairwise (fun a b => compare a b = .lt)

theorem strictAscB_iff (l : List Bytes) : StrictAscB l ↔ Mem.StrictAscB l := Iff.rfl

theorem strictAscB_nodup {l : List Bytes} (h : StrictAscB l) : l.Nodup := Mem.strictAsc_nodup h

theorem keysAfter_sorted {β : Type} {m : List (Bytes × β)} (hm : NoDupKeys m) (start : Bytes) :
    StrictAscB (keysAfter m start) := Mem.keysAfter_sorted (show KU m from hm) start

theorem mem_keysAfter {β : Type} (m : List (Bytes × β)) (start k : Bytes) :
    k ∈ keysAfter m start ↔ (k ∈ m.map (·.1) ∧ compare start k = .lt) := Mem.mem_keysAfter

/-- Each key strictly after `start` is listed exactly once. -/
theorem count_keysAfter {β : Type} {m : List (Bytes × β)} (hm : NoDupKeys m) (start k : Bytes) :
    (keysAfter m start).count k = if k ∈ m.map (·.1) ∧ compare start k = .lt then 1 else 0 := by
  rw [(strictAscB_nodup (keysAfter_sorted hm start)).count]
  simp only [mem_keysAfter]

/-- `Repositories(start)`: exactly the existing repositories strictly after
`start`, each once, ascending; the state is unchanged. -/
theorem repositories_listing {s : State} (hs : KeysUnique s) (start : Bytes) :
    ∃ l, step H s (.repositories start) = (s, .okList l) ∧ StrictAscB l ∧ l.Nodup ∧
      ∀ r, r ∈ l ↔ ((getRepo s r).isSome = true ∧ compare start r = .lt) := by
  refine ⟨keysAfter s.repos start, rfl, keysAfter_sorted hs.1 start,
    strictAscB_nodup (keysAfter_sorted hs.1 start), fun r => ?_⟩
  rw [mem_keysAfter, getRepo, alookup_isSome_iff]

/-- `Tags(r, start)` on a known repository: exactly its tags strictly after
`start`, each once, ascending. -/
theorem tags_listing {s : State} (hs : KeysUnique s) {r : Bytes} {rp : Repo} (hg : getRepo s r = some rp)
    (start : Bytes) :
    ∃ l, step H s (.tags r start) = (s, .okList l) ∧ StrictAscB l ∧ l.Nodup ∧
      ∀ t, t ∈ l ↔ ((alookup t rp.tags).isSome = true ∧ compare start t = .lt) := by
  have hk := (ku_getRepo hs hg).1
  refine ⟨keysAfter rp.tags start, by simp [step, hg], keysAfter_sorted hk start,
    strictAscB_nodup (keysAfter_sorted hk start), fun t => ?_⟩
  rw [mem_keysAfter, alookup_isSome_iff]

theorem tags_unknown_repo {s : State} {r : Bytes} (hg : getRepo s r = none) (start : Bytes) :
    step H s (.tags r start) = (s, .err "NAME_UNKNOWN") := by
  simp [step, hg]

/-! ### Referrers -/

/-- Ascending by digest, possibly with equal neighbours. -/
def AscDesc (l : List Desc) : Prop := l.Pairwise (fun a b => compare a.digest b.digest ≠ .gt)
/-- Strictly ascending by digest. -/
def StrictAscDesc (l : List Desc) : Prop := l.Pairwise (fun a b => compare a.digest b.digest = .lt)

/-- `Referrers(r, d)` on a known repository: exactly the descriptors of the
stored manifests whose subject is `d`, ascending by digest. -/
theorem referrers_exact {s : State} {r : Bytes} {rp : Repo} (hg : getRepo s r = some rp) (d : Bytes) :
    ∃ l, step H s (.referrers r d) = (s, .okDescs l) ∧ AscDesc l ∧
      ∀ x, x ∈ l ↔ ∃ k b, (k, b) ∈ rp.manifests ∧ b.subject = d ∧ x = descOf H b :=
  ⟨referrersOf H rp d, step_referrers H hg d, referrersOf_asc H rp d, fun _ => mem_referrersOf H⟩

/-- With the digest invariant and key uniqueness the result is strictly
ascending: no digest is reported twice. -/
theorem referrers_strict {s : State} (hinv : Mem.Inv H s) (hs : KeysUnique s) {r : Bytes} {rp : Repo}
    (hg : getRepo s r = some rp) (d : Bytes) :
    ∃ l, step H s (.referrers r d) = (s, .okDescs l) ∧ StrictAscDesc l :=
  ⟨referrersOf H rp d, step_referrers H hg d,
    referrersOf_strict H d (hinv r rp hg).2 (ku_getRepo hs hg).2.1⟩

theorem referrers_unknown_repo {s : State} {r : Bytes} (hg : getRepo s r = none) (d : Bytes) :
    step H s (.referrers r d) = (s, .err "NAME_UNKNOWN") := by
  simp [step, hg]

/-! ### A tag resolves to the last accepted push -/

theorem tag_resolves_last_push {s s1 : State} {r t data mt : Bytes} {dec : Decoded} {dd : Desc}
    (h : step H s (.pushManifest r t data mt dec) = (s1, .okDesc dd)) (ht : t ≠ []) :
    step H s1 (.resolveTag r t) = (s1, .okDesc dd) ∧ dd.digest = H data :=
  Mem.tag_resolves_last_push H h ht

/-- When the push really stored (mutable tags, or the tag was new) `getTag`
returns exactly the pushed bytes. -/
theorem tag_gets_last_push {s s1 : State} {r t data mt : Bytes} {dec : Decoded} {dd : Desc}
    (h : step H s (.pushManifest r t data mt dec) = (s1, .okDesc dd)) (ht : t ≠ [])
    (hfresh : s.immutableTags = false ∨ ∀ rp, getRepo s r = some rp → alookup t rp.tags = none) :
    step H s1 (.getTag r t) = (s1, .okRead ⟨mt, H data, data.length⟩ data) :=
  Mem.tag_gets_last_push H h ht hfresh

/-! ### What an accepted manifest push implies -/

/-- Either the push was the idempotent re-push under an immutable tag (nothing
stored, the existing descriptor is returned), or the manifest decoded and every
referenced descriptor looks sane, every referenced blob (kind 0) and manifest
(kind 1) already existed in the repository; a subject (kind 2) may dangle; and
in immutable-tags mode the push did not re-type content reachable from a tag
(`retyped … = false`, see `retyped_def`). -/
theorem manifest_accepted_only_if {s s1 : State} {r t data mt : Bytes} {dec : Decoded} {dd : Desc}
    (h : step H s (.pushManifest r t data mt dec) = (s1, .okDesc dd)) :
    Ref.isRepo r = true ∧ (t = [] ∨ Ref.isTag t = true) ∧
    ((s1 = s ∧ t ≠ [] ∧ s.immutableTags = true ∧
        ∃ rp, getRepo s r = some rp ∧ alookup t rp.tags = some dd ∧ dd.digest = H data ∧ dd.mediaType = mt)
     ∨ (dd = ⟨mt, H data, data.length⟩ ∧ Ref.isDigest (H data) = true ∧ mt ≠ [] ∧ dec ≠ .malformed ∧
        retyped s.immutableTags ((getRepo s r).getD emptyRepo) (H data) mt = false ∧
        ∃ rs, decRefs dec = some rs ∧
          ∀ ref ∈ rs, checkDescNil ref.desc = true ∧
            (ref.kind = 0 → (alookup ref.desc.digest ((getRepo s r).getD emptyRepo).blobs).isSome = true) ∧
            (ref.kind = 1 → (alookup ref.desc.digest ((getRepo s r).getD emptyRepo).manifests).isSome = true))) :=
  Mem.manifest_accepted_only_if H h

theorem retyped_def (imm : Bool) (rp : Repo) (dig mt : Bytes) :
    retyped imm rp dig mt = (imm && (match alookup dig rp.manifests with
      | some b => b.mediaType != mt && taggedRefersTo rp dig
      | none => false)) := rfl

/-- In immutable-tags mode, re-storing tagged content under another media type is refused. -/
theorem retype_denied {s : State} {r t data mt : Bytes} {dec : Decoded} {dd : Desc} {rp : Repo}
    (hg : getRepo s r = some rp) (hre : retyped s.immutableTags rp (H data) mt = true) :
    (step H s (.pushManifest r t data mt dec)).2 ≠ .okDesc dd ∨
      (t ≠ [] ∧ ∃ cur, alookup t rp.tags = some cur ∧ cur.digest = H data ∧ cur.mediaType = mt ∧ dd = cur) := by
  cases hst : step H s (.pushManifest r t data mt dec) with
  | mk s1 o =>
    by_cases ho : o = .okDesc dd
    · subst ho
      obtain ⟨_, _, h | h⟩ := Mem.manifest_accepted_only_if H hst
      · obtain ⟨_, ht, _, rp', hg', hl, hd, hm⟩ := h
        rw [hg] at hg'; cases hg'
        exact Or.inr ⟨ht, dd, hl, hd, hm, rfl⟩
      · rw [hg] at h; simp only [Option.getD_some] at h
        rw [hre] at h; exact absurd h.2.2.2.2.1 (by simp)
    · exact Or.inl ho

/-- The refusal applies in particular whenever some tag points directly at the digest. -/
theorem retyped_of_tag {imm : Bool} {rp : Repo} {t' dig mt : Bytes} {td : Desc} {b : Blob}
    (himm : imm = true) (ht : alookup t' rp.tags = some td) (hd : td.digest = dig)
    (hb : alookup dig rp.manifests = some b) (hmt : b.mediaType ≠ mt) :
    retyped imm rp dig mt = true := Mem.retyped_of_tag himm ht hd hb hmt

theorem decRefs_def : decRefs .opaque = some [] ∧ decRefs .malformed = none ∧
    ∀ rs, decRefs (.refs rs) = some rs := ⟨rfl, rfl, fun _ => rfl⟩

/-! ### The error-code table -/

/-- Read, resolve, delete and list operations on an unknown repository. -/
theorem name_unknown {s : State} {r : Bytes} (hg : getRepo s r = none) (d : Bytes) (o0 o1 : Int) (op : Op)
    (hop : op ∈ [Op.getBlob r d, .getBlobRange r d o0 o1, .getManifest r d, .getTag r d,
      .resolveBlob r d, .resolveManifest r d, .resolveTag r d,
      .deleteBlob r d, .deleteManifest r d, .deleteTag r d, .tags r d, .referrers r d]) :
    step H s op = (s, .err "NAME_UNKNOWN") := by
  simp only [List.mem_cons, List.not_mem_nil, or_false] at hop
  rcases hop with rfl | rfl | rfl | rfl | rfl | rfl | rfl | rfl | rfl | rfl | rfl | rfl <;>
    simp [step, blobFor, manifestFor, hg]

/-- Known repository, missing blob. -/
theorem blob_unknown {s : State} {r d : Bytes} {rp : Repo} (hg : getRepo s r = some rp)
    (hl : alookup d rp.blobs = none) (o0 o1 : Int) (op : Op)
    (hop : op ∈ [Op.getBlob r d, .getBlobRange r d o0 o1, .resolveBlob r d, .deleteBlob r d]) :
    step H s op = (s, .err "BLOB_UNKNOWN") := by
  simp only [List.mem_cons, List.not_mem_nil, or_false] at hop
  rcases hop with rfl | rfl | rfl | rfl <;> simp [step, blobFor, hg, hl]

/-- Known repository, missing manifest. -/
theorem manifest_unknown {s : State} {r d : Bytes} {rp : Repo} (hg : getRepo s r = some rp)
    (hl : alookup d rp.manifests = none) (op : Op)
    (hop : op ∈ [Op.getManifest r d, .resolveManifest r d, .deleteManifest r d]) :
    step H s op = (s, .err "MANIFEST_UNKNOWN") := by
  simp only [List.mem_cons, List.not_mem_nil, or_false] at hop
  rcases hop with rfl | rfl | rfl <;> simp [step, manifestFor, hg, hl]

/-- Known repository, missing tag. -/
theorem tag_unknown {s : State} {r t : Bytes} {rp : Repo} (hg : getRepo s r = some rp)
    (hl : alookup t rp.tags = none) (op : Op)
    (hop : op ∈ [Op.getTag r t, .resolveTag r t, .deleteTag r t]) :
    step H s op = (s, .err "MANIFEST_UNKNOWN") := by
  simp only [List.mem_cons, List.not_mem_nil, or_false] at hop
  rcases hop with rfl | rfl | rfl <;> simp [step, hg, hl]

/-- A tag whose manifest has been deleted reads as `MANIFEST_UNKNOWN`. -/
theorem tag_dangling {s : State} {r t : Bytes} {rp : Repo} {td : Desc} (hg : getRepo s r = some rp)
    (ht : alookup t rp.tags = some td) (hl : alookup td.digest rp.manifests = none) :
    step H s (.getTag r t) = (s, .err "MANIFEST_UNKNOWN") := by
  simp [step, hg, ht, hl]

/-- An invalid repository name: `pushBlob` with a well-formed descriptor, and
the other creating operations; the state is unchanged. -/
theorem name_invalid {s : State} {r : Bytes} (hr : Ref.isRepo r = false) :
    (∀ desc data, checkDescData H desc data = none →
        step H s (.pushBlob r desc data) = (s, .err "NAME_INVALID")) ∧
    step H s (.pushChunked r) = (s, .err "NAME_INVALID") ∧
    (∀ id off, step H s (.resume r id off) = (s, .err "NAME_INVALID")) ∧
    (∀ fromR d, step H s (.mount fromR r d) = (s, .err "NAME_INVALID")) ∧
    (∀ t data mt dec, step H s (.pushManifest r t data mt dec) = (s, .err "NAME_INVALID")) := by
  have hm : makeRepo s r = none := makeRepo_eq_none.mpr hr
  refine ⟨fun desc data hc => ?_, ?_, fun _ _ => ?_, fun _ _ => ?_, fun _ _ _ _ => ?_⟩ <;>
    simp [step, *]

/-- A chunk written at the wrong offset is refused and changes nothing. -/
theorem write_wrong_offset {s : State} {r id : Bytes} {rp : Repo} {b : Buffer}
    (hb : getBuffer s r id = some (rp, b)) (h1 : b.checkStart ≠ -1) (h2 : (b.buf.length : Int) ≠ b.checkStart)
    (data : Bytes) : step H s (.wWrite r id data) = (s, .err "RANGE_INVALID") := by
  simp [step, hb, h1, h2]

/-- Committing under a digest that is not the hash of the uploaded bytes.
(The upload must not already have failed or been cancelled: a sticky earlier
error is reported instead, see `commit_error_sticky`.) -/
theorem commit_wrong_digest {s : State} {r id dig : Bytes} {rp : Repo} {b : Buffer}
    (hb : getBuffer s r id = some (rp, b)) (hc : b.commitErr = none) (hne : H b.buf ≠ dig) :
    (step H s (.wCommit r id dig)).2 = .err "DIGEST_INVALID" := by
  simp [step, hb, hc, hne]

theorem commit_error_sticky {s : State} {r id dig : Bytes} {rp : Repo} {b : Buffer} {e : String}
    (hb : getBuffer s r id = some (rp, b)) (hc : b.commitErr = some e) :
    step H s (.wCommit r id dig) = (s, .err e) := by
  simp [step, hb, hc]

/-! ### The hypotheses are satisfiable: a concrete run with a toy hash -/

/-- A toy hash with well-formed digest text, depending on the length only. -/
def toyH : Bytes → Bytes := fun b =>
  Ref.sha256 ++ [58] ++ List.replicate 64 (48 + (b.length % 10).toUInt8)

def repoA : Bytes := [97]
def repoB : Bytes := [98]
def mtX : Bytes := [120]
def blob1 : Bytes := [1]
def man1 : Bytes := [1, 2]      -- refers to `blob1`
def man2 : Bytes := [1, 2, 3]   -- refers to `man1` as subject
def tagV1 : Bytes := [118, 49]
def tagV2 : Bytes := [118, 50]

def demoOps : List Op :=
  [ .pushBlob repoB ⟨mtX, toyH blob1, 1⟩ blob1,
    .pushBlob repoA ⟨mtX, toyH blob1, 1⟩ blob1,
    .pushManifest repoA tagV2 man1 mtX (.refs [⟨0, ⟨mtX, toyH blob1, 1⟩⟩]),
    .pushManifest repoA tagV1 man2 mtX (.refs [⟨2, ⟨mtX, toyH man1, 2⟩⟩]) ]

def demoState : State := (run toyH (init false) demoOps).1

example : KeysUnique demoState := keysUnique_run toyH _ _ (keysUnique_init false)

example : (run toyH (init false) demoOps).2 =
    [.okDesc ⟨mtX, toyH blob1, 1⟩, .okDesc ⟨mtX, toyH blob1, 1⟩,
     .okDesc ⟨mtX, toyH man1, 2⟩, .okDesc ⟨mtX, toyH man2, 3⟩] := by decide +kernel

/-- Listings are sorted although the insertion order was not. -/
example : (step toyH demoState (.repositories [])).2 = .okList [repoA, repoB] := by decide +kernel
example : (step toyH demoState (.tags repoA [])).2 = .okList [tagV1, tagV2] := by decide +kernel
example : (step toyH demoState (.tags repoA tagV1)).2 = .okList [tagV2] := by decide +kernel

example : (step toyH demoState (.referrers repoA (toyH man1))).2 = .okDescs [⟨mtX, toyH man2, 3⟩] := by decide +kernel

example : step toyH demoState (.getTag repoA tagV1) = (demoState, .okRead ⟨mtX, toyH man2, 3⟩ man2) := by decide +kernel

/-- A manifest naming a blob that is not in the repository is refused. -/
example : (step toyH demoState (.pushManifest repoB [] man1 mtX (.refs [⟨0, ⟨mtX, toyH man2, 3⟩⟩]))).2
    = .err "ERR" := by decide +kernel
/-- A manifest with a dangling subject is accepted. -/
example : (step toyH demoState (.pushManifest repoB [] man1 mtX (.refs [⟨2, ⟨mtX, toyH man2, 3⟩⟩]))).2
    = .okDesc ⟨mtX, toyH man1, 2⟩ := by decide +kernel

/-- Observation: a *failed* `mount` (unknown source) or `pushManifest` still
creates the empty destination repository, which then shows up in listings. -/
example : (step toyH (init false) (.mount repoB repoA (toyH blob1))).2 = .err "NAME_UNKNOWN" ∧
    (step toyH (step toyH (init false) (.mount repoB repoA (toyH blob1))).1 (.repositories [])).2
      = .okList [repoA] := by decide +kernel

example : (step toyH (init false) (.pushManifest repoA [] man1 mtX .malformed)).2 = .err "ERR" ∧
    (step toyH (step toyH (init false) (.pushManifest repoA [] man1 mtX .malformed)).1 (.repositories [])).2
      = .okList [repoA] := by decide +kernel

/-- Observation: mounting within one not-yet-existing repository reports `BLOB_UNKNOWN`, not
`NAME_UNKNOWN`, because the destination is created before the source is looked up. -/
example : (step toyH (init false) (.mount repoA repoA (toyH blob1))).2 = .err "BLOB_UNKNOWN" := by decide +kernel

/-! The freshness hypothesis of `tag_gets_last_push` is needed for a hash with collisions:
in immutable-tags mode, push `[1,2]` under tag `v1`, push the colliding `[3,4]` untagged with the
same media type (it overwrites the entry under the shared digest), re-push `[1,2]` under `v1`
(accepted, idempotent): `getTag v1` now returns `[3,4]`. With an injective `H` this cannot happen. -/
example :
    let s := (run toyH (init true)
      [.pushManifest repoA tagV1 [1, 2] mtX .opaque, .pushManifest repoA [] [3, 4] mtX .opaque]).1
    step toyH s (.pushManifest repoA tagV1 [1, 2] mtX .opaque) = (s, .okDesc ⟨mtX, toyH [1, 2], 2⟩) ∧
    (step toyH s (.getTag repoA tagV1)).2 = .okRead ⟨mtX, toyH [1, 2], 2⟩ [3, 4] := by decide +kernel

/-- The re-typing refusal in action: in immutable-tags mode tagged content cannot be re-stored under
another media type (here with the very same bytes), while in mutable mode it can.
(`refersTo` is defined by well-founded recursion and does not reduce under `decide`; the proof is by the theorems.) -/
example (dd : Desc) :
    let s := (run toyH (init true) [.pushManifest repoA tagV1 [1, 2] mtX .opaque]).1
    (step toyH s (.pushManifest repoA [] [1, 2] [121] .opaque)).2 ≠ .okDesc dd := by
  intro s
  have hg : getRepo s repoA = some ((getRepo s repoA).getD emptyRepo) := by decide +kernel
  have hre : retyped s.immutableTags ((getRepo s repoA).getD emptyRepo) (toyH [1, 2]) [121] = true :=
    retyped_of_tag (t' := tagV1) (td := ⟨mtX, toyH [1, 2], 2⟩) (b := ⟨mtX, [1, 2], [], []⟩)
      (by decide) (by decide) rfl (by decide) (by decide)
  rcases retype_denied toyH (t := []) (dec := .opaque) (dd := dd) hg hre with h | ⟨h, _⟩
  · exact h
  · exact absurd rfl h

example : (run toyH (init false)
      [.pushManifest repoA tagV1 [1, 2] mtX .opaque, .pushManifest repoA [] [1, 2] [121] .opaque]).2
    = [.okDesc ⟨mtX, toyH [1, 2], 2⟩, .okDesc ⟨[121], toyH [1, 2], 2⟩] := by decide +kernel

/-! ### The umbrella sentence: every result is the one the reference registry predicts

`MemSpec` (`OciModel/MemSpec.lean`) is the reference model of the property text: per repository
name three partial maps as functions (blobs by digest, manifests by digest, tags to descriptors),
upload sessions as a function from ids, the set of known repositories, the immutable-tags flag;
`MemSpec.step` mirrors the property's sentences and never mentions an association list.
`MemSpec.abs` reads a state of the code's model as such a registry (`abs_reads`). -/

/-- What `abs` means: lookups of the association lists as functions (first match), the key
lists as domains; the buffers' `committed` flag is dropped. -/
theorem abs_reads (s : State) (r : Bytes) (rp : Repo) (k : Bytes) :
    (MemSpec.abs s).immutableTags = s.immutableTags ∧ (MemSpec.abs s).nextID = s.nextID ∧
    (MemSpec.abs s).repos.get r = (getRepo s r).map MemSpec.absRepo ∧
    (MemSpec.abs s).repos.dom = s.repos.map (·.1) ∧
    (MemSpec.absRepo rp).blobs k = (alookup k rp.blobs).map (fun b => ⟨b.mediaType, b.data⟩) ∧
    (MemSpec.absRepo rp).manifests.get k =
      (alookup k rp.manifests).map (fun b => ⟨b.mediaType, b.data, b.subject, b.refs⟩) ∧
    (MemSpec.absRepo rp).manifests.dom = rp.manifests.map (·.1) ∧
    (MemSpec.absRepo rp).tags.get k = alookup k rp.tags ∧
    (MemSpec.absRepo rp).tags.dom = rp.tags.map (·.1) ∧
    (MemSpec.absRepo rp).uploads k = (alookup k rp.uploads).map (fun b => ⟨b.buf, b.checkStart, b.commitErr⟩) :=
  ⟨rfl, rfl, rfl, rfl, rfl, rfl, rfl, by simp [MemSpec.absRepo], rfl, rfl⟩

/-- One step, any of the 22 operations, from any state whose association lists have unique keys
(every reachable state: `keysUnique_run`): the code's model answers what the reference registry
answers, and the two successor states denote the same registry. Equality of `MemSpec.State`s is
equality of their map fields as functions, i.e. extensional equality of the maps. -/
theorem mem_refines_spec_step {s : State} (hs : KeysUnique s) (op : Op) :
    (MemSpec.step H (MemSpec.abs s) op).2 = (step H s op).2 ∧
    MemSpec.abs (step H s op).1 = (MemSpec.step H (MemSpec.abs s) op).1 :=
  ⟨MemSpec.step_out H hs op, (MemSpec.step_state H hs op).symm⟩

/-- Any history from any such state. -/
theorem mem_refines_spec_from {s : State} (hs : KeysUnique s) (ops : List Op) :
    (MemSpec.run H (MemSpec.abs s) ops).2 = (run H s ops).2 ∧
    MemSpec.abs (run H s ops).1 = (MemSpec.run H (MemSpec.abs s) ops).1 := by
  rw [MemSpec.run_abs H hs ops]; exact ⟨rfl, rfl⟩

/-- C02's umbrella sentence: over every finite history of operations from the empty registry, in
both configurations, every result the model of ocimem returns is the result the reference
registry predicts. No hypothesis. -/
theorem mem_refines_spec (imm : Bool) (ops : List Op) :
    (run H (init imm) ops).2 = (MemSpec.run H (MemSpec.init imm) ops).2 := by
  rw [MemSpec.run_init]

/-- The states stay related: after every history the code's state denotes the reference state. -/
theorem mem_refines_spec_state (imm : Bool) (ops : List Op) :
    MemSpec.abs (run H (init imm) ops).1 = (MemSpec.run H (MemSpec.init imm) ops).1 := by
  rw [MemSpec.run_init]

/-- The reference registry's own invariant along every history: each enumerated domain
(repositories, a repository's manifests, its tags) is exactly the set of bound keys, each once. -/
theorem spec_domains_exact (imm : Bool) (ops : List Op) :
    (MemSpec.run H (MemSpec.init imm) ops).1.WF := MemSpec.run_wf H imm ops

/-- A listing of a well-formed map of the reference registry is exactly the bound keys strictly after `start`. -/
theorem spec_listing_exact {β : Type} {p : MemSpec.PMap β} (h : p.WF) (start k : Bytes) :
    k ∈ p.keysAfter start ↔ ((p.get k).isSome = true ∧ compare start k = .lt) := by
  simp [MemSpec.PMap.keysAfter, Mem.mem_sortBytes, h.2 k]

/-! The hypotheses are satisfiable, and the two machines computed side by side. -/

example : (MemSpec.step toyH (MemSpec.abs demoState) (.tags repoA tagV1)).2 = .okList [tagV2] ∧
    MemSpec.abs (step toyH demoState (.deleteTag repoA tagV1)).1
      = (MemSpec.step toyH (MemSpec.abs demoState) (.deleteTag repoA tagV1)).1 :=
  ⟨by decide +kernel, (mem_refines_spec_step toyH (keysUnique_run toyH _ _ (keysUnique_init false)) _).2⟩

example : (MemSpec.run toyH (MemSpec.abs demoState) [.deleteTag repoA tagV1, .tags repoA []]).2
    = (run toyH demoState [.deleteTag repoA tagV1, .tags repoA []]).2 :=
  (mem_refines_spec_from toyH (keysUnique_run toyH _ _ (keysUnique_init false)) _).1

example : (MemSpec.abs demoState).repos.WF ∧ ∀ k, k ∈ (MemSpec.abs demoState).repos.keysAfter [] ↔
    (((MemSpec.abs demoState).repos.get k).isSome = true ∧ compare [] k = .lt) :=
  have h := (MemSpec.abs_wf (keysUnique_run toyH (init false) demoOps (keysUnique_init false))).1
  ⟨h, spec_listing_exact h []⟩

/-- Push blobs, push a manifest under a tag, a referrer of it, list, delete tag / manifest / blob,
read what was deleted, list again. -/
def refineOps : List Op :=
  demoOps ++
  [ .tags repoA [], .referrers repoA (toyH man1), .getTag repoA tagV1,
    .pushManifest repoB [] man1 mtX (.refs [⟨0, ⟨mtX, toyH man2, 3⟩⟩]),   -- names a missing blob
    .deleteTag repoA tagV1, .resolveTag repoA tagV1, .tags repoA [],
    .deleteManifest repoA (toyH man2), .getManifest repoA (toyH man2), .referrers repoA (toyH man1),
    .deleteBlob repoA (toyH blob1), .getBlob repoA (toyH blob1), .getBlob repoB (toyH blob1),
    .getBlobRange repoB (toyH blob1) 0 (-1), .repositories [], .repositories repoA ]

def refineOut : List Out :=
  [ .okDesc ⟨mtX, toyH blob1, 1⟩, .okDesc ⟨mtX, toyH blob1, 1⟩,
    .okDesc ⟨mtX, toyH man1, 2⟩, .okDesc ⟨mtX, toyH man2, 3⟩,
    .okList [tagV1, tagV2], .okDescs [⟨mtX, toyH man2, 3⟩], .okRead ⟨mtX, toyH man2, 3⟩ man2,
    .err "ERR",
    .okUnit, .err "MANIFEST_UNKNOWN", .okList [tagV2],
    .okUnit, .err "MANIFEST_UNKNOWN", .okDescs [],
    .okUnit, .err "BLOB_UNKNOWN", .okRead ⟨mtX, toyH blob1, 1⟩ blob1,
    .okRead ⟨mtX, toyH blob1, 1⟩ blob1, .okList [repoA, repoB], .okList [repoB] ]

/-- The reference registry's outputs on `refineOps`, computed. -/
example : (MemSpec.run toyH (MemSpec.init false) refineOps).2 = refineOut := by decide +kernel
/-- The outputs of the model of the code on `refineOps`, computed. -/
example : (run toyH (init false) refineOps).2 = refineOut := by decide +kernel
/-- The two agree (also computed; `mem_refines_spec` says so for every history). -/
example : (run toyH (init false) refineOps).2 = (MemSpec.run toyH (MemSpec.init false) refineOps).2 := by decide +kernel

/-- Chunked upload and mount go through the refinement too. -/
example :
    let ops : List Op := [.pushChunked repoA, .wWrite repoA (freshID 0) blob1, .wSize repoA (freshID 0),
      .wCommit repoA (freshID 0) (toyH blob1), .mount repoA repoB (toyH blob1), .getBlob repoB (toyH blob1),
      .resume repoA (freshID 0) 5, .wWrite repoA (freshID 0) blob1, .wCancel repoA (freshID 0),
      .wCommit repoA (freshID 0) (toyH blob1)]
    (MemSpec.run toyH (MemSpec.init false) ops).2 = (run toyH (init false) ops).2 ∧
    (run toyH (init false) ops).2 =
      [.okWriter (freshID 0), .okN 1, .okN 1, .okDesc ⟨octetStream, toyH blob1, 1⟩,
       .okDesc ⟨octetStream, toyH blob1, 1⟩, .okRead ⟨octetStream, toyH blob1, 1⟩ blob1,
       .okWriter (freshID 0), .err "RANGE_INVALID", .okUnit, .err "ERR"] := by decide +kernel

/-- Immutable-tags mode: the reference registry's reachability test is structurally recursive, so
its answers compute; by `mem_refines_spec` they are the answers of the model of the code (whose
`refersTo` is defined by well-founded recursion and does not reduce under `decide`). -/
example :
    (run toyH (init true)
      [.pushManifest repoA tagV1 man1 mtX .opaque, .deleteManifest repoA (toyH man1),
       .deleteTag repoA tagV1, .pushManifest repoA [] man1 [121] .opaque,
       .pushManifest repoA tagV1 man1 mtX .opaque, .pushManifest repoA tagV1 man2 mtX .opaque]).2
    = [.okDesc ⟨mtX, toyH man1, 2⟩, .err "DENIED", .err "DENIED", .err "DENIED",
       .okDesc ⟨mtX, toyH man1, 2⟩, .err "DENIED"] := by
  rw [mem_refines_spec]; decide +kernel

end OciModel.Props.C02
