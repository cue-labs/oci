/-
C05 — lossless paging.

The client pager (`ociclient.pager`) run against the real server truncation logic
(`ociserver.nextListResults`) over a sorted, duplicate-free backend listing `L`
delivers exactly the items strictly after the start point — none lost, none
duplicated, in order — for ANY page size `n ≥ 1` and ANY start point (absent, equal
to an element, between elements, beyond the end), including the case where the
number of remaining items is an exact multiple of `n` (a final empty page then ends
the iteration).

* L1 `mem_after`, `after_sublist`, `after_strictAsc`
* L2 `pager_lossless` (and `after_last_of_full_page`, the inductive step)
* L3 `serverPage_truncated_iff`, `serverPage_prefix`
* L4 `pagerOver_fuel_irrelevant`
* L5 the same statement for the script view of the client used by C18:
  `pagerScript_over_server` (the run is complete — `done` —, never `error`/`panic`).
* Necessity of the hypotheses: `lossy_with_duplicates`, `lossy_unsorted`,
  `lossy_page_size_zero`.
-/
import OciModel.Pager
import OciModel.PagerLemmas
namespace OciModel.Props.C05
open OciModel.Pager

/-! ### L1: the backend listing after a start point -/

theorem mem_after (L : List Bytes) (s x : Bytes) :
    x ∈ after L (some s) ↔ x ∈ L ∧ compare s x = .lt := mem_after_some

theorem after_none (L : List Bytes) : after L none = L := rfl

theorem after_sublist (L : List Bytes) (s : Option Bytes) : (after L s).Sublist L :=
  Pager.after_sublist L s

theorem after_strictAsc (L : List Bytes) (s : Option Bytes) (h : StrictAsc L) :
    StrictAsc (after L s) :=
  (strictAsc_iff_pairwise _).mpr (after_pairwise ((strictAsc_iff_pairwise _).mp h) s)

/-- A start point at or beyond the last element leaves nothing. -/
theorem after_beyond (L : List Bytes) (s : Bytes)
    (h : ∀ x ∈ L, compare s x ≠ .lt) : after L (some s) = [] := by
  simp only [after, List.filter_eq_nil_iff]
  intro x hx
  simpa using h x hx

/-! ### L3: the server's page -/

theorem serverPage_truncated_iff (L : List Bytes) (n : Nat) (last : Option Bytes) :
    (serverPage L n last).2 = true ↔ n < (after L last).length := by
  simp [serverPage]

theorem serverPage_prefix (L : List Bytes) (n : Nat) (last : Option Bytes) :
    (serverPage L n last).1 = (after L last).take n ∧
    (serverPage L n last).1 <+: after L last ∧
    (serverPage L n last).1.length = min n (after L last).length :=
  ⟨rfl, List.take_prefix _ _, List.length_take⟩

/-- The server reports "truncated" exactly when the page is not the whole remainder. -/
theorem serverPage_truncated_iff_ne (L : List Bytes) (n : Nat) (last : Option Bytes) :
    (serverPage L n last).2 = false ↔ (serverPage L n last).1 = after L last := by
  simp only [serverPage, decide_eq_false_iff_not, Nat.not_lt]
  constructor
  · exact List.take_of_length_le
  · intro h
    have := congrArg List.length h
    rw [List.length_take] at this
    omega

/-! ### L2: lossless paging -/

/-- The inductive step: restarting strictly after the final item `x` of a page of `n`
items taken from the listing after `s` yields the listing after `s` minus that page.
(Items before `x` compare below it and are filtered out; items after compare above.) -/
theorem after_last_of_full_page (L : List Bytes) (hL : StrictAsc L) (s : Option Bytes)
    (n : Nat) (x : Bytes) (hlast : ((after L s).take n).getLast? = some x) :
    after L (some x) = (after L s).drop n :=
  after_last_of_page ((strictAsc_iff_pairwise _).mp hL) s hlast

/-- Any fuel exceeding the number of remaining items is enough. -/
theorem pager_lossless_fuel (L : List Bytes) (n : Nat) (hL : StrictAsc L) (hn : 1 ≤ n)
    (fuel : Nat) (start : Option Bytes) (hf : (after L start).length < fuel) :
    pagerOver L n fuel start = after L start := by
  induction fuel generalizing start with
  | zero => omega
  | succ fuel ih =>
    rw [pagerOver_succ]
    by_cases hshort : ((after L start).take n).length < n
    · rw [if_pos hshort]
      rw [List.length_take] at hshort
      exact List.take_of_length_le (by omega)
    · rw [if_neg hshort]
      rw [List.length_take] at hshort
      obtain ⟨x, hx⟩ := take_getLast? hn (by omega : n ≤ (after L start).length)
      have hstep := after_last_of_full_page L hL start n x hx
      rw [hx]
      show (after L start).take n ++ pagerOver L n fuel (some x) = after L start
      rw [ih (some x) (by rw [hstep, List.length_drop]; omega), hstep]
      exact List.take_append_drop n _

/-- **Lossless paging.** For every strictly ascending listing, page size `n ≥ 1` and
start point, the pager delivers exactly the items after the start point. -/
theorem pager_lossless (L : List Bytes) (n : Nat) (start : Option Bytes)
    (hL : StrictAsc L) (hn : 1 ≤ n) :
    pagerOver L n (L.length + 1) start = after L start :=
  pager_lossless_fuel L n hL hn _ start
    (Nat.lt_succ_of_le (after_sublist L start).length_le)

/-- From the beginning: the whole listing. -/
theorem pager_lossless_all (L : List Bytes) (n : Nat) (hL : StrictAsc L) (hn : 1 ≤ n) :
    pagerOver L n (L.length + 1) none = L :=
  pager_lossless L n none hL hn

/-- Consequences spelled out: no item lost, none invented, none duplicated. -/
theorem pager_lossless_mem (L : List Bytes) (n : Nat) (s x : Bytes)
    (hL : StrictAsc L) (hn : 1 ≤ n) :
    x ∈ pagerOver L n (L.length + 1) (some s) ↔ x ∈ L ∧ compare s x = .lt := by
  rw [pager_lossless L n (some s) hL hn]; exact mem_after L s x

theorem pager_lossless_strictAsc (L : List Bytes) (n : Nat) (start : Option Bytes)
    (hL : StrictAsc L) (hn : 1 ≤ n) :
    StrictAsc (pagerOver L n (L.length + 1) start) := by
  rw [pager_lossless L n start hL hn]; exact after_strictAsc L start hL

/-! ### L4: fuel -/

theorem pagerOver_fuel_irrelevant (L : List Bytes) (n : Nat) (start : Option Bytes)
    (hL : StrictAsc L) (hn : 1 ≤ n) (f g : Nat)
    (hf : (after L start).length < f) (hg : (after L start).length < g) :
    pagerOver L n f start = pagerOver L n g start := by
  rw [pager_lossless_fuel L n hL hn f start hf, pager_lossless_fuel L n hL hn g start hg]

/-! ### L5: the script view of the client against the server

The answers the server gives to the successive requests of the pager, as a script for
`pagerScript` (the view of the client that is diffed with the Go client in C18): a
page carries a Link exactly when the server truncated. -/

def linkOf : Bool → Option Bool
  | true => some true
  | false => none

def serverScript (L : List Bytes) (n : Nat) : Nat → Option Bytes → List Answer
  | 0, _ => []
  | fuel + 1, last =>
    let p := serverPage L n last
    .page p.1 (linkOf p.2) ::
      match p.1.getLast? with
      | none => []
      | some l => serverScript L n fuel (some l)

theorem serverScript_succ (L : List Bytes) (n fuel : Nat) (last : Option Bytes) :
    serverScript L n (fuel + 1) last =
      .page ((after L last).take n) (linkOf (decide (n < (after L last).length))) ::
        match ((after L last).take n).getLast? with
        | none => []
        | some l => serverScript L n fuel (some l) := rfl

/-- Against the real server the scripted client runs to completion (`done`: neither
error, nor panic, nor an exhausted script) and delivers exactly the listing after the
start point, in at most `remaining / n + 1` requests. -/
theorem pagerScript_over_server (L : List Bytes) (n : Nat) (hL : StrictAsc L) (hn : 1 ≤ n)
    (fuel : Nat) (start : Option Bytes) (hf : (after L start).length < fuel) :
    (pagerScript (n : Int) (serverScript L n fuel start) none).yielded = after L start ∧
    (pagerScript (n : Int) (serverScript L n fuel start) none).fin = .done ∧
    (pagerScript (n : Int) (serverScript L n fuel start) none).requests
      = (after L start).length / n + 1 := by
  induction fuel generalizing start with
  | zero => omega
  | succ fuel ih =>
    simp only [serverScript_succ, pagerScript_page, deliver_none]
    rw [if_neg (by simp)]
    split
    · rename_i hshort
      have hlt : (after L start).length < n := by
        rw [List.length_take] at hshort; omega
      refine ⟨List.take_of_length_le (by omega), rfl, ?_⟩
      simp [Nat.div_eq_of_lt hlt]
    · rename_i hfull
      have hge : n ≤ (after L start).length := by
        rw [List.length_take] at hfull; omega
      rw [if_neg (take_ne_nil hn hge)]
      have hlink : ¬ (linkOf (decide (n < (after L start).length)) = some false) := by
        cases decide (n < (after L start).length) <;> simp [linkOf]
      rw [if_neg hlink]
      obtain ⟨x, hx⟩ := take_getLast? hn hge
      have hstep := after_last_of_full_page L hL start n x hx
      have hlen : (after L (some x)).length < fuel := by
        rw [hstep, List.length_drop]; omega
      obtain ⟨h1, h2, h3⟩ := ih (some x) hlen
      simp only [hx]
      refine ⟨?_, h2, ?_⟩
      · rw [h1, hstep]; exact List.take_append_drop n _
      · rw [h3, hstep, List.length_drop]
        have : (after L start).length = ((after L start).length - n) + n := by omega
        conv => rhs; rw [this, Nat.add_div_right _ (by omega : 0 < n)]

/-- The two views of the client agree over the real server. -/
theorem pagerScript_eq_pagerOver (L : List Bytes) (n : Nat) (start : Option Bytes)
    (hL : StrictAsc L) (hn : 1 ≤ n) :
    (pagerScript (n : Int) (serverScript L n (L.length + 1) start) none).yielded
      = pagerOver L n (L.length + 1) start := by
  have hf : (after L start).length < L.length + 1 :=
    Nat.lt_succ_of_le (after_sublist L start).length_le
  rw [(pagerScript_over_server L n hL hn _ start hf).1, pager_lossless L n start hL hn]

/-! ### The hypotheses are necessary -/

/-- With a duplicate in the listing an item is lost (restarting strictly after the final
item of a page skips its duplicate). -/
theorem lossy_with_duplicates :
    pagerOver [[1], [1], [2]] 1 4 none = [[1], [2]] ∧ after [[1], [1], [2]] none ≠ [[1], [2]] := by
  decide +kernel

/-- With an unsorted listing items are lost. -/
theorem lossy_unsorted :
    pagerOver [[3], [1], [2]] 1 4 none = [[3]] := by decide

/-- Page size `0` (excluded by `ListN = n > 0` on the server and by the defaulting in
`ociclient.New`) delivers nothing. -/
theorem lossy_page_size_zero :
    pagerOver [[1], [2]] 0 3 none = [] := by decide

/-! ### Examples (evaluated) -/

-- 5 items, page size 2, from the beginning: pages [1,2] [3,4] [5]
example : pagerOver [[1], [2], [3], [4], [5]] 2 6 none = [[1], [2], [3], [4], [5]] := by decide +kernel

-- exact multiple: 4 items, page size 2; a final empty page ends the iteration
example : pagerOver [[1], [2], [3], [4]] 2 5 none = [[1], [2], [3], [4]] := by decide +kernel
example :
    serverScript [[1], [2], [3], [4]] 2 5 none
      = [.page [[1], [2]] (some true), .page [[3], [4]] none, .page [] none] := by decide +kernel

-- start equal to an element / between elements / beyond the end / below the beginning
example : pagerOver [[1], [3], [5], [7]] 2 5 (some [3]) = [[5], [7]] := by decide +kernel
example : pagerOver [[1], [3], [5], [7]] 2 5 (some [4]) = [[5], [7]] := by decide +kernel
example : pagerOver [[1], [3], [5], [7]] 2 5 (some [9]) = [] := by decide +kernel
example : pagerOver [[1], [3], [5], [7]] 3 5 (some []) = [[1], [3], [5], [7]] := by decide +kernel

-- lexicographic order on multi-byte names: "a" < "a/b" < "ab" < "b"
example :
    pagerOver [[97], [97, 47, 98], [97, 98], [98]] 1 5 (some [97])
      = [[97, 47, 98], [97, 98], [98]] := by decide +kernel

-- page size larger than the listing: a single short page ends the run (the server
-- would answer a further request with an empty page; the client never makes it)
example : serverScript [[1], [2]] 10 3 none = [.page [[1], [2]] none, .page [] none] := by decide +kernel
example :
    pagerScript 10 (serverScript [[1], [2]] 10 3 none) none = ⟨[[1], [2]], 1, .done⟩ := by decide +kernel

-- the scripted client against the server
example :
    pagerScript 2 (serverScript [[1], [2], [3], [4], [5]] 2 6 none) none
      = ⟨[[1], [2], [3], [4], [5]], 3, .done⟩ := by decide +kernel

example : StrictAsc [[97], [97, 47, 98], [97, 98], [98]] := by decide +kernel

end OciModel.Props.C05
