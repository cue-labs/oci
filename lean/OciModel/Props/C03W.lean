/-
C03W — the client, the wire and the server, composed (sub-check of C03).

`Props/C03.lean` proves the request codec (`construct` / `parse`), `Props/C03R.lean` the response codec
(`serverResp` / `clientDecode`), `Props/C07.lean` the error codec (`hop`). Here they are put end to end
(`OciModel/Wire.lean`: glue only) and ONE statement per interface call says what the property says:

  the client, talking through the wire to the server in front of an ARBITRARY backend, gives its caller the
  backend's answer (up to what the wire carries), and the backend receives exactly the call.

* `hopS cfg fuel B st c` — one call `c` on the client, whose transport is the server in front of the
  (stateful) backend `B`; `st` = the backend's state and the calls it has received so far.
* `onWire c` — the call as the backend receives it: `c` itself, but chunk-size hints are not sent.
* `expect cfg c a` — the backend's answer `a` as the caller gets it (Part 1 says it is *equivalent* to `a`
  in the property's sense as soon as `a` agrees with the request).

Part 0: the facts of the source the composition rests on (regenerated on every run).
Part 1: every call that is one request: exactness and equivalence.
Part 2: the multi-request flows (POST-then-PUT, tag GET with HEAD fallback, paging) and every call.
Part 3: histories over a stateful backend.
Part 4: the exceptions that are real: F3 (empty range), F11 (HEAD errors), F24 (error bodies over 8 KiB),
        and F29 (an error written with a success status; fixed).
Part 5: two hops.
Part 6: F31 (fixed): a call by digest reports the digest that was asked for, over any transport.

F31 (ociclient `descriptorFromResponse`: the digest asked for wins over the `Docker-Content-Digest` header): `expect`
(`Wire.expectOk`, in `WireSpec.lean`) gives every call by digest (`GetBlob`, `GetBlobRange`, `GetManifest`, `ResolveBlob`,
`ResolveManifest`, `MountBlob`) the digest of the CALL; accordingly `Faithful` — the hypothesis of the transparency
theorems — asks of every one of these calls that the backend's answer carries the digest asked for. The exactness
theorems (`wire_call_exact`, `wire_exact`, histories, two hops) need no such hypothesis.

Statements and short proofs only; lemmas are in `OciModel/WireLemmas.lean`, `OciModel/WireHops.lean` (Part 5:
`two_hops`, `two_hops_ok_equiv`, `mar_hop_fixed`) and `OciModel/WireSource.lean` (`plan_site`).
-/
import OciModel.Wire
import OciModel.WireSpec
import OciModel.WireLemmas
import OciModel.WireSource
import OciModel.WireHops
import OciModel.ErrCodecInst
import OciModel.Generated.WireFacts
import OciModel.Generated.ErrorTable
namespace OciModel.Props.C03W
open OciModel OciModel.Ref OciModel.ReqCodec OciModel.RespCodec OciModel.Wire
open OciModel.ErrCodec (Err)

/-! ### Concrete witnesses for the satisfiability `example`s -/

def exDigest : Bytes := sha256 ++ cColon :: List.replicate 64 97
def exRepo : Bytes := strBytes "foo/blobs/uploads"

/-- a configuration with the concrete error codec, error table and list decoders -/
def exCfg : Cfg :=
  { H := fun _ => exDigest, S := ErrCodec.S, C := ErrCodec.C, compact := ErrCodec.compactJSON,
    table := ErrCodec.genTable, stdMsg := ErrCodec.stdMsg, errBody := errBodyJSON,
    decTags := decTagsImage, decCatalog := decCatalogImage, decIndex := fun _ => none }

def exDesc : Desc := { mediaType := mtImageManifest, digest := exDigest, size := 3 }

/-- a backend: one blob, one upload session, everything else unknown -/
def exB : Backend
  | .getBlob _ _ => .ok (.reader exDesc [1, 2, 3])
  | .resolveBlob _ _ => .err (.wire (strBytes "BLOB_UNKNOWN", strBytes "blob unknown to registry", none))
  | .startUpload _ _ => .ok (.writer (strBytes "a/b?c") 0 4)
  | _ => .err (.plain (strBytes "no"))

example : DecodersOK exCfg := ⟨C03R.json_tags_round_trip, C03R.json_catalog_round_trip⟩
example : WF exCfg (.getBlob exRepo exDigest) ∧ Single exCfg (.getBlob exRepo exDigest) :=
  ⟨⟨by decide +kernel, by decide +kernel⟩, trivial⟩
example : Carriable exCfg (.getBlob exRepo exDigest) (exB (.getBlob exRepo exDigest)) := ⟨by decide +kernel, by decide +kernel⟩
example : Faithful exCfg (.getBlob exRepo exDigest) (exB (.getBlob exRepo exDigest)) := rfl
-- `Faithful` is satisfiable for the calls by digest (F31): an answer that carries the digest asked for
example : Faithful exCfg (.resolveBlob exRepo exDigest) (.ok (.desc exDesc)) := rfl
example : Faithful exCfg (.getManifest exRepo exDigest) (.ok (.reader exDesc [1, 2, 3])) := rfl
example : Faithful exCfg (.resolveManifest exRepo exDigest) (.ok (.desc exDesc)) := rfl
example : Faithful exCfg (.mountBlob exRepo exRepo exDigest) (.ok (.desc exDesc)) := rfl
example : WF exCfg (.getBlobRange exRepo exDigest 1 (-1)) := ⟨by decide +kernel, by decide +kernel, ⟨by decide +kernel, by decide +kernel⟩, by decide +kernel, Or.inl (by decide +kernel)⟩
example : WF exCfg (.pushManifest exRepo (strBytes "latest") [123, 125] mtImageManifest) :=
  ⟨by decide +kernel, Or.inr (by decide +kernel), by decide +kernel, by decide +kernel⟩
example : WF exCfg (.uploadChunk exRepo (strBytes "a/b?c") 0 0 [7]) :=
  ⟨by decide +kernel, ⟨by decide +kernel, by decide +kernel⟩, by decide +kernel, by decide +kernel, by decide +kernel⟩
example : Carriable exCfg (.startUpload exRepo 0) (exB (.startUpload exRepo 0)) :=
  ⟨⟨by decide +kernel, by decide +kernel⟩, by decide +kernel, by decide +kernel⟩

/-! ## Part 0 — the facts of the source -/

/-- **The regenerated facts the composition takes from the source**: `MarshalError` passes an error's own HTTP
status on only when it is an error status (fix F29); the client decodes error bodies up to 8 KiB; over a HEAD
carrier `makeError1` maps exactly these five statuses to standard errors; `PushBlob` is POST-then-PUT. -/
theorem generated_wire_facts :
    Generated.WireFacts.shapeKnown = true ∧
    Generated.WireFacts.marshalOwnStatusGuard = "status := httpErr.StatusCode(); status >= 400 && status <= 599" ∧
    Generated.WireFacts.errorBodySizeLimit = errorBodySizeLimit ∧
    Generated.WireFacts.headStatuses =
      [(404, "ErrNameUnknown"), (401, "ErrUnauthorized"), (403, "ErrDenied"), (429, "ErrTooManyRequests"),
       (400, "ErrUnsupported")] ∧
    Generated.WireFacts.pushBlobKinds = ["ReqBlobStartUpload"] := by decide +kernel

/-- **Every status of `errorStatuses` is an error status** (the hypothesis `TableOK` of the theorems below,
for the table regenerated from error.go). -/
theorem generated_table_error_statuses : TableOK ErrCodec.genTable := by unfold TableOK; decide +kernel

/-- **`plan` makes the calls the source makes**: whatever backend call the model's server makes for a
classified request is one of the call sites on `r.backend` of the handler the dispatch table names for the
request's kind (regenerated handler table of C06S), with the same method and, for every argument that is a
field of the classified request, the same field in the same position (`MountBlob(FromRepo, Repo, Digest)`,
`Tags(Repo, ListLast)`, …). -/
theorem plan_makes_the_calls_of_the_source (cfg : Cfg) (r : Request) (rq : HttpRequest) (c : Wire.Call)
    (h : plan cfg r rq = .ok (some c)) : ∃ site ∈ sitesOf r.kind, siteMatches r site c = true :=
  plan_site cfg r rq c h

example : plan exCfg { kind := .blobMount, repo := strBytes "to", digest := exDigest, fromRepo := strBytes "from" }
    { method := mPOST, path := [] } = .ok (some (.mountBlob (strBytes "from") (strBytes "to") exDigest)) := by decide +kernel

/-- The status `MarshalError` puts on an error answer is an error status, whatever the error (fix F29): no
error of the backend can reach the client as a 1xx/2xx answer. -/
theorem error_status_is_an_error_status (table : List (Bytes × Nat)) (ht : TableOK table) (e : Err) :
    400 ≤ ErrCodec.wireStatus table e ∧ ErrCodec.wireStatus table e ≤ 599 :=
  wireStatus_error ht e

/-! ## Part 1 — one request, one backend call -/

/-- **Exactness.** For every configuration, every (stateful) backend `B`, every state, and every call that is
answered by one request (`Single`: all but `PushBlob`, the paged listings, and a tag GET against a server
that omits the digest) with well-formed names: the backend receives exactly the call (`onWire c`: the call
minus the chunk-size hints the protocol has no place for), once, and moves to the state it would have moved
to; and the caller gets `expect cfg c` of the backend's answer. -/
theorem wire_call_exact {σ : Type} (cfg : Cfg) (ht : TableOK cfg.table) (fuel : Nat) (B : SBackend σ)
    (st : σ × List Wire.Call) (c : Wire.Call) (hs : Single cfg c) (hwf : WF cfg c)
    (hcar : Carriable cfg c (B st.1 (onWire c)).2) :
    hopS cfg fuel B st c = (((B st.1 (onWire c)).1, st.2 ++ [onWire c]), expect cfg c (B st.1 (onWire c)).2) :=
  hop_single cfg ht fuel B st c hs hwf hcar

/-- The same for a backend that is a function of the call: the calls the server made are exactly `[onWire c]`. -/
theorem wire_call_exact_stateless (cfg : Cfg) (ht : TableOK cfg.table) (fuel : Nat) (B : Backend) (c : Wire.Call)
    (hs : Single cfg c) (hwf : WF cfg c) (hcar : Carriable cfg c (B (onWire c))) :
    hopS cfg fuel (fun (_ : Unit) c => ((), B c)) ((), []) c = (((), [onWire c]), expect cfg c (B (onWire c))) := by
  simpa using wire_call_exact cfg ht fuel (fun (_ : Unit) c => ((), B c)) ((), []) c hs hwf hcar

/-- **Transparency, for a backend that is a function of the call.** `clientCall : (HttpRequest → HttpResponse) →
Call → Result` over `serverHandle B : HttpRequest → HttpResponse × List Call`: for every backend `B : Call → Answer`
and every single-request call with well-formed names, `clientCall (fun rq => (serverHandle B rq).1) c ≈ B c`. -/
-- `hf : Faithful …` asks `answer digest = requested digest` of every call by digest (`GetBlob`, `GetBlobRange`,
-- `GetManifest`, `ResolveBlob`, `ResolveManifest`, `MountBlob`; whatever `omitDigest`): the client reports the digest
-- asked for (F31), so without it the statement is false (`wire_answer_equivalent_F31_counterexample`).
theorem wire_transparent (cfg : Cfg) (ht : TableOK cfg.table) (fuel : Nat) (B : Backend) (c : Wire.Call)
    (hs : Single cfg c) (hwf : WF cfg c) (hcar : Carriable cfg c (B (onWire c))) (hf : Faithful cfg c (B (onWire c)))
    (hsmall : ∀ e, B (onWire c) = .err e → c.isHead = false → SmallBody cfg e) :
    Equiv cfg c (clientCall cfg fuel (fun rq => (serverHandle cfg B rq).1) c) (B (onWire c)) := by
  rw [clientCall_serverHandle cfg fuel B [] c, hop_single cfg ht fuel (fun (_ : Unit) c => ((), B c)) ((), []) c hs hwf hcar]
  exact expect_equiv cfg c _ hs hcar hf hsmall

/-- The client's result over `serverHandle` is that of the composed run `hopS`, whatever calls were recorded before;
in the composed run the requests it sends make the server call the backend with exactly `[onWire c]`
(`wire_call_exact_stateless`: the second component). -/
theorem clientCall_is_the_composed_run (cfg : Cfg) (fuel : Nat) (B : Backend) (log : List Wire.Call) (c : Wire.Call) :
    clientCall cfg fuel (fun rq => (serverHandle cfg B rq).1) c =
      (hopS cfg fuel (fun (_ : Unit) c => ((), B c)) ((), log) c).2 :=
  clientCall_serverHandle cfg fuel B log c

/-- `serveS` over a backend that is a function of the call is `serverHandle` with the calls collected, whatever was
recorded before. -/
theorem serverHandle_is_serveS (cfg : Cfg) (B : Backend) (log : List Wire.Call) (rq : HttpRequest) :
    (serveS cfg (fun (_ : Unit) c => ((), B c)) ((), log) rq).2 = (serverHandle cfg B rq).1 ∧
    (serveS cfg (fun (_ : Unit) c => ((), B c)) ((), log) rq).1.2 = log ++ (serverHandle cfg B rq).2 :=
  serveS_stateless cfg B log rq

/-- What changes on the way to the backend is hints only: for every call without a chunk-size hint and
without a range, the backend receives the call itself. -/
theorem onWire_identity (c : Wire.Call) (h : c.plain = true) : onWire c = c := onWire_plain c h

/-- `onWire` is idempotent: a second hop changes nothing more. -/
theorem onWire_idempotent (c : Wire.Call) : onWire (onWire c) = onWire c := onWire_idem c

example : onWire (.getBlobRange exRepo exDigest 0 (-7)) = .getBlob exRepo exDigest := by decide +kernel
example : onWire (.getBlobRange exRepo exDigest 5 (-7)) = .getBlobRange exRepo exDigest 5 (-1) := by decide +kernel
example : onWire (.startUpload exRepo 4096) = .startUpload exRepo 0 := rfl
example : onWire (.uploadChunk exRepo [1] 10 4096 [1, 2, 3]) = .uploadChunk exRepo [1] 10 3 [1, 2, 3] := rfl

/-- **Equivalence.** What arrives is the backend's answer in the sense of the property — the same
success/failure; for a failure the same HTTP status and, unless the carrier is a HEAD, the same OCI code
(`UNKNOWN` for an error without one); for a success the same digest and size, the same media type for
manifests, the same bytes; a mount carries the digest only; an upload is named by the location of the
backend's ID — as soon as the backend's answer agrees with the request (`Faithful`: a registry's does; it is
needed because `PushManifest` and `Commit` report the client's own account instead of reading the answer, and
every call by digest reports the digest it asked for) and an error's body is one the client decodes (≤ 8 KiB: F24). -/
-- Without what `Faithful` asks of the calls by digest (F31, see `wire_transparent`) the statement is false:
-- `wire_answer_equivalent_F31_counterexample`.
theorem wire_answer_equivalent (cfg : Cfg) (c : Wire.Call) (a : Answer) (hs : Single cfg c) (hcar : Carriable cfg c a)
    (hf : Faithful cfg c a) (hsmall : ∀ e, a = .err e → c.isHead = false → SmallBody cfg e) :
    Equiv cfg c (expect cfg c a) a :=
  expect_equiv cfg c a hs hcar hf hsmall

/-- The two together: **one call through the wire is transparent.** -/
-- `hf : Faithful …`: see `wire_transparent`.
theorem wire_call_transparent {σ : Type} (cfg : Cfg) (ht : TableOK cfg.table) (fuel : Nat) (B : SBackend σ)
    (st : σ × List Wire.Call) (c : Wire.Call) (hs : Single cfg c) (hwf : WF cfg c)
    (hcar : Carriable cfg c (B st.1 (onWire c)).2) (hf : Faithful cfg c (B st.1 (onWire c)).2)
    (hsmall : ∀ e, (B st.1 (onWire c)).2 = .err e → c.isHead = false → SmallBody cfg e) :
    (hopS cfg fuel B st c).1 = ((B st.1 (onWire c)).1, st.2 ++ [onWire c]) ∧
    Equiv cfg c (hopS cfg fuel B st c).2 (B st.1 (onWire c)).2 := by
  rw [wire_call_exact cfg ht fuel B st c hs hwf hcar]
  exact ⟨rfl, wire_answer_equivalent cfg c _ hs hcar hf hsmall⟩

/-! ## Part 2 — the multi-request flows, and every call -/

/-- **`PushBlob` is POST-then-PUT**: the backend receives `PushBlobChunked(repo, 0)` and then, on the upload
it named, "resume at 0, write the whole content, commit the digest" — never `PushBlob`. The caller gets its
own descriptor back when both succeed, the first error otherwise. (That the two steps amount to `PushBlob`
is a property of the backend: C04 for `ocimem`.) -/
theorem pushBlob_wire {σ : Type} (cfg : Cfg) (ht : TableOK cfg.table) (fuel : Nat) (B : SBackend σ)
    (st : σ × List Wire.Call) (repo : Bytes) (d : Desc) (content : Bytes) (hwf : WF cfg (.pushBlob repo d content))
    (hcar : pushBlobCarriable B st.1 repo d content) :
    hopS cfg fuel B st (.pushBlob repo d content) =
      (((pushBlobDirect cfg B st.1 repo d content).1, st.2 ++ (pushBlobDirect cfg B st.1 repo d content).2.1),
        (pushBlobDirect cfg B st.1 repo d content).2.2) :=
  hop_pushBlob cfg ht fuel B st repo d content hwf hcar

example : (pushBlobDirect exCfg (fun (_ : Unit) c => ((), exB c)) () exRepo exDesc [1, 2, 3]).2.1 =
    [.startUpload exRepo 0, .uploadCommit exRepo (strBytes "a/b?c") 0 3 [1, 2, 3] exDigest] := by decide +kernel

/-- **Tag GET with HEAD fallback** (server option `OmitDigestFromTagGetResponse`, manifest over 128 KiB): the
backend receives `GetTag` and then `ResolveTag`; the descriptor is the second answer's, the bytes the first's;
an error of the second call arrives over a HEAD carrier. -/
theorem tagGet_head_fallback_wire {σ : Type} (cfg : Cfg) (ht : TableOK cfg.table) (fuel : Nat) (B : SBackend σ)
    (st : σ × List Wire.Call) (repo tag : Bytes) (hwf : WF cfg (.getTag repo tag)) (ho : cfg.o.omitDigest = true)
    (hcar : match (B st.1 (.getTag repo tag)).2 with
      | .err _ => True
      | .ok (.reader d _) => inMemThreshold < d.size ∧ d.size ≤ maxI64 ∧
          (match (B (B st.1 (.getTag repo tag)).1 (.resolveTag repo tag)).2 with
           | .err _ => True
           | .ok (.desc d2) => okSize d2.size ∧ isDigest d2.digest = true
           | .ok _ => False)
      | .ok _ => False) :
    hopS cfg fuel B st (.getTag repo tag) =
      (((getTagLargeDirect cfg B st.1 repo tag).1, st.2 ++ (getTagLargeDirect cfg B st.1 repo tag).2.1),
        (getTagLargeDirect cfg B st.1 repo tag).2.2) :=
  hop_getTag_omitted_large cfg ht fuel B st repo tag hwf ho hcar

/-- **Every call** — single request, POST-then-PUT, HEAD fallback, client-side hashing of a small digest-less
manifest, paged listings (one backend call per page, each starting after the last item of the page before:
`pagesDirect`; for ANY backend, sorted or not): the backend goes through exactly the calls and states of
`direct`, and the caller gets `direct`'s result. -/
theorem wire_exact {σ : Type} (cfg : Cfg) (ht : TableOK cfg.table) (hdec : DecodersOK cfg) (fuel : Nat)
    (B : SBackend σ) (st : σ × List Wire.Call) (c : Wire.Call) (hok : StepOK cfg fuel B st.1 c) :
    hopS cfg fuel B st c =
      (((direct cfg fuel B st.1 c).1, st.2 ++ (direct cfg fuel B st.1 c).2.1), (direct cfg fuel B st.1 c).2.2) :=
  hop_exact cfg ht hdec fuel B st c hok

/-- For a single call `direct` is the call itself. -/
theorem direct_of_single {σ : Type} (cfg : Cfg) (fuel : Nat) (B : SBackend σ) (s : σ) (c : Wire.Call) (hs : Single cfg c) :
    direct cfg fuel B s c = ((B s (onWire c)).1, [onWire c], expect cfg c (B s (onWire c)).2) :=
  direct_single cfg fuel B s c hs

/-- a listing backend over three tags, page size 2: two calls, the second after the last item of the first page -/
def exL : Backend
  | .tags _ start => .ok (.items (if start = [] then [[97], [98], [99]] else if start = [98] then [[99]] else []))
  | _ => .err (.plain [])

example : direct { exCfg with pageSize := 2 } 5 (fun (_ : Unit) c => ((), exL c)) () (.tags exRepo []) =
    ((), [.tags exRepo [], .tags exRepo [98]], .items [[97], [98], [99]] none) := by decide +kernel

/-! ## Part 3 — histories -/

/-- **Histories, exactly.** By induction on the list of calls: a history of calls made through the wire drives
the backend through exactly the calls and states of the same history made directly (`directHist`), and yields
its results. -/
theorem wire_history_exact {σ : Type} (cfg : Cfg) (ht : TableOK cfg.table) (hdec : DecodersOK cfg) (fuel : Nat)
    (B : SBackend σ) (cs : List Wire.Call) (st : σ × List Wire.Call) (hok : HistOK cfg fuel B st.1 cs) :
    hopHistory cfg fuel B st cs =
      (((directHist cfg fuel B st.1 cs).1, st.2 ++ (directHist cfg fuel B st.1 cs).2.1), (directHist cfg fuel B st.1 cs).2.2) :=
  hopHistory_exact cfg ht hdec fuel B cs st hok

/-- **Histories, transparently** (`wire_history_transparent`). For a history of single-request calls over a
stateful backend `B : σ → Wire.Call → σ × Answer`: the backend ends in the state the direct history ends in, it
has received exactly the calls of the history, in order, and every result is equivalent to the answer the
backend gave at that point of the direct history. -/
-- `hf : HistFaithful …` is `Faithful` at every step (see `wire_transparent`).
theorem wire_history_transparent {σ : Type} (cfg : Cfg) (ht : TableOK cfg.table) (hdec : DecodersOK cfg) (fuel : Nat)
    (B : SBackend σ) (cs : List Wire.Call) (st : σ × List Wire.Call) (hs : ∀ c ∈ cs, Single cfg c)
    (hok : HistOK cfg fuel B st.1 cs) (hf : HistFaithful cfg B st.1 cs) :
    (hopHistory cfg fuel B st cs).1 = ((directHistory B st.1 (cs.map onWire)).1, st.2 ++ cs.map onWire) ∧
    EquivAll cfg cs (hopHistory cfg fuel B st cs).2 (directHistory B st.1 (cs.map onWire)).2 :=
  hopHistory_transparent cfg ht hdec fuel B cs st hs hok hf

/-- a stateful backend (a counter of the calls it has seen; a blob appears after the first call) and a history -/
def exS : SBackend Nat := fun n c =>
  (n + 1, match c with
    | .resolveBlob _ _ => if n = 0 then .err (.wire (strBytes "BLOB_UNKNOWN", [], none)) else .ok (.desc exDesc)
    | .deleteBlob _ _ => .ok .unit
    | _ => .err (.plain []))

example : HistOK exCfg 0 exS 0 [.resolveBlob exRepo exDigest, .deleteBlob exRepo exDigest, .resolveBlob exRepo exDigest] := by
  refine ⟨⟨⟨by decide +kernel, by decide +kernel⟩, trivial⟩, ⟨⟨by decide +kernel, by decide +kernel⟩, trivial⟩, ⟨⟨by decide +kernel, by decide +kernel⟩, ?_⟩, trivial⟩
  exact ⟨⟨by decide +kernel, by decide +kernel⟩, by decide +kernel⟩

/-! ## Part 4 — the exceptions that are real -/

/-- **F3: the empty range.** `GetBlobRange(o, o)` is sent as `Range: bytes=o-(o-1)`, which the server refuses
(`C03R.range_header_empty_refused`): the backend receives NO call and the caller gets the un-coded 416,
whatever the backend would have answered (`ocimem` answers an empty reader). It is the only range among
`0 ≤ o0 ≤ o1` that is lost: `WF` asks for `o0 < o1` or an open end, and `wire_call_exact` covers those. -/
theorem getBlobRange_empty_exception {σ : Type} (cfg : Cfg) (ht : TableOK cfg.table) (fuel : Nat) (B : SBackend σ)
    (st : σ × List Wire.Call) (repo dg : Bytes) (o : Int) (hR : isRepo repo = true) (hD : isDigest dg = true)
    (h0 : 0 ≤ o) (hmax : o ≤ maxI64) :
    hopS cfg fuel B st (.getBlobRange repo dg o o) = (st, .fail (faultOf cfg false (mar cfg (serrErr .range416)))) :=
  hop_getBlobRange_empty cfg ht fuel B st repo dg o hR hD h0 hmax

/-- The answer to the empty range (`getBlobRange_empty_exception`) is not equivalent to a backend's success. -/
theorem getBlobRange_empty_not_transparent (cfg : Cfg) (repo dg : Bytes) (o : Int) (d : Desc) (content : Bytes) :
    ¬ Equiv cfg (.getBlobRange repo dg o o) (.fail (faultOf cfg false (mar cfg (serrErr .range416))))
        (.ok (.reader d content)) := by
  rintro ⟨d', v, h, _⟩
  cases h

/-- **F11: errors over a HEAD carrier lose their code.** For the three resolves the caller's error is made up
from the status alone: whatever error of status 404 the backend returned (`BLOB_UNKNOWN`, `MANIFEST_UNKNOWN`,
a custom code) comes back as `NAME_UNKNOWN`. The status itself survives (`wire_answer_equivalent`). -/
theorem head_error_exception (cfg : Cfg) (e : Err) (h : ErrCodec.wireStatus cfg.table e = 404) :
    faultOf cfg true (mar cfg e) =
      .reg (.http 404 (.wire (strBytes "NAME_UNKNOWN", cfg.stdMsg (strBytes "NAME_UNKNOWN"), none))) := by
  simp [faultOf, mar, ErrCodec.unmarshal, ErrCodec.marshal, h, ErrCodec.headStd, ErrCodec.codeOfStd]

example : ErrCodec.wireStatus exCfg.table (.wire (strBytes "BLOB_UNKNOWN", [], none)) = 404 := by decide +kernel

/-- **F24: an error body over 8 KiB is not decoded.** The caller keeps the status and loses code, message and
detail: the error it holds has no code at all. -/
theorem large_error_body_exception (cfg : Cfg) (e : Err)
    (h : (cfg.errBody (mar cfg e).2).length > errorBodySizeLimit) :
    faultOf cfg false (mar cfg e) = .reg (.http (ErrCodec.wireStatus cfg.table e) (.plain tooLarge)) ∧
    ErrCodec.asOci (.http (ErrCodec.wireStatus cfg.table e) (.plain tooLarge)) = none := by
  refine ⟨?_, rfl⟩
  unfold faultOf
  simp only [Bool.false_eq_true, if_false]
  rw [if_pos h]
  rfl

/-- any message over 8 KiB is enough, whatever the code -/
example (code m : Bytes) (h : m.length > 8192) : (errBodyJSON (code, m, none)).length > errorBodySizeLimit := by
  have := errBodyJSON_length_ge (code, m, none) (by intro e; have e' : m = [] := e; rw [e'] at h; simp at h)
  unfold errorBodySizeLimit
  simp only at this
  omega

/-- **F29 (fixed): an error with a success status.** Before the fix `MarshalError` passed on whatever status
an `HTTPError` in the chain carried for a code outside the table: with 200 (or 1xx) the client took the error
answer for a success — `ResolveBlob` returned a descriptor, `PushManifest` (201) reported a push the backend
had refused. In the model the gate lets exactly such answers through. -/
theorem success_status_passes_the_gate (cfg : Cfg) (w : ErrCodec.Wire) :
    clientDecode cfg.H resolveLocal (.resolveBlob exDigest) [toResp cfg (.error 200 w)] =
      .desc { mediaType := appJSON, digest := exDigest, size := (cfg.errBody w).length } ∧
    ∀ own : Desc, own.mediaType ≠ [] →
      clientDecode cfg.H resolveLocal (.pushManifest own) [toResp cfg (.error 201 w)] = .desc own := by
  constructor
  · have hd : isDigest exDigest = true := by decide +kernel
    have hne : exDigest ≠ [] := by decide
    have hj : appJSON ≠ [] := by decide
    have hlen : ¬ ((cfg.errBody w).length : Int) < 0 := by omega
    simp [clientDecode, clientResolve, gate, toResp, descriptorFromResponse, hget, qget, hne, hd, hj, hlen]
  · intro own h
    simp [clientDecode, h, clientPushManifest, gate, toResp]

/-- After the fix F29 no error answer carries a success status (`error_status_is_an_error_status`), so every error
of the backend ends the call with an `HTTPError` of that status. -/
theorem error_answer_ends_the_call (cfg : Cfg) (ht : TableOK cfg.table) (c : Wire.Call) (rq : HttpRequest) (e : Err)
    (hmt : ∀ own, c.dec cfg = .pushManifest own → own.mediaType ≠ []) :
    finish cfg c [(rq, errResp cfg e)] = .fail (faultOf cfg (rq.method == mHEAD) (mar cfg e)) :=
  finish_error cfg ht c rq e hmt

/-! ## Part 5 — two hops -/

/-- **Two hops, exactly.** A client talking to a server whose backend is a client talking to a server in
front of `B` (`hopBackend`): for every call that names no upload session, the backend `B` receives exactly
`onWire c`, once; the server in the middle received exactly `onWire c`; and the caller gets the backend's
answer taken through `expect` twice. The one-hop theorem composed with itself. -/
theorem two_hops_exact {σ : Type} (cfg1 cfg2 : Cfg) (ht1 : TableOK cfg1.table) (ht2 : TableOK cfg2.table)
    (fuel : Nat) (B : SBackend σ) (st : (σ × List Wire.Call) × List Wire.Call) (c : Wire.Call) (hid : c.idFree = true)
    (hs1 : Single cfg1 (onWire c)) (hs2 : Single cfg2 c) (hwf1 : WF cfg1 (onWire c)) (hwf2 : WF cfg2 c)
    (hcar : Carriable cfg1 (onWire c) (B st.1.1 (onWire c)).2) :
    hopS cfg2 fuel (hopBackend cfg1 fuel B) st c =
      ((((B st.1.1 (onWire c)).1, st.1.2 ++ [onWire c]), st.2 ++ [onWire c]),
        expect cfg2 c (asAnswer (expect cfg1 (onWire c) (B st.1.1 (onWire c)).2))) :=
  two_hops cfg1 cfg2 ht1 ht2 fuel B st c hid hs1 hs2 hwf1 hwf2 hcar

/-- **Two hops, transparently**, for a success: after two hops the caller still holds the backend's digest, size,
bytes and (for manifests) media type. -/
-- `hf`, `hf2 : Faithful …`: see `wire_transparent` (`hf2` follows from `hf` for the calls by digest:
-- the first hop delivers the digest asked for).
theorem two_hops_success_equivalent (cfg1 cfg2 : Cfg) (c : Wire.Call) (b : BRes) (hid : c.idFree = true)
    (hs1 : Single cfg1 (onWire c)) (hcar : Carriable cfg1 (onWire c) (.ok b))
    (hf : Faithful cfg1 (onWire c) (.ok b)) (hf2 : Faithful cfg2 c (asAnswer (expect cfg1 (onWire c) (.ok b)))) :
    Equiv cfg2 c (expect cfg2 c (asAnswer (expect cfg1 (onWire c) (.ok b)))) (.ok b) :=
  two_hops_ok_equiv cfg1 cfg2 c b hid hcar hf hf2

/-- **Two hops, for a failure** that is not carried by a HEAD: the same status and the same code after two hops as
after one (C07's `hop_idempotent`: a further hop changes nothing at all). -/
theorem two_hops_error_fixed_point (cfg : Cfg) (hc : ∀ d, cfg.compact (cfg.compact d) = cfg.compact d) (e : Err) :
    mar cfg (faultErr (.reg (ErrCodec.unmarshal cfg.stdMsg false (mar cfg e)))) = mar cfg e :=
  mar_hop_fixed cfg hc e

/-! ## Part 6 — F31 (fixed): a call by digest reports the digest that was asked for -/

def exDigest2 : Bytes := sha256 ++ cColon :: List.replicate 64 98
def exDesc2 : Desc := { mediaType := mtImageManifest, digest := exDigest2, size := 3 }

/-- **The client reports the requested digest, over ANY transport.** For every call that names a digest (`GetBlob`,
`GetBlobRange`, `GetManifest`, `ResolveBlob`, `ResolveManifest`, `MountBlob`) and every transport `send` — the model's
server, another server, or anything in between that rewrites answers and headers — a successful result carries
exactly the digest that was asked for (of the descriptor, or of the reader, which is then what the bytes are verified
against: `C03R.read_by_digest_checks_requested`). No hypothesis on the backend, the names or the answers. -/
theorem client_reports_requested_digest {σ : Type} (cfg : Cfg) (fuel : Nat)
    (send : σ → HttpRequest → σ × HttpResponse) (s : σ) (c : Wire.Call) (dg : Bytes)
    (hc : c.requested = some dg) (hne : dg ≠ []) (d : Desc)
    (h : (clientCallS cfg fuel send s c).2 = .desc d ∨ ∃ v body, (clientCallS cfg fuel send s c).2 = .reader d v body) :
    d.digest = dg := by
  apply clientCallS_requested cfg fuel send s c hc hne
  rcases h with h | ⟨v, body, h⟩ <;> rw [h] <;> rfl

example : (Wire.Call.resolveBlob exRepo exDigest).requested = some exDigest ∧ exDigest ≠ [] := ⟨rfl, by decide +kernel⟩

/-- The same through the model's server in front of an arbitrary backend: whatever descriptor the backend answers
with, the caller holds the digest it asked for. -/
theorem wire_reports_requested_digest {σ : Type} (cfg : Cfg) (fuel : Nat) (B : SBackend σ) (st : σ × List Wire.Call)
    (c : Wire.Call) (dg : Bytes) (hc : c.requested = some dg) (hne : dg ≠ []) (d : Desc)
    (h : (hopS cfg fuel B st c).2 = .desc d ∨ ∃ v body, (hopS cfg fuel B st c).2 = .reader d v body) :
    d.digest = dg :=
  client_reports_requested_digest cfg fuel (serveS cfg B) st c dg hc hne d h

-- an answer with ANOTHER digest: the caller of `ResolveBlob(exDigest)` holds `exDigest`
example : expect exCfg (.resolveBlob exRepo exDigest) (.ok (.desc exDesc2)) =
    .desc { mediaType := octetStream, digest := exDigest, size := 3 } := rfl

/-- F31: with a `Faithful` that asks nothing of `ResolveBlob` the statement of
`wire_answer_equivalent` / `wire_transparent` is false: the call is single, the answer is one the headers carry, yet
what arrives is not equivalent to it — the caller holds the digest it asked for, not the answer's. -/
theorem wire_answer_equivalent_F31_counterexample :
    Single exCfg (.resolveBlob exRepo exDigest) ∧
    Carriable exCfg (.resolveBlob exRepo exDigest) (.ok (.desc exDesc2)) ∧
    (∀ e, Answer.ok (.desc exDesc2) = .err e → (Wire.Call.resolveBlob exRepo exDigest).isHead = false → SmallBody exCfg e) ∧
    ¬ Equiv exCfg (.resolveBlob exRepo exDigest)
        (expect exCfg (.resolveBlob exRepo exDigest) (.ok (.desc exDesc2))) (.ok (.desc exDesc2)) := by
  refine ⟨trivial, ?_, ?_, ?_⟩
  · exact ⟨⟨by decide +kernel, by decide +kernel⟩, by decide +kernel⟩
  · intro e h; cases h
  · rintro ⟨d', h, hd, _⟩
    simp only [expect, expectOk, Result.desc.injEq] at h
    subst h
    revert hd
    decide

end OciModel.Props.C03W
