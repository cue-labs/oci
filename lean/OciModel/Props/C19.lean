/-
C19 — Credential lookup from config files is deterministic with fixed precedence.

Property theorems about the model in `OciModel/AuthFile.lean` (+ `OciModel/Base64.lean`);
the proofs assemble the lemmas of `OciModel/AuthFileLemmas.lean`.

Vocabulary. `orig : List (Bytes × Entry)` is the parsed `auths` object, read by first match
(`orig.lookup`), so it is a finite map. `decodeWith orig v` is `decodeConfigFile` ranging over
the map in the order `v`; `none` means the load fails. `Admissible orig v`: every key of the
document occurs exactly once in `v`; other keys (hosts the loop itself inserts) may occur
anywhere. `tableLookup m h` is the part of `EntryForRegistry` that reads the table;
`entryForRegistry` is the whole method with the helper runner as a parameter. Errors carry no
text in the model: failing is `none`.
-/
import OciModel.AuthFileLemmas
import OciModel.Generated.AuthFile
namespace OciModel.Props.C19
open OciModel OciModel.AuthFile

/-! ### Base64 and `decodeAuth` -/

/-- Go's `StdEncoding` decodes what it encoded, for every byte string. -/
theorem decode_encode (b : Bytes) : Base64.decode (Base64.encode b) = some b :=
  Base64.decode_encode b

/-- A base64 `auth` field decodes to exactly the encoded user and password. -/
theorem decodeAuth_roundtrip (user pass : Bytes) (hu : user ≠ []) (hc : (58 : UInt8) ∉ user)
    (h0 : pass.head? ≠ some 0) (h1 : pass.getLast? ≠ some 0) :
    decodeAuth (Base64.encode (user ++ 58 :: pass)) = some (user, pass) := by
  simp [decodeAuth, Base64.decode_encode, cutColon_append user pass hc, hu, trimNul_id h0 h1]

/-- The hypotheses hold for user "u" and password ":\0p": the user has no ':' (58), the
password may contain ':' and inner NULs. -/
example : ([117] : Bytes) ≠ [] ∧ (58 : UInt8) ∉ ([117] : Bytes) ∧
    ([58, 0, 112] : Bytes).head? ≠ some 0 ∧ ([58, 0, 112] : Bytes).getLast? ≠ some 0 := by decide +kernel
example : decodeAuth (Base64.encode ([117] ++ 58 :: [58, 0, 112])) = some ([117], [58, 0, 112]) := by
  decide +kernel
/-- "dTpw" = base64("u:p"); a trailing NUL in the password is trimmed (the side condition
is needed); no colon, empty user and bad base64 are rejected. -/
example : decodeAuth [100, 84, 112, 119] = some ([117], [112]) := by decide +kernel
example : decodeAuth (Base64.encode [117, 58, 0, 112, 0, 0]) = some ([117], [112]) := by decide +kernel
example : decodeAuth (Base64.encode [117, 112]) = none := by decide +kernel
example : decodeAuth (Base64.encode [58, 112]) = none := by decide +kernel
example : decodeAuth [100, 84, 112] = none := by decide +kernel
/-- `\n` inside the text is skipped, as Go's decoder does. -/
example : decodeAuth [100, 84, 10, 112, 119, 13, 10] = some ([117], [112]) := by decide +kernel

/-! ### The loop over the map: order independence -/

/-- Visiting a host that the loop itself inserted changes no lookup (so it does not matter
whether, or when, Go's `range` produces entries created during the iteration). -/
theorem revisit_derived_noop (orig : List (Bytes × Entry)) (S : List Bytes) (m : Auths) (k : Bytes)
    (hI : Inv orig S m) (hk : orig.lookup k = none) :
    ∃ m', visit m k = some m' ∧ ∀ h, m'.lookup h = m.lookup h := visit_nonorig hI hk

/-- For any two admissible visiting sequences the two loads are equivalent —
both fail, or both succeed and every host looks up to the same result (the same
`ConfigEntry`, or failure for both). -/
theorem decode_order_independent (orig : List (Bytes × Entry)) (v₁ v₂ : List Bytes)
    (h₁ : Admissible orig v₁) (h₂ : Admissible orig v₂) :
    LoadEquiv (decodeWith orig v₁) (decodeWith orig v₂) :=
  decodeWith_equiv orig v₁ v₂ h₁.1 (h₁.perm h₂)

/-- The same for partial passes: only the multiset of document keys visited matters. -/
theorem decode_order_independent_perm (orig : List (Bytes × Entry)) (v₁ v₂ : List Bytes)
    (hnd : (origPart orig v₁).Nodup) (hp : (origPart orig v₁).Perm (origPart orig v₂)) :
    LoadEquiv (decodeWith orig v₁) (decodeWith orig v₂) := decodeWith_equiv orig v₁ v₂ hnd hp

/-- Therefore the whole of `EntryForRegistry`, helpers included, answers the same for any two
admissible visiting sequences. -/
theorem entry_order_independent (orig : List (Bytes × Entry)) (v₁ v₂ : List Bytes)
    (h₁ : Admissible orig v₁) (h₂ : Admissible orig v₂) (m₁ m₂ : Auths)
    (e₁ : decodeWith orig v₁ = some m₁) (e₂ : decodeWith orig v₂ = some m₂)
    (store : Bytes) (helpers : List (Bytes × Bytes)) (run : Runner) (host : Bytes) :
    entryForRegistry { auths := m₁, credsStore := store, credHelpers := helpers } run host =
    entryForRegistry { auths := m₂, credsStore := store, credHelpers := helpers } run host := by
  have h := decode_order_independent orig v₁ v₂ h₁ h₂
  rw [e₁, e₂] at h
  simp only [entryForRegistry, h host]

/-- The load fails exactly when some entry's `auth` does not decode, whichever entry the loop
meets first (only the text of the error depends on the order). -/
theorem load_fails_iff (orig : List (Bytes × Entry)) (v : List Bytes) (h : Admissible orig v) :
    decodeWith orig v = none ↔ ∃ k, BadKey orig k :=
  AuthFile.load_fails_iff orig v h

/-! ### What the finished table contains -/

/-- An explicit host entry is what the table holds for that host — its own fields with `auth`
decoded, not marked as derived — whatever URL-form keys exist for the host. -/
theorem explicit_wins (orig : List (Bytes × Entry)) (v : List Bytes) (h : Admissible orig v)
    (m : Auths) (hm : decodeWith orig v = some m) (host : Bytes) (e : Entry)
    (he : orig.lookup host = some e) :
    m.lookup host = some { derivedFrom := [], e := decoded e } :=
  AuthFile.explicit_wins orig v h m hm host e he

/-- Two different URL-form keys deriving the same host, and no explicit entry for it:
looking the host up in the table fails. -/
theorem collision_fails (orig : List (Bytes × Entry)) (v : List Bytes) (h : Admissible orig v)
    (m : Auths) (hm : decodeWith orig v = some m) (host k₁ k₂ : Bytes)
    (hne : k₁ ≠ k₂) (hx : orig.lookup host = none)
    (i₁ : inOrig orig k₁ = true) (i₂ : inOrig orig k₂ = true)
    (s₁ : hasSS k₁ = true) (s₂ : hasSS k₂ = true)
    (u₁ : urlHost k₁ = host) (u₂ : urlHost k₂ = host) :
    tableLookup m host = none :=
  AuthFile.collision_fails orig v h m hm host k₁ k₂ hne hx i₁ i₂ s₁ s₂ u₁ u₂

/-- Exactly one URL-form key derives the host and there is no explicit entry: the table holds
that key's (decoded) credentials under the host. -/
theorem single_url_key (orig : List (Bytes × Entry)) (v : List Bytes) (h : Admissible orig v)
    (m : Auths) (hm : decodeWith orig v = some m) (host k : Bytes) (e : Entry)
    (hx : orig.lookup host = none) (hk : orig.lookup k = some e)
    (s : hasSS k = true) (u : urlHost k = host)
    (uniq : ∀ k', inOrig orig k' = true → hasSS k' = true → urlHost k' = host → k' = k) :
    m.lookup host = some { derivedFrom := [k], e := decoded e } :=
  AuthFile.single_url_key orig v h m hm host k e hx hk s u uniq

/-- No explicit entry and no URL-form key for the host: the table has nothing, and the lookup
answers the zero entry without error. -/
theorem absent_host (orig : List (Bytes × Entry)) (v : List Bytes) (h : Admissible orig v)
    (m : Auths) (hm : decodeWith orig v = some m) (host : Bytes)
    (hx : orig.lookup host = none)
    (none_derives : ∀ k, inOrig orig k = true → hasSS k = true → urlHost k ≠ host) :
    m.lookup host = none ∧ tableLookup m host = some {} :=
  AuthFile.absent_host orig v h m hm host hx none_derives

/-! ### Precedence in `EntryForRegistry` -/

/-- The result of a helper as `EntryForRegistry` returns it when it is final. -/
def helperFinal : HelperResult → Option ConfigEntry
  | .ok e => some e
  | _ => none

/-- Precedence: (1) a per-host helper's result is final, whatever it is; (2) without one, the
default store's result is final unless the helper is missing (`ErrHelperNotFound`), and then
the table is used; (3) without either, the table is used. (4) A per-host helper named ""
selects the table, not the default store. -/
theorem lookup_precedence (c : Config) (run : Runner) (host : Bytes) :
    (∀ h, c.credHelpers.lookup host = some h → h ≠ [] →
      entryForRegistry c run host = helperFinal (run h host)) ∧
    (c.credHelpers.lookup host = none → c.credsStore ≠ [] →
      entryForRegistry c run host =
        if run c.credsStore host = .notFound then tableLookup c.auths host
        else helperFinal (run c.credsStore host)) ∧
    (c.credHelpers.lookup host = none → c.credsStore = [] →
      entryForRegistry c run host = tableLookup c.auths host) ∧
    (c.credHelpers.lookup host = some [] →
      entryForRegistry c run host = tableLookup c.auths host) := by
  refine ⟨fun h hl hne => ?_, fun hl hne => ?_, fun hl he => ?_, fun hl => ?_⟩
  · cases hr : run h host <;> simp [entryForRegistry, hl, hne, hr, helperFinal]
  · cases hr : run c.credsStore host <;> simp [entryForRegistry, hl, hne, hr, helperFinal]
  · simp [entryForRegistry, hl, he]
  · simp [entryForRegistry, hl]

/-- Lookups do not change the configuration, so a batch of lookups answers each host the same
way in whatever order (and however often) they are made. -/
theorem lookups_independent (c : Config) (run : Runner) (hs hs' : List Bytes) (hp : hs.Perm hs') :
    (hs.map fun h => (h, entryForRegistry c run h)).Perm
      (hs'.map fun h => (h, entryForRegistry c run h)) := hp.map _

/-! ### The helper runner `ExecHelperWithEnv` -/

/-- The runner reports `ErrHelperNotFound` exactly when the helper program does not exist — the
one case in which `lookup_precedence` lets the default store fall back to the table. -/
theorem exec_missing_iff (o : ExecOutcome) : execHelper o = .notFound ↔ o = .notFound := by
  cases o with
  | notFound => simp [execHelper]
  | cannotRun => simp [execHelper]
  | exitError out => simp only [execHelper]; split <;> simp
  | exited c =>
    cases c with
    | none => simp [execHelper]
    | some p => obtain ⟨u, s⟩ := p; simp only [execHelper]; split <;> simp

/-- A helper that ran to completion yields its secret as a refresh token when the user is
"<token>", as the password otherwise; never both. -/
theorem exec_exited (user secret : Bytes) :
    execHelper (.exited (some (user, secret))) =
      if user = tokenUser then .ok { refreshToken := secret }
      else .ok { username := user, password := secret } := rfl

/-- "credentials not found in native keychain" (white space around it ignored) is the zero
entry without error; any other failing output is an error. -/
example : execHelper (.exitError (notFoundMsg ++ [10])) = .ok {} ∧
    execHelper (.exitError ([32, 9] ++ notFoundMsg ++ [0xC2, 0xA0, 13, 10])) = .ok {} ∧
    execHelper (.exitError (notFoundMsg ++ [120])) = .otherErr ∧
    execHelper (.exitError []) = .otherErr := by decide +kernel

/-! ### Non-vacuity: a document exercising every clause -/

/-- keys: "h" (explicit, auth = base64("u:p")), "https://h/v1" (URL form for "h"),
"http://g/a" and "https://g" (colliding for "g"), "f//x" (single URL-form key for "f"). -/
def exOrig : List (Bytes × Entry) :=
  [([104], { auth := [100, 84, 112, 119] }),
   (httpsPrefix ++ [104, 47, 118, 49], { username := [120], password := [121] }),
   (httpPrefix ++ [103, 47, 97], { username := [97] }),
   (httpsPrefix ++ [103], { username := [98] }),
   ([102, 47, 47, 120], { identityToken := [116] })]

def exKeys : List Bytes := exOrig.map Prod.fst

theorem exAdmissible : Admissible exOrig exKeys := admissible_of_keys (by decide +kernel) (by decide +kernel)

example : Admissible exOrig exKeys ∧ Admissible exOrig exKeys.reverse ∧
    Admissible exOrig ([103] :: exKeys.reverse ++ [[103], [102]]) :=
  ⟨exAdmissible, admissible_of_keys (by decide +kernel) (by decide +kernel),
   admissible_of_keys (by decide +kernel) (by decide +kernel)⟩

/-- Both orders load; the tables differ (the colliding host keeps the credentials of the key
visited first) but the lookups agree: explicit wins for "h", "g" fails, "f" is derived,
"z" is absent. -/
example : (decodeWith exOrig exKeys).isSome ∧ (decodeWith exOrig exKeys.reverse).isSome := by decide +kernel
example : ((decodeWith exOrig exKeys).map fun m => (m.lookup [103]).map (·.e.username)) = some (some [97]) ∧
    ((decodeWith exOrig exKeys.reverse).map fun m => (m.lookup [103]).map (·.e.username)) = some (some [98]) := by
  decide +kernel
example : ∀ v ∈ [exKeys, exKeys.reverse, [103] :: exKeys.reverse ++ [[103], [102]]],
    ((decodeWith exOrig v).map fun m => [[104], [103], [102], [122]].map (tableLookup m)) =
      some [some { username := [117], password := [112] }, none,
            some { refreshToken := [116] }, some {}] := by decide +kernel
/-- A bad `auth` anywhere fails the load in every order. -/
example : decodeWith (exOrig ++ [([98], { auth := [33] })]) (exKeys ++ [[98]]) = none ∧
    decodeWith (exOrig ++ [([98], { auth := [33] })]) ([98] :: exKeys) = none := by decide +kernel

/-! The hypotheses of each theorem are satisfiable on this document. -/

/-- `revisit_derived_noop`: its hypothesis `Inv` holds of the table the loop starts from. -/
example : Inv exOrig [] (initAuths exOrig) := inv_init exOrig

/-- `explicit_wins` for "h", which also has the URL-form key "https://h/v1". -/
example : ∀ m, decodeWith exOrig exKeys = some m →
    m.lookup [104] = some { derivedFrom := [], e := decoded { auth := [100, 84, 112, 119] } } :=
  fun m hm => explicit_wins exOrig exKeys exAdmissible m hm [104] _ (by decide +kernel)

/-- `collision_fails` for "g" with "http://g/a" and "https://g". -/
example : ∀ m, decodeWith exOrig exKeys = some m → tableLookup m [103] = none :=
  fun m hm => collision_fails exOrig exKeys exAdmissible m hm [103]
    (httpPrefix ++ [103, 47, 97]) (httpsPrefix ++ [103])
    (by decide +kernel) (by decide +kernel) (by decide +kernel) (by decide +kernel) (by decide +kernel) (by decide +kernel) (by decide +kernel) (by decide +kernel)

/-- `single_url_key` for "f" with "f//x". -/
example : ∀ m, decodeWith exOrig exKeys = some m →
    m.lookup [102] = some { derivedFrom := [[102, 47, 47, 120]], e := decoded { identityToken := [116] } } :=
  fun m hm => single_url_key exOrig exKeys exAdmissible m hm [102] [102, 47, 47, 120] _
    (by decide +kernel) (by decide +kernel) (by decide +kernel) (by decide +kernel)
    (fun k' hi => (by decide +kernel : ∀ k ∈ exKeys, hasSS k = true → urlHost k = [102] → k = [102, 47, 47, 120])
      k' (mem_keys_of_inOrig hi))

/-- `absent_host` for "z". -/
example : ∀ m, decodeWith exOrig exKeys = some m → m.lookup [122] = none ∧ tableLookup m [122] = some {} :=
  fun m hm => absent_host exOrig exKeys exAdmissible m hm [122] (by decide +kernel)
    (fun k hi => (by decide +kernel : ∀ k ∈ exKeys, hasSS k = true → urlHost k ≠ [122]) k (mem_keys_of_inOrig hi))

/-- `load_fails_iff`: a key whose `auth` ("!") does not decode. -/
example : BadKey (exOrig ++ [([98], { auth := [33] })]) [98] := ⟨{ auth := [33] }, by decide +kernel, by decide +kernel⟩

/-- `lookup_precedence`: a configuration with a per-host helper for "k", one with an empty name
for "e", and a default store. -/
def exConfig : Config :=
  { auths := [], credsStore := [115], credHelpers := [([107], [112]), ([101], [])] }
example : exConfig.credHelpers.lookup [107] = some [112] ∧ ([112] : Bytes) ≠ [] ∧
    exConfig.credHelpers.lookup [101] = some [] ∧
    exConfig.credHelpers.lookup [104] = none ∧ exConfig.credsStore ≠ [] := by decide +kernel
/-- the per-host helper is missing: an error, not the table and not the default store;
the default store is missing: the table. -/
example : entryForRegistry exConfig (fun _ _ => .notFound) [107] = none ∧
    entryForRegistry exConfig (fun _ _ => .notFound) [104] = some {} := by decide +kernel

/-! ### Structural facts regenerated from `authfile.go` -/

open OciModel.Generated.AuthFile in
/-- The JSON names (lower-cased: `encoding/json` matches them case-insensitively) of the fields
the model starts from, in declaration order; `derivedFrom` has none and is unexported: it cannot
come from the file. -/
theorem generated_fields_ok :
    configDataFields = [("Auths", "auths"), ("CredsStore", "credsstore"), ("CredHelpers", "credhelpers")] ∧
    authConfigFields = [("derivedFrom", ""), ("Username", "username"), ("Password", "password"),
      ("Auth", "auth"), ("IdentityToken", "identitytoken"), ("RegistryToken", "registrytoken")] :=
  ⟨rfl, rfl⟩

open OciModel.Generated.AuthFile in
/-- The constants (non-empty string literals outside error constructors — error texts are not
observable), library calls and guards of `urlHost`, `decodeAuth`, `decodeConfigFile` and
`EntryForRegistry` are the ones the model mirrors: prefixes "http://" / "https://",
cut at "/"; `base64.StdEncoding`, cut at ":", non-empty user, `strings.Trim` with cutset "\x00";
`strings.Contains(addr, "//")`, explicit entries (`len(derivedFrom) == 0`) not overridden,
`append` + `slices.Sort`; helper used when its name is non-empty, its result final unless
`!explicit && errors.Is(err, ErrHelperNotFound)`; ambiguity and `len(derivedFrom) > 1` checks;
`ExecHelperWithEnv`: `exec.ErrNotFound` → `ErrHelperNotFound`, the "credentials not found …"
message after `strings.TrimSpace`, the "<token>" user. -/
theorem generated_code_facts_ok :
    shapeKnown = true ∧
    urlHostCalls = ["strings.HasPrefix", "strings.TrimPrefix", "strings.HasPrefix", "strings.TrimPrefix", "strings.Cut"] ∧
    urlHostStrings = ["http://", "http://", "https://", "https://", "/"] ∧
    urlHostGuards = ["strings.HasPrefix(url, \"http://\")", "strings.HasPrefix(url, \"https://\")"] ∧
    decodeAuthCalls = ["base64.StdEncoding.DecodeString", "fmt.Errorf", "strings.Cut", "string", "errors.New", "strings.Trim"] ∧
    decodeAuthStrings = [":", "\x00"] ∧
    decodeAuthGuards = ["err != nil", "!ok || username == \"\""] ∧
    decodeConfigCalls = ["json.Unmarshal", "fmt.Errorf", "decodeAuth", "fmt.Errorf", "strings.Contains", "urlHost", "len", "append", "slices.Sort"] ∧
    decodeConfigStrings = ["//"] ∧
    decodeConfigGuards = ["err != nil", "ac.Auth != \"\"", "err != nil", "!strings.Contains(addr, \"//\")", "addr1 == addr", "ok", "len(ac1.derivedFrom) == 0"] ∧
    entryForRegistryCalls = ["c.runner", "errors.Is", "fmt.Errorf", "len", "fmt.Errorf"] ∧
    entryForRegistryStrings = [] ∧
    entryForRegistryGuards = ["!ok", "helper != \"\"", "err == nil || explicit || !errors.Is(err, ErrHelperNotFound)", "auth.IdentityToken != \"\" && auth.Username != \"\"", "len(auth.derivedFrom) > 1"] ∧
    execHelperCalls = ["exec.Command", "strings.NewReader", "cmd.Run", "errors.As", "new", "errors.Is", "fmt.Errorf", "fmt.Errorf", "strings.TrimSpace", "out.String", "fmt.Errorf", "json.Unmarshal", "out.Bytes"] ∧
    execHelperStrings = ["docker-credential-", "get", "credentials not found in native keychain", "<token>"] ∧
    execHelperGuards = ["err != nil", "!errors.As(err, new(*exec.ExitError))", "errors.Is(err, exec.ErrNotFound)", "t == \"credentials not found in native keychain\"", "err != nil", "creds.Username == \"<token>\""] :=
  ⟨rfl, rfl, rfl, rfl, rfl, rfl, rfl, rfl, rfl, rfl, rfl, rfl, rfl, rfl, rfl, rfl⟩

/-- The model's message and token constants are the source's. -/
theorem generated_exec_constants_ok :
    strBytes "credentials not found in native keychain" = notFoundMsg ∧ strBytes "<token>" = tokenUser ∧
    strBytes "http://" = httpPrefix ∧ strBytes "https://" = httpsPrefix := by decide +kernel

end OciModel.Props.C19
