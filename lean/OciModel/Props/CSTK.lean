/-
CSTK — stacks of wrappers (sub-check of C01 and C05).

C01 and C05 speak of "any wrapper stack {mem, +debug, +select, +sub, …}"; every wrapper has its own
model and theorems (C12 select, C13 sub, C05D debug, C14W read-only).  This file is about the
*composition*: `interp stack B` (`OciModel/Stack.lean`) runs each layer's own model on the layer below,
for stacks of any depth and any order, over an abstract registry `B` at the bottom.

* `stack_behaviour`: the whole behaviour on a call whose result the wrappers pass back as it is — the
  outermost refusal and no call on `B`, or `B`'s answer to the call with the `sub` prefixes prepended
  (induction on the stack; the step is the per-wrapper theorem of C12 / C13 / C05D / C14W).
* read transparency (`read_transparent`, `read_reaches_backend_once`), its C01 corollaries over `Mem`
  (`stack_get_exact_blob`, …), confinement (`refused_never_reaches_backend`, `mutator_never_passes_readOnly`,
  `stack_name_joined`, `stack_name_confined`) and listings (`stack_listing`, …) follow.
* `*_adapter_eq`: the glue in `Stack.lean` agrees with each wrapper's own model.
* `generated_*`: the facts about the regenerated tables all of this rests on, by `decide`.

Layers covered: debug, select (any policy), sub (any prefix, `""` included), readOnly.  Not covered:
unify (two wrapped registries; see C15), immutable (its `PushManifest` makes three calls and needs the
registry's state: `WrapRO.immStep` over `S → Op → S × Out` has no counterpart for a stateless `B`).
-/
import OciModel.StackLemmas
import OciModel.Props.C01

namespace OciModel.Props.CSTK
open OciModel OciModel.Stack OciModel.Generated
open OciModel.Select (Call Env Kind Policy)
open OciModel.Scope (Scope)

variable {ε ρ : Type}

/-! ### The whole behaviour of a stack -/

/-- For a well-formed call of any method but `Repositories` (and, when the stack has a debug layer, a
method whose result that wrapper hands back as it is): the answer is the refusal of the outermost layer
that refuses the call as it sees it, and then nothing is called; or, when no layer refuses, exactly
`B`'s answer to the same method with every repository argument under the `sub` prefixes and the
scopes mapped. -/
theorem stack_behaviour (hok : TablesOk = true) (stack : List (Layer ε)) (B : Backend ε ρ) (sc : Scope) (c : Call)
    (hwf : wf c = true) (hm : c.method ≠ "Repositories")
    (hpl : hasDebug stack = true → plainMethod c.method = true) :
    interp stack B sc c =
      match verdict stack c with
      | some e => ⟨.rejected e, []⟩
      | none => B (stackScope stack sc) (stackCall stack c) := by
  induction stack generalizing sc c with
  | nil => simp [interp, verdict, stackScope, stackCall]
  | cons l ls ih =>
    have hpl1 : isDebug l = true → plainMethod c.method = true := fun h => hpl (by simp [hasDebug, h])
    have hpl2 : hasDebug ls = true → plainMethod (layerCall l c).method = true := fun h => by
      rw [layerCall_method]
      exact hpl (by simp only [hasDebug, List.any_cons, Bool.or_eq_true]; exact Or.inr h)
    simp only [interp, verdict, stackScope, stackCall]
    rw [layer_eq hok l _ sc c hwf hm hpl1]
    cases hv : layerVerdict l c with
    | some e => rfl
    | none =>
      simp only []
      exact ih (layerScope l sc) (layerCall l c) (layerCall_wf l c hwf) (by rw [layerCall_method]; exact hm) hpl2

/-! ### Read transparency -/

/-- A Reader call (GetBlob, GetBlobRange, GetManifest, GetTag, ResolveBlob, ResolveManifest, ResolveTag)
on a name that every `select` layer allows to be read (as that layer sees the name) is answered, through
a stack of any depth, by `B`'s answer to the same call on the name with the `sub` prefixes prepended. -/
theorem read_transparent (hok : TablesOk = true) (stack : List (Layer ε)) (B : Backend ε ρ) (sc : Scope)
    (m : String) (hm : m ∈ Iface.readerMethods) (n : Bytes) (rest : List Bytes)
    (hwf : wf ⟨m, n :: rest⟩ = true) (hallow : Allowed .read stack n) :
    interp stack B sc ⟨m, n :: rest⟩ = B (stackScope stack sc) ⟨m, stackName stack n :: rest⟩ := by
  obtain ⟨hpl, hrf, hmut⟩ := readersOk_of hok m hm
  obtain ⟨_, hne, _⟩ := repoFirst_unfold m .read hrf
  rw [stack_behaviour hok stack B sc _ hwf hne (fun _ => hpl),
    verdict_none_of_allowed stack m .read hrf hmut n rest hwf hallow,
    stackCall_repoFirst stack m .read hrf n rest hwf]

/-- Over a registry that is any function from requests to answers: the answer is that function's, and
the registry saw exactly one call — that one. -/
theorem read_reaches_backend_once (hok : TablesOk = true) (stack : List (Layer ε)) (B : Scope → Call → ρ)
    (sc : Scope) (m : String) (hm : m ∈ Iface.readerMethods) (n : Bytes) (rest : List Bytes)
    (hwf : wf ⟨m, n :: rest⟩ = true) (hallow : Allowed .read stack n) :
    interp stack (base B) sc ⟨m, n :: rest⟩ =
      ⟨.returned (B (stackScope stack sc) ⟨m, stackName stack n :: rest⟩),
       [(stackScope stack sc, ⟨m, stackName stack n :: rest⟩)]⟩ := by
  rw [read_transparent hok stack (base B) sc m hm n rest hwf hallow]
  rfl

/-- Conversely, a Reader call that gets an answer of `B` at all got it for the mapped name: a read
through a stack never shows content of any other repository. -/
theorem read_answer_is_of_mapped_name (hok : TablesOk = true) (stack : List (Layer ε)) (B : Scope → Call → ρ)
    (sc : Scope) (m : String) (hm : m ∈ Iface.readerMethods) (n : Bytes) (rest : List Bytes)
    (hwf : wf ⟨m, n :: rest⟩ = true) (a : ρ)
    (h : (interp stack (base B) sc ⟨m, n :: rest⟩).res = .returned a) :
    a = B (stackScope stack sc) ⟨m, stackName stack n :: rest⟩ ∧
    (interp stack (base B) sc ⟨m, n :: rest⟩).calls = [(stackScope stack sc, ⟨m, stackName stack n :: rest⟩)] := by
  obtain ⟨hpl, hrf, _⟩ := readersOk_of hok m hm
  obtain ⟨_, hne, _⟩ := repoFirst_unfold m .read hrf
  rw [stack_behaviour hok stack (base B) sc _ hwf hne (fun _ => hpl)] at h ⊢
  cases hv : verdict stack ⟨m, n :: rest⟩ with
  | some e => simp [hv] at h
  | none =>
    simp only [hv, stackCall_repoFirst stack m .read hrf n rest hwf, base, Res.returned.injEq] at h ⊢
    exact ⟨h.symm, trivial⟩

/-! ### C01 through a stack: `Mem` at the bottom -/

section
variable (H : Bytes → Bytes) (dec : Bytes → Int)

/-- A successful `GetBlob` through any stack over a `Mem` state satisfying the digest invariant returns
exactly the bytes stored in the mapped repository under the digest asked for; they hash to that digest
and the descriptor names it; `Mem` saw one call, on the mapped name. -/
theorem stack_get_exact_blob (hok : TablesOk = true) (s : Mem.State) (hs : C01.Inv H s) (stack : List (Layer ε))
    (sc : Scope) (n d : Bytes) (desc : Mem.Desc) (data : Bytes)
    (h : (interp stack (base (memRead H dec s)) sc ⟨"GetBlob", [n, d]⟩).res = .returned (some (.okRead desc data))) :
    desc.digest = d ∧ H data = d ∧ desc.size = data.length ∧
    (∃ b, Mem.blobFor s (stackName stack n) d = .ok b ∧ data = b.data) ∧
    (interp stack (base (memRead H dec s)) sc ⟨"GetBlob", [n, d]⟩).calls =
      [(stackScope stack sc, ⟨"GetBlob", [stackName stack n, d]⟩)] := by
  obtain ⟨ha, hc⟩ := read_answer_is_of_mapped_name hok stack (memRead H dec s) sc "GetBlob" (by decide +kernel) n
    [d] (wf_of_arity _ _ 2 (by decide +kernel) rfl) _ h
  have hstep := step_of_memRead (op := .getBlob (stackName stack n) d) ha (by simp only [memRead])
  obtain ⟨_, h1, h2, h3⟩ := C01.get_exact_blob H hs hstep
  obtain ⟨_, b, hb, _, hd⟩ := Mem.step_getBlob_okRead H hstep
  exact ⟨h1, h2, h3, ⟨b, hb, hd⟩, hc⟩

theorem stack_get_exact_manifest (hok : TablesOk = true) (s : Mem.State) (hs : C01.Inv H s) (stack : List (Layer ε))
    (sc : Scope) (n d : Bytes) (desc : Mem.Desc) (data : Bytes)
    (h : (interp stack (base (memRead H dec s)) sc ⟨"GetManifest", [n, d]⟩).res = .returned (some (.okRead desc data))) :
    desc.digest = d ∧ H data = d ∧ desc.size = data.length ∧
    ∃ b, Mem.manifestFor s (stackName stack n) d = .ok b ∧ data = b.data := by
  obtain ⟨ha, _⟩ := read_answer_is_of_mapped_name hok stack (memRead H dec s) sc "GetManifest" (by decide +kernel) n
    [d] (wf_of_arity _ _ 2 (by decide +kernel) rfl) _ h
  have hstep := step_of_memRead (op := .getManifest (stackName stack n) d) ha (by simp only [memRead])
  obtain ⟨_, h1, h2, h3⟩ := C01.get_exact_manifest H hs hstep
  obtain ⟨_, b, hb, _, hd⟩ := Mem.step_getManifest_okRead H hstep
  exact ⟨h1, h2, h3, b, hb, hd⟩

/-- By tag: the bytes hash to the digest the descriptor names, and that is the digest the tag of the
mapped repository points at. -/
theorem stack_get_exact_tag (hok : TablesOk = true) (s : Mem.State) (hs : C01.Inv H s) (stack : List (Layer ε))
    (sc : Scope) (n t : Bytes) (desc : Mem.Desc) (data : Bytes)
    (h : (interp stack (base (memRead H dec s)) sc ⟨"GetTag", [n, t]⟩).res = .returned (some (.okRead desc data))) :
    H data = desc.digest ∧ desc.size = data.length ∧
    ∃ rp td, Mem.getRepo s (stackName stack n) = some rp ∧ Mem.alookup t rp.tags = some td ∧
      td.digest = desc.digest := by
  obtain ⟨ha, _⟩ := read_answer_is_of_mapped_name hok stack (memRead H dec s) sc "GetTag" (by decide +kernel) n
    [t] (wf_of_arity _ _ 2 (by decide +kernel) rfl) _ h
  have hstep := step_of_memRead (op := .getTag (stackName stack n) t) ha (by simp only [memRead])
  obtain ⟨_, h1, h2, h3⟩ := C01.get_exact_tag H hs hstep
  exact ⟨h1, h2, h3⟩

/-- A ranged read: the descriptor still describes the whole blob of the mapped repository, the data is
the requested slice of it. -/
theorem stack_range_exact (hok : TablesOk = true) (s : Mem.State) (hs : C01.Inv H s) (stack : List (Layer ε))
    (sc : Scope) (n d o0 o1 : Bytes) (desc : Mem.Desc) (data : Bytes)
    (h : (interp stack (base (memRead H dec s)) sc ⟨"GetBlobRange", [n, d, o0, o1]⟩).res =
      .returned (some (.okRead desc data))) :
    ∃ b, Mem.blobFor s (stackName stack n) d = .ok b ∧ desc = Mem.descOf H b ∧ desc.digest = d ∧
      desc.size = b.data.length ∧ 0 ≤ dec o0 ∧
      data = (b.data.drop (dec o0).toNat).take
        ((if dec o1 < 0 ∨ dec o1 > b.data.length then (b.data.length : Int) else dec o1) - dec o0).toNat := by
  obtain ⟨ha, _⟩ := read_answer_is_of_mapped_name hok stack (memRead H dec s) sc "GetBlobRange" (by decide +kernel) n
    [d, o0, o1] (wf_of_arity _ _ 4 (by decide +kernel) rfl) _ h
  have hstep := step_of_memRead (op := .getBlobRange (stackName stack n) d (dec o0) (dec o1)) ha (by simp only [memRead])
  exact (C01.range_exact H hs hstep).2

end

/-! ### Confinement -/

/-- A call (of any method whose repository argument is its first: all but `MountBlob` and
`Repositories`) on a name that some `select` layer refuses for the method's access kind — whatever
layers sit above or below that layer, and whatever `B` is — is answered with a wrapper's own error (a
policy's refusal, or `ReadOnly`'s "unsupported" if such a layer sits above and refuses first), and no call
is made on `B`. -/
theorem refused_never_reaches_backend (hok : TablesOk = true) (stack : List (Layer ε)) (B : Backend ε ρ) (sc : Scope)
    (m : String) (k : Kind) (hrf : repoFirst m k = true) (n : Bytes) (rest : List Bytes)
    (hwf : wf ⟨m, n :: rest⟩ = true) (hpl : hasDebug stack = true → plainMethod m = true)
    (href : Refused k stack n) :
    ∃ e, interp stack B sc ⟨m, n :: rest⟩ = ⟨.rejected e, []⟩ ∧ errorsOf stack e := by
  obtain ⟨_, hne, _⟩ := repoFirst_unfold m k hrf
  have hv := verdict_isSome_of_refused stack m k hrf n rest hwf href
  cases hv' : verdict stack ⟨m, n :: rest⟩ with
  | none => simp [hv'] at hv
  | some e =>
    refine ⟨e, ?_, verdict_origin stack _ e hv'⟩
    rw [stack_behaviour hok stack B sc _ hwf hne hpl, hv']

/-- In particular the answer does not depend on what is at the bottom. -/
theorem refused_independent_of_backend (hok : TablesOk = true) (stack : List (Layer ε)) (B₁ B₂ : Backend ε ρ)
    (sc : Scope) (m : String) (k : Kind) (hrf : repoFirst m k = true) (n : Bytes) (rest : List Bytes)
    (hwf : wf ⟨m, n :: rest⟩ = true) (hpl : hasDebug stack = true → plainMethod m = true)
    (href : Refused k stack n) :
    interp stack B₁ sc ⟨m, n :: rest⟩ = interp stack B₂ sc ⟨m, n :: rest⟩ := by
  obtain ⟨_, hne, _⟩ := repoFirst_unfold m k hrf
  rw [stack_behaviour hok stack B₁ sc _ hwf hne hpl, stack_behaviour hok stack B₂ sc _ hwf hne hpl]
  have hv := verdict_isSome_of_refused stack m k hrf n rest hwf href
  cases hv' : verdict stack ⟨m, n :: rest⟩ with
  | none => simp [hv'] at hv
  | some e => rfl

/-- Below a `readOnly` layer nothing ever sees a Writer or Deleter call, wherever in the stack the
layer sits. -/
theorem mutator_never_passes_readOnly (hok : TablesOk = true) (stack : List (Layer ε)) (B : Backend ε ρ) (sc : Scope)
    (c : Call) (hwf : wf c = true) (hpl : hasDebug stack = true → plainMethod c.method = true)
    (hmut : WrapRO.isMutatorMethod c.method = true) (u : ε) (hro : Layer.readOnly u ∈ stack) :
    ∃ e, interp stack B sc c = ⟨.rejected e, []⟩ ∧ errorsOf stack e := by
  have hne : c.method ≠ "Repositories" := by
    intro h; rw [h] at hmut; revert hmut; decide
  have hv : ∃ e, verdict stack c = some e := by
    clear hpl
    induction stack generalizing c with
    | nil => simp at hro
    | cons l ls ih =>
      simp only [verdict]
      cases hl : layerVerdict l c with
      | some e => exact ⟨e, rfl⟩
      | none =>
        have hls : Layer.readOnly u ∈ ls := by
          rcases List.mem_cons.mp hro with h | h
          · subst h; simp [layerVerdict, hmut] at hl
          · exact h
        exact ih (layerCall l c) (layerCall_wf l c hwf) (by rw [layerCall_method]; exact hmut) hls
          (by rw [layerCall_method]; exact hne)
  obtain ⟨e, he⟩ := hv
  exact ⟨e, by rw [stack_behaviour hok stack B sc c hwf hne hpl, he], verdict_origin stack c e he⟩

/-- The repository a name stands for at the bottom: nested views are one view of the joined prefix
(C13 `sub_sub_name`), whatever other layers sit in between. -/
theorem stack_name_joined (stack : List (Layer ε)) (n : Bytes) :
    stackName stack n = if prefixes stack = [] then n else Sub.mapName (joinPrefixes (prefixes stack)) n := by
  induction stack generalizing n with
  | nil => rfl
  | cons l ls ih =>
    cases l with
    | sub p =>
      by_cases hp : p = []
      · subst hp; exact ih n
      · simp only [stackName, layerName, prefixes, hp, if_false, ih, reduceCtorEq]
        cases prefixes ls with
        | nil => rfl
        | cons q qs => exact Props.C13.sub_sub_name _ _ _
    | _ => exact ih n

/-- So whatever name is asked for — empty, dots, dot-dot segments, slashes — a stack with a `sub` layer
only ever addresses repositories textually under the joined prefix (C13 `sub_confined`). -/
theorem stack_name_confined (stack : List (Layer ε)) (n : Bytes) (h : prefixes stack ≠ []) :
    (joinPrefixes (prefixes stack) ++ [47]) <+: stackName stack n := by
  rw [stack_name_joined, if_neg h]
  exact Props.C13.sub_confined _ _

/-! ### Repository listings (for C05) -/

/-- Through a stack whose `select` layers allow listing, an error-free listing of the registry at the
bottom (asked with the start point and the scopes mapped by the `sub` layers) shows as the names of it
that every `select` layer allows to be read and every `sub` layer finds under its prefix, stripped. -/
theorem stack_listing (stack : List (Layer ε)) (L : Lister ε) (sc : Scope) (start : Bytes) (ns : List Bytes)
    (hallow : ListAllowed stack) (hL : L (stackScope stack sc) (stackName stack start) = ns.map .item) :
    interpList stack L sc start = (stackView stack ns).map .item := by
  induction stack generalizing sc start with
  | nil => exact hL
  | cons l ls ih =>
    cases l with
    | debug =>
      simp only [interpList, layerList, stackView, layerView]
      rw [ih sc start hallow hL, debugList_items]
    | select chk =>
      simp only [ListAllowed] at hallow
      simp only [interpList, layerList, stackView, layerView, hallow.1]
      rw [ih sc start hallow.2 hL, Props.C12.visible_is_filter]
    | sub p =>
      by_cases hp : p = []
      · simp only [interpList, layerList, stackView, layerView, hp, if_true]
        exact ih sc start hallow (by simpa [stackScope, stackName, layerScope, layerName, hp] using hL)
      · simp only [interpList, layerList, stackView, layerView, hp, if_false]
        rw [ih (Sub.mapScopes p sc) (Sub.mapName p start) hallow
          (by simpa [stackScope, stackName, layerScope, layerName, hp] using hL), Props.C13.sub_visible_names]
    | readOnly e =>
      simp only [interpList, layerList, stackView, layerView]
      exact ih sc start hallow hL

/-- The names that show at the top are exactly those whose repository is in the bottom listing and
which every `select` layer allows to be read (C12 `visible_is_filter`, C13 `sub_strip_iff`). -/
theorem stack_listing_mem (stack : List (Layer ε)) (ns : List Bytes) (x : Bytes) :
    x ∈ stackView stack ns ↔ stackName stack x ∈ ns ∧ Allowed .read stack x := by
  induction stack generalizing x with
  | nil => simp [stackView, stackName, Allowed]
  | cons l ls ih =>
    cases l with
    | select chk =>
      simp only [stackView, layerView, List.mem_filter, ih, stackName, layerName, Allowed, Option.isNone_iff_eq_none]
      constructor
      · rintro ⟨⟨h1, h2⟩, h3⟩; exact ⟨h1, h3, h2⟩
      · rintro ⟨h1, h3, h2⟩; exact ⟨⟨h1, h2⟩, h3⟩
    | sub p =>
      by_cases hp : p = []
      · simp [stackView, layerView, stackName, layerName, Allowed, hp, ih]
      · simp only [stackView, layerView, hp, if_false, List.mem_filterMap, stackName, layerName, Allowed]
        constructor
        · rintro ⟨y, hy, hs⟩
          rw [(Props.C13.sub_strip_iff p y x).mp hs] at hy
          exact (ih _).mp hy
        · intro h
          exact ⟨Sub.mapName p x, (ih _).mpr h, Props.C13.sub_strip_map p x⟩
    | _ => simp [stackView, layerView, stackName, layerName, Allowed, ih]

/-- The listing at the top is still strictly ascending (C13 `sub_order`), hence free of duplicates. -/
theorem stack_listing_sorted (stack : List (Layer ε)) (ns : List Bytes)
    (h : ns.Pairwise fun a b => compare a b = .lt) :
    (stackView stack ns).Pairwise fun a b => compare a b = .lt := by
  induction stack with
  | nil => exact h
  | cons l ls ih =>
    cases l with
    | select chk => exact ih.sublist List.filter_sublist
    | sub p =>
      by_cases hp : p = []
      · simpa [stackView, layerView, hp] using ih
      · simp only [stackView, layerView, hp, if_false]
        refine List.Pairwise.filterMap _ ?_ ih
        intro a a' hlt b hb b' hb'
        rw [(Props.C13.sub_strip_iff p a b).mp hb, (Props.C13.sub_strip_iff p a' b').mp hb',
          Props.C13.sub_order] at hlt
        exact hlt
    | _ => exact ih

theorem stack_listing_nodup (stack : List (Layer ε)) (ns : List Bytes)
    (h : ns.Pairwise fun a b => compare a b = .lt) : (stackView stack ns).Nodup :=
  Mem.strictAsc_nodup (stack_listing_sorted stack ns h)

/-- When a `select` layer refuses listing, the listing is that one error and the layers below are not
asked (C12 `listing_rejected`). -/
theorem stack_listing_refused (chk : Policy ε) (ls : List (Layer ε)) (L₁ L₂ : Lister ε) (sc : Scope)
    (start : Bytes) (e : ε) (h : chk (strBytes "*") .list = some e) :
    interpList (.select chk :: ls) L₁ sc start = [.error e] ∧
    interpList (.select chk :: ls) L₁ sc start = interpList (.select chk :: ls) L₂ sc start := by
  simp [interpList, layerList, h]

/-! ### The adapters agree with the wrappers' own models -/

theorem select_adapter_eq (hok : TablesOk = true) (chk : Policy ε) (next : Backend ε ρ) (sc : Scope) (c : Call)
    (hwf : wf c = true) (hm : c.method ≠ "Repositories") :
    ∃ r, selRow c.method = some r ∧
      ((Select.call chk (next sc) (bindArgs r.params c.args) r = ⟨.returned (next sc c), [c]⟩ ∧
          selectLayer chk next sc c = next sc c) ∨
       (∃ e, Select.call chk (next sc) (bindArgs r.params c.args) r = ⟨.rejected e, []⟩ ∧
          selectLayer chk next sc c = ⟨.rejected e, []⟩)) :=
  Stack.select_adapter_eq hok chk next sc c hwf hm

theorem sub_adapter_eq (hok : TablesOk = true) (p : Bytes) (next : Backend ε ρ) (sc : Scope) (c : Call)
    (hwf : wf c = true) (hm : c.method ≠ "Repositories") :
    ∃ r, subRow c.method = some r ∧
      Sub.call p (bindArgs r.params c.args) sc r = .ok (subCall p c) (Sub.mapScopes p sc) ∧
      subLayer p next sc c = next (Sub.mapScopes p sc) (subCall p c) :=
  Stack.sub_adapter_eq hok p next sc c hwf hm

theorem debug_adapter_eq (hok : TablesOk = true) (next : Backend ε ρ) (sc : Scope) (c : Call)
    (hwf : wf c = true) (hpl : plainMethod c.method = true) :
    ∃ r o, dbgRow c.method = some r ∧
      Iter.call (V := Bytes) (E := Out ε ρ)
        (fun dc => ⟨none, some (next (if dc.ctx then sc else Scope.empty) ⟨dc.method, dc.args⟩)⟩)
        (bindArgs r.params c.args) r = some o ∧
      Iter.Transparent ⟨"r.r", c.method, true, c.args⟩ ⟨none, some (next sc c)⟩ o ∧
      debugLayer next sc c = next sc c :=
  Stack.debug_adapter_eq hok next sc c hwf hpl

theorem readOnly_adapter_eq (hok : TablesOk = true) (e : ε) (next : Backend ε ρ) (sc : Scope) (c : Call)
    (hwf : wf c = true) :
    ∃ op, opOf c.method = some op ∧ WrapRO.methodOf op = some c.method ∧
      ∀ (S : Type) (B : WrapRO.Backend S) (s : S),
        (WrapRO.roStep B s op = ((B s op).1, some (B s op).2, [op]) ∧ roLayer e next sc c = next sc c) ∨
        (WrapRO.roStep B s op = (s, some (.err "UNSUPPORTED"), []) ∧
          roLayer e next sc c = ⟨.rejected e, []⟩) :=
  Stack.readOnly_adapter_eq hok e next sc c hwf

/-- Positional argument passing: binding a row's parameters to the arguments and reading them back
in order gives the arguments (so a row that passes "its parameters in order" passes the call's arguments). -/
theorem bind_args_roundtrip (ps : List String) (args : List Bytes) (hnd : ps.Nodup) (hlen : ps.length = args.length) :
    ps.map (bindArgs ps args) = args :=
  map_bindArgs ps args hnd hlen

/-! ### Obligations on the regenerated tables -/

/-- For each of the 18 methods of `ociregistry.Interface`: select.go, sub.go and debug.go each have a
well-formed row (C12 / C13 / C05D `RowOk`) with distinct parameter names and the interface's arity; the
seven Reader methods are handed back as they are by the debug wrapper, have the repository as their first
and only repository argument, checked for read access, and are let through by `ReadOnly`; `Sub`'s `repo`
and `mapScopes` and `ReadOnly`'s embedding are as modelled (C13 `CodeOk`, C14W `ReadOnlyOk`). -/
theorem generated_stack_tables_ok : TablesOk = true := by
  have h : (Iface.methodParams.all MethodOk && ReadersOk) = true := by decide +kernel
  simp only [TablesOk, h, C13.generated_code_ok, C14W.generated_readonly_ok, Bool.and_self]

/-- The methods whose result the debug wrapper hands back as it is (all but the two chunked uploads,
whose writer it wraps, and the three listings, whose iterator it wraps). -/
theorem generated_plain_methods :
    (Iface.methodParams.map (·.1)).filter plainMethod =
      ["PushBlob", "MountBlob", "PushManifest", "GetBlob", "GetBlobRange", "GetManifest", "GetTag",
       "ResolveBlob", "ResolveManifest", "ResolveTag", "DeleteBlob", "DeleteManifest", "DeleteTag"] := by decide +kernel

/-- The methods whose only repository argument is the first one, by access kind. -/
theorem generated_repo_first :
    (Iface.methodParams.map (·.1)).filter (repoFirst · .read) = Iface.readerMethods ∧
    (Iface.methodParams.map (·.1)).filter (repoFirst · .write) =
      ["PushBlob", "PushBlobChunked", "PushBlobChunkedResume", "PushManifest"] ∧
    (Iface.methodParams.map (·.1)).filter (repoFirst · .delete) = Iface.deleterMethods ∧
    (Iface.methodParams.map (·.1)).filter (repoFirst · .list) = ["Tags", "Referrers"] := by decide +kernel

/-- The property on the regenerated tables: through any stack of debug / select / sub / readOnly
layers over any registry, an allowed Reader call is the registry's answer for the mapped name, and a call
on a refused name never reaches the registry. -/
theorem CSTK_holds (stack : List (Layer ε)) (B : Backend ε ρ) (sc : Scope) (m : String) (n : Bytes) (rest : List Bytes)
    (hwf : wf ⟨m, n :: rest⟩ = true) :
    (m ∈ Iface.readerMethods → Allowed .read stack n →
      interp stack B sc ⟨m, n :: rest⟩ = B (stackScope stack sc) ⟨m, stackName stack n :: rest⟩) ∧
    (∀ k, repoFirst m k = true → (hasDebug stack = true → plainMethod m = true) → Refused k stack n →
      ∃ e, interp stack B sc ⟨m, n :: rest⟩ = ⟨.rejected e, []⟩ ∧ errorsOf stack e) :=
  ⟨fun hm hallow => read_transparent generated_stack_tables_ok stack B sc m hm n rest hwf hallow,
   fun k hrf hpl href => refused_never_reaches_backend generated_stack_tables_ok stack B sc m k hrf n rest hwf hpl href⟩

/-! ### Non-vacuity: the stack `[debug, sub "p", select allow]`

`allow` admits the one repository `p/a`; the `select` layer sits below the `sub` layer, so it sees the
names with the prefix on. -/

def exAllow : Bytes → Bool := fun n => n == strBytes "p/a"

def exStack : List (Layer String) :=
  [.debug, .sub (strBytes "p"), .select (Select.selectPolicy exAllow)]

/-- a registry that answers every call with the name it was asked about -/
def exB : Scope → Call → Bytes := fun _ c => c.args.headD []

def exDigest : Bytes := strBytes "sha256:x"

/-- hypotheses of `stack_behaviour` / `read_transparent` / `read_reaches_backend_once` -/
example : wf ⟨"GetBlob", [strBytes "a", exDigest]⟩ = true ∧ "GetBlob" ∈ Iface.readerMethods ∧
    "GetBlob" ≠ "Repositories" ∧ (hasDebug exStack = true → plainMethod "GetBlob" = true) := by decide +kernel
example : Allowed .read exStack (strBytes "a") := ⟨by decide +kernel, trivial⟩

/-- what those theorems give on this stack, computed: the view's `a` is the registry's `p/a`, one call -/
example : interp exStack (base exB) Scope.empty ⟨"GetBlob", [strBytes "a", exDigest]⟩ =
    ⟨.returned (strBytes "p/a"), [(Scope.empty, ⟨"GetBlob", [strBytes "p/a", exDigest]⟩)]⟩ := by decide +kernel
example : stackName exStack (strBytes "a") = strBytes "p/a" ∧ verdict exStack ⟨"GetBlob", [strBytes "a", exDigest]⟩ = none := by
  decide +kernel

/-- hypotheses of `refused_never_reaches_backend` / `refused_independent_of_backend`: `b` is `p/b` below
the `sub` layer, which `allow` does not admit — for reading and for writing -/
example : Refused .read exStack (strBytes "b") := Or.inl (by decide +kernel)
example : Refused .write exStack (strBytes "b") := Or.inl (by decide +kernel)
example : repoFirst "GetBlob" .read = true ∧ repoFirst "PushManifest" .write = true ∧
    wf ⟨"PushManifest", [strBytes "b", [], [], []]⟩ = true ∧ plainMethod "PushManifest" = true := by decide +kernel
example : interp exStack (base exB) Scope.empty ⟨"GetBlob", [strBytes "b", exDigest]⟩ = ⟨.rejected "NAME_UNKNOWN", []⟩ ∧
    interp exStack (base exB) Scope.empty ⟨"PushManifest", [strBytes "b", [], [], []]⟩ = ⟨.rejected "DENIED", []⟩ := by
  decide +kernel
example : errorsOf exStack "NAME_UNKNOWN" := Or.inl ⟨strBytes "p/b", .read, by decide +kernel⟩

/-- hypotheses of `mutator_never_passes_readOnly`: the same stack with a `ReadOnly` layer at the bottom -/
example : WrapRO.isMutatorMethod "DeleteTag" = true ∧ wf ⟨"DeleteTag", [strBytes "a", [116]]⟩ = true ∧
    Layer.readOnly "UNSUPPORTED" ∈ (exStack ++ [.readOnly "UNSUPPORTED"]) ∧
    interp (exStack ++ [.readOnly "UNSUPPORTED"]) (base exB) Scope.empty ⟨"DeleteTag", [strBytes "a", [116]]⟩
      = ⟨.rejected "UNSUPPORTED", []⟩ := by
  refine ⟨by decide +kernel, by decide +kernel, by simp [exStack], by decide +kernel⟩

/-- hypothesis of `stack_name_confined`; two nested views join -/
example : prefixes exStack ≠ [] := by decide +kernel
example : stackName ([.sub (strBytes "b"), .debug, .sub (strBytes "a")] : List (Layer String)) (strBytes "x") = strBytes "a/b/x" ∧
    joinPrefixes [strBytes "b", strBytes "a"] = strBytes "a/b" := by decide +kernel

/-- a non-empty, limited scope in the caller's context reaches the registry rewritten by the `sub` layer -/
example :
    (interp exStack (base exB) (Scope.newScope [(Scope.tyRepository, strBytes "a", Scope.actPull)])
      ⟨"GetBlob", [strBytes "a", exDigest]⟩).calls.map (fun x => Scope.iter x.1)
      = [[(Scope.tyRepository, strBytes "p/a", Scope.actPull)]] := by decide +kernel

/-! #### `Mem` at the bottom -/

/-- one blob pushed into repository `p/a` (toy hash of C01), and one manifest tagged `t` -/
def exState : Mem.State :=
  (Mem.run C01.toyH (Mem.init false)
    [.pushBlob (strBytes "p/a") ⟨C01.mtX, C01.toyH C01.data1, 3⟩ C01.data1,
     .pushManifest (strBytes "p/a") [116] [7, 8] C01.mtX .opaque]).1

/-- hypotheses of `stack_get_exact_blob`: the invariant holds, and the read through the stack succeeds -/
example : C01.Inv C01.toyH exState := C01.inv_run C01.toyH _ _ (C01.inv_init C01.toyH false)
example : (interp exStack (base (memRead C01.toyH (fun _ => 0) exState)) Scope.empty
      ⟨"GetBlob", [strBytes "a", C01.toyH C01.data1]⟩).res
    = .returned (some (.okRead ⟨C01.mtX, C01.toyH C01.data1, 3⟩ C01.data1)) := by decide +kernel
/-- the same digest asked of a repository the policy hides is not served -/
example : (interp exStack (base (memRead C01.toyH (fun _ => 0) exState)) Scope.empty
      ⟨"GetBlob", [strBytes "b", C01.toyH C01.data1]⟩) = ⟨.rejected "NAME_UNKNOWN", []⟩ := by decide +kernel
/-- a ranged read through the stack (offsets decoded as 1 and -1) -/
example : (interp exStack (base (memRead C01.toyH (fun b => if b = [49] then 1 else -1) exState)) Scope.empty
      ⟨"GetBlobRange", [strBytes "a", C01.toyH C01.data1, [49], []]⟩).res
    = .returned (some (.okRead ⟨C01.mtX, C01.toyH C01.data1, 3⟩ [2, 3])) := by decide +kernel

/-- hypotheses of `stack_get_exact_manifest` / `stack_get_exact_tag`: by digest and by tag -/
example : (interp exStack (base (memRead C01.toyH (fun _ => 0) exState)) Scope.empty
      ⟨"GetManifest", [strBytes "a", C01.toyH [7, 8]]⟩).res
    = .returned (some (.okRead ⟨C01.mtX, C01.toyH [7, 8], 2⟩ [7, 8])) ∧
    (interp exStack (base (memRead C01.toyH (fun _ => 0) exState)) Scope.empty ⟨"GetTag", [strBytes "a", [116]]⟩).res
    = .returned (some (.okRead ⟨C01.mtX, C01.toyH [7, 8], 2⟩ [7, 8])) := by decide +kernel

/-- hypotheses of `bind_args_roundtrip`, on the parameter names of select.go's `PushBlob` row -/
example : ["repo", "desc", "rd"].Nodup ∧
    ["repo", "desc", "rd"].map (bindArgs ["repo", "desc", "rd"] [[1], [2], [3]]) = [[1], [2], [3]] := by decide +kernel

/-! #### Listings -/

def exNames : List Bytes := [strBytes "p/a", strBytes "p/b", strBytes "pp/a", strBytes "q/a"]

/-- a lister over `exNames`: the names strictly after the start point -/
def exL : Lister String := fun _ start => (exNames.filter fun x => compare start x == .lt).map .item

/-- hypotheses of `stack_listing` and `stack_listing_sorted` -/
example : ListAllowed exStack := ⟨by decide +kernel, trivial⟩
example : exL (stackScope exStack Scope.empty) (stackName exStack []) = exNames.map .item := by decide +kernel
example : exNames.Pairwise fun a b => compare a b = .lt := by decide +kernel
/-- the listing through the stack: only `p/a` is under the prefix and allowed, and it shows as `a` -/
example : interpList exStack exL Scope.empty [] = [.item (strBytes "a")] ∧
    stackView exStack exNames = [strBytes "a"] := by decide +kernel
/-- a `select` layer whose policy refuses listing (the pseudo-name "*") answers with that one error -/
example : interpList [Layer.select (fun _ _ => some "DENIED")] exL Scope.empty [] = [.error "DENIED"] := by decide +kernel
/-- a backend error ends the listing through every layer -/
example : interpList exStack (fun _ _ => [.item (strBytes "p/a"), .error "E", .item (strBytes "p/a")]) Scope.empty []
    = [.item (strBytes "a"), .error "E"] := by decide +kernel

end OciModel.Props.CSTK
