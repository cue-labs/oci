/-
C10T (part of C10 and C11): the token server's answer is a DOCUMENT; what the transport makes of it
is decided by a JSON decoder (`doTokenRequest`: `json.Unmarshal` into `wireToken`) and by the tail of
`acquireAccessToken`. Both are part of the model (`TokenDecode.lean` on top of `Json.lean`); these are
their properties, for ALL byte strings / value trees / decoded structs.

The correspondence with `encoding/json` and with the real transport (`ociauth.NewStdTransport` behind a
scripted registry and token server) is checked by differential execution (`harness/c10t.go`); the
theorems below are about the model. `expires_in` is an `Int` here: Go accepts negative values, and the
code multiplies in `int64` nanoseconds — see "Lifetimes" for what that does.
The code clamps the number of seconds before it multiplies (`clampSeconds`, fix F41), so the product does
not wrap; what the unclamped product did is stated at the end of "Lifetimes" (`…_before_F41`).
-/
import OciModel.TokenDecodeLemmas
import OciModel.Generated.WireToken
namespace OciModel.Props.C10T
open OciModel OciModel.Json OciModel.ManifestDecode OciModel.TokenDecode

/-! ## Totality -/

/-- The decoder is a total function (structural recursion throughout: no fuel, no partiality, no panic
outcome): every byte string yields a struct or one of two errors. -/
theorem decoder_total (b : Bytes) :
    (∃ w, decodeToken b = .ok w) ∨ decodeToken b = .error .syntax ∨ decodeToken b = .error .type := by
  cases h : decodeToken b with
  | ok w => exact Or.inl ⟨w, rfl⟩
  | error e => cases e <;> simp

/-- The consumer is total too: a token for immediate use, or the one error. -/
theorem consumer_total (st : RegSt) (w : WireToken) (now : Int) :
    (∃ t, (consume st w now).2 = .ok t) ∨ (consume st w now).2 = .error .noAccessToken := by
  unfold consume
  cases h : useToken w now with
  | ok u => exact Or.inl ⟨u.access, rfl⟩
  | error e => cases e; exact Or.inr rfl

/-- An answer that does not decode changes nothing (the error is `doTokenRequest`'s). -/
theorem undecodable_answer_changes_nothing (st : RegSt) (body : Bytes) (now : Int) (e : DecodeErr)
    (h : decodeToken body = .error e) : acquireFromBody st body now = none := by
  simp [acquireFromBody, h]

example : decodeToken (strBytes "{\"token\":\"T\"") = .error .syntax ∧ decodeToken (strBytes "[{\"token\":\"T\"}]") = .error .type ∧
    decodeToken [] = .error .syntax ∧ decodeToken [0xEF, 0xBB, 0xBF, 0x7B, 0x7D] = .error .syntax := by decide +kernel

/-! ## Which member selects which field -/

/-- The exact name, any other case, and the two non-ASCII letters that fold to ASCII ones (U+017F, U+212A). -/
example : lookupField tokenTable (strBytes "token") = some .token ∧ lookupField tokenTable (strBytes "TOKEN") = some .token ∧
    lookupField tokenTable (strBytes "Access_Token") = some .accessToken ∧
    lookupField tokenTable (strBytes "acceſſ_toKen") = some .accessToken ∧
    lookupField tokenTable (strBytes "expireſ_IN") = some .expiresIn ∧
    lookupField tokenTable (strBytes "REFRESH_token") = some .refreshToken := by decide +kernel

/-- Members whose name selects no field (exactly or under case folding) are ignored, whatever their
value — it is not even type-checked. -/
theorem unknown_members_ignored (l₁ l₂ : List (Bytes × JVal)) (k : Bytes) (v : JVal)
    (hk : lookupField tokenTable k = none) :
    decodeVal (.obj (l₁ ++ (k, v) :: l₂)) = decodeVal (.obj (l₁ ++ l₂)) :=
  foldlM_skip tokStep (k, v) (fun w => by simp only [tokStep, hk]) l₁ l₂ {}

example : lookupField tokenTable (strBytes "issued_at") = none ∧ lookupField tokenTable (strBytes "tok") = none ∧
    lookupField tokenTable (strBytes "token ") = none ∧ lookupField tokenTable (strBytes "accesstoken") = none ∧
    lookupField tokenTable (strBytes "access-token") = none ∧ lookupField tokenTable (strBytes "expires") = none := by decide +kernel

example : decodeToken (strBytes "{\"issued_at\":{\"token\":1},\"token\":\"T\",\"expires\":\"soon\"}") =
    .ok { token := strBytes "T" } := by decide +kernel

instance : DecidableRel (Indep tokenTable) := fun _ _ => inferInstanceAs (Decidable (_ ∨ _))

/-- Member order does not matter, as long as no two members select the same field (members that select
no field may repeat). -/
theorem member_order_irrelevant {l₁ l₂ : List (Bytes × JVal)} (p : l₁.Perm l₂) (hp : l₁.Pairwise (Indep tokenTable)) :
    decodeVal (.obj l₁) = decodeVal (.obj l₂) :=
  foldlM_perm_indep tokenTable tokStep (fun kv h w => by simp only [tokStep, h]) tokStep_comm p hp {}

example : [(strBytes "expires_in", JVal.num (strBytes "300")), (strBytes "x", .null), (strBytes "Token", .str (strBytes "T")),
      (strBytes "x", .bool true), (strBytes "refresh_token", .str [])].Pairwise (Indep tokenTable) := by decide +kernel

/-- Without the condition of `member_order_irrelevant` order DOES matter: members are decoded in document order into one struct, so
the LAST member that selects a field wins, whatever its spelling. -/
theorem repeated_member_decoded_into_the_same_struct (l : List (Bytes × JVal)) (kv : Bytes × JVal) :
    decodeVal (.obj (l ++ [kv])) = (decodeVal (.obj l)).bind (tokStep · kv) := by
  simp only [decodeVal, List.foldlM_append, List.foldlM_cons, List.foldlM_nil]
  cases List.foldlM tokStep {} l <;> simp

theorem last_token_member_wins (l : List (Bytes × JVal)) (k s : Bytes) (w : WireToken)
    (hk : lookupField tokenTable k = some .token) (h : decodeVal (.obj l) = some w) :
    decodeVal (.obj (l ++ [(k, .str s)])) = some { w with token := s } := by
  simp [repeated_member_decoded_into_the_same_struct, h, tokStep, hk, setStr]

theorem last_expires_in_member_wins (l : List (Bytes × JVal)) (k : Bytes) (n : Int) (w : WireToken)
    (hk : lookupField tokenTable k = some .expiresIn) (h : decodeVal (.obj l) = some w)
    (h1 : -9223372036854775808 ≤ n) (h2 : n ≤ 9223372036854775807) :
    decodeVal (.obj (l ++ [(k, .num (intText n))])) = some { w with expiresIn := n } := by
  simp [repeated_member_decoded_into_the_same_struct, h, tokStep, hk, setInt, parseInt64_intText n h1 h2]

/-- The hypotheses of the two statements above are satisfiable. -/
example : lookupField tokenTable (strBytes "TOKEN") = some .token ∧ lookupField tokenTable (strBytes "Expires_In") = some .expiresIn ∧
    decodeVal (.obj [(strBytes "token", .str (strBytes "b")), (strBytes "expires_in", .num (strBytes "3600"))]) =
      some { token := strBytes "b", expiresIn := 3600 } := by decide +kernel

example : decodeToken (strBytes "{\"Token\":\"a\",\"token\":\"b\",\"TOKEN\":\"c\"}") = .ok { token := strBytes "c" } ∧
    decodeToken (strBytes "{\"token\":\"b\",\"Token\":\"a\"}") = .ok { token := strBytes "a" } ∧
    decodeToken (strBytes "{\"expires_in\":3600,\"expires_in\":-1}") = .ok { expiresIn := -1 } := by decide +kernel

/-- `null` leaves a field as it is (it does NOT reset it), under every name. -/
theorem null_leaves_the_field (w : WireToken) (k : Bytes) : tokStep w (k, .null) = some w := by
  unfold tokStep
  cases lookupField tokenTable k with
  | none => rfl
  | some f => cases f <;> rfl

/-- The document `null` leaves the whole struct zero, without an error. -/
example : decodeToken (strBytes "null") = .ok {} ∧
    decodeToken (strBytes "{\"token\":\"T\",\"token\":null,\"expires_in\":7,\"Expires_In\":null}") =
      .ok { token := strBytes "T", expiresIn := 7 } := by decide +kernel

/-! ## Type errors -/

/-- A string field takes a JSON string (or `null`) and nothing else: any other value there fails the
whole answer, wherever the member stands and whatever else the document holds. -/
theorem string_field_takes_only_strings (l₁ l₂ : List (Bytes × JVal)) (k : Bytes) (v : JVal) (f : TokField)
    (hk : lookupField tokenTable k = some f) (hf : f ≠ .expiresIn) (hs : ∀ s, v ≠ .str s) (hn : v ≠ .null) :
    decodeVal (.obj (l₁ ++ (k, v) :: l₂)) = none := by
  apply decodeVal_bad_member
  intro w
  unfold tokStep
  simp only [hk]
  cases f <;> first | exact absurd rfl hf | skip
  all_goals (cases v <;> first | exact absurd rfl hn | exact absurd rfl (hs _) | rfl)

example : decodeToken (strBytes "{\"token\":\"T\",\"access_token\":7}") = .error .type ∧
    decodeToken (strBytes "{\"refresh_token\":[\"R\"],\"token\":\"T\"}") = .error .type ∧
    decodeToken (strBytes "{\"token\":{\"token\":\"T\"}}") = .error .type := by decide +kernel

/-- `expires_in` takes a JSON number (or `null`) and nothing else — `"60"` is an error. -/
theorem expires_in_takes_only_numbers (l₁ l₂ : List (Bytes × JVal)) (k : Bytes) (v : JVal)
    (hk : lookupField tokenTable k = some .expiresIn) (hs : ∀ t, v ≠ .num t) (hn : v ≠ .null) :
    decodeVal (.obj (l₁ ++ (k, v) :: l₂)) = none := by
  apply decodeVal_bad_member
  intro w
  unfold tokStep
  simp only [hk]
  cases v <;> first | exact absurd rfl hn | exact absurd rfl (hs _) | rfl

/-- Of the numbers, `expires_in` takes only those whose text `strconv.ParseInt` takes as a 64-bit integer. -/
theorem expires_in_takes_only_int64_literals (l₁ l₂ : List (Bytes × JVal)) (k t : Bytes)
    (hk : lookupField tokenTable k = some .expiresIn) (ht : parseInt64 t = none) :
    decodeVal (.obj (l₁ ++ (k, .num t) :: l₂)) = none := by
  apply decodeVal_bad_member
  intro w
  simp [tokStep, hk, setInt, ht]

/-- No number text with a fraction or an exponent is such an integer (`60.0`, `6e1`), whatever its value. -/
theorem fraction_or_exponent_is_not_an_int (t : Bytes) (c : UInt8) (hc : c ∈ t)
    (h : c.toNat = 0x2E ∨ c.toNat = 0x65 ∨ c.toNat = 0x45 ∨ c.toNat = 0x2B) : parseInt64 t = none := by
  cases hp : parseInt64 t with
  | none => rfl
  | some n =>
    rcases parseInt64_digits t n hp c hc with hd | hm
    · simp [isDigit] at hd; omega
    · omega

example : lookupField tokenTable (strBytes "expires_in") = some .expiresIn ∧ (∀ t, JVal.str (strBytes "60") ≠ .num t) ∧
    JVal.str (strBytes "60") ≠ .null ∧ parseInt64 (strBytes "1e2") = none ∧ parseInt64 (strBytes "9223372036854775808") = none ∧
    (0x2E : UInt8) ∈ strBytes "60.0" := by
  refine ⟨by decide, (by intro t h; cases h), (by intro h; cases h), by decide, by decide, by decide +kernel⟩

/-- NEGATIVE values are accepted: every `int64`, written in decimal, is taken as it is. -/
theorem every_int64_is_accepted (n cur : Int) (h1 : -9223372036854775808 ≤ n) (h2 : n ≤ 9223372036854775807) :
    setInt (.num (intText n)) cur = some n := by
  simp [setInt, parseInt64_intText n h1 h2]

example : decodeToken (strBytes "{\"token\":\"T\",\"expires_in\":\"60\"}") = .error .type ∧
    decodeToken (strBytes "{\"token\":\"T\",\"expires_in\":60.0}") = .error .type ∧
    decodeToken (strBytes "{\"token\":\"T\",\"expires_in\":6e1}") = .error .type ∧
    decodeToken (strBytes "{\"token\":\"T\",\"expires_in\":9223372036854775808}") = .error .type ∧
    decodeToken (strBytes "{\"token\":\"T\",\"expires_in\":-9223372036854775808}") =
      .ok { token := strBytes "T", expiresIn := -9223372036854775808 } ∧
    decodeToken (strBytes "{\"token\":\"T\",\"expires_in\":-5}") = .ok { token := strBytes "T", expiresIn := -5 } ∧
    decodeToken (strBytes "{\"token\":\"T\",\"expires_in\":-0}") = .ok { token := strBytes "T" } := by decide +kernel

/-! ## Canonical documents, trailing bytes -/

/-- Print / parse round trip: the document a specification-following token server writes for `w`
(four members, any white space around it) decodes to exactly `w`. -/
theorem canonical_document_roundtrip (w : WireToken) (h : w.OK) (ws1 ws2 : Bytes)
    (h1 : ws1.all isWs = true) (h2 : ws2.all isWs = true) :
    decodeToken (ws1 ++ print (tokenJ w) ++ ws2) = .ok w := by
  have hp := parse_print_ws (tokenJ w) (wf_tokenJ w h) (by rw [depth_tokenJ]; decide) ws1 ws2 h1 h2
  simp only [decodeToken, hp, decodeVal_tokenJ w h]

example : WireToken.OK ⟨strBytes "tök\"en", [], strBytes "r/t", -42⟩ ∧ (strBytes " \r\n\t").all isWs = true := by decide +kernel

example : print (tokenJ ⟨strBytes "T", [], strBytes "R", -42⟩) =
    strBytes "{\"token\":\"T\",\"access_token\":\"\",\"refresh_token\":\"R\",\"expires_in\":-42}" := by decide +kernel

/-- An answer that decodes stops decoding as soon as anything but white space is appended (a BOM, a
second document, a stray byte): `json.Unmarshal` validates the whole body. -/
theorem trailing_bytes_rejected (d junk : Bytes) (w : WireToken) (h : decodeToken d = .ok w)
    (hj : junk.all isWs = false) : decodeToken (d ++ junk) = .error .syntax := by
  unfold decodeToken at h
  cases hp : parse d with
  | none => rw [hp] at h; cases h
  | some v =>
    simp only [hp] at h
    cases hd : decodeVal v with
    | none => rw [hd] at h; cases h
    | some m => rw [decodeToken, parse_append_none d junk v hp hj (Or.inl (decodeVal_not_num v m hd))]

example : decodeToken (strBytes "{\"token\":\"T\"}") = .ok { token := strBytes "T" } ∧
    (strBytes "{\"token\":\"U\"}").all isWs = false := by decide +kernel

/-! ## The consumer: which token, which refresh token -/

/-- `token` wins over `access_token` when it is non-empty. -/
theorem token_wins_over_access_token (w : WireToken) (now : Int) (h : w.token ≠ []) :
    ∃ u, useToken w now = .ok u ∧ u.access = w.token := by
  simp [useToken, pickAccess, h]

/-- `access_token` is used when `token` is empty (absent, `""` or `null`). -/
theorem access_token_used_when_token_empty (w : WireToken) (now : Int) (h : w.token = []) (ha : w.accessToken ≠ []) :
    ∃ u, useToken w now = .ok u ∧ u.access = w.accessToken := by
  simp [useToken, pickAccess, h, ha]

example : (⟨strBytes "T", strBytes "A", [], 0⟩ : WireToken).token ≠ [] ∧
    (⟨[], strBytes "A", [], 0⟩ : WireToken).accessToken ≠ [] := by decide +kernel

/-- No access token: an error, and no token is cached — but this is NOT "no state change": the refresh
token of the same answer has already been adopted (see `refresh_kept_iff_nonempty`). -/
theorem no_access_token_is_error (st : RegSt) (w : WireToken) (now : Int) (h1 : w.token = []) (h2 : w.accessToken = []) :
    (consume st w now).2 = .error .noAccessToken ∧ (consume st w now).1.toks = st.toks ∧
    (consume st w now).1.refresh = keepRefresh st.refresh w := by
  simp [consume, useToken, pickAccess, h1, h2]

example : consume { refresh := strBytes "R0" } ⟨[], [], strBytes "R1", 0⟩ 0 =
    ({ refresh := strBytes "R1" }, .error .noAccessToken) := by decide +kernel

/-- The refresh token of the answer replaces the stored one iff it is non-empty — on BOTH outcomes. -/
theorem refresh_kept_iff_nonempty (st : RegSt) (w : WireToken) (now : Int) :
    (consume st w now).1.refresh = if w.refreshToken = [] then st.refresh else w.refreshToken := by
  unfold consume
  cases useToken w now <;> rfl

/-- A successful answer adds exactly one cache entry and hands its token back for immediate use. -/
theorem success_caches_one_token (st : RegSt) (w : WireToken) (now : Int) (h : pickAccess w ≠ []) :
    (consume st w now).2 = .ok (pickAccess w) ∧
    (consume st w now).1.toks = st.toks ++ [(pickAccess w, now + lifetimeNs w.expiresIn)] := by
  simp [consume, useToken, h]

example : pickAccess ⟨[], strBytes "A", [], 0⟩ ≠ [] := by decide +kernel

/-! ## Lifetimes -/

/-- `expires_in` 0 or absent: 60 seconds. -/
theorem lifetime_default (w : WireToken) (now : Int) (h : w.expiresIn = 0) (ha : pickAccess w ≠ []) :
    ∃ u, useToken w now = .ok u ∧ u.expires = now + 60 * second := by
  simp [useToken, ha, lifetimeNs, h]

example : (⟨strBytes "T", [], [], 0⟩ : WireToken).expiresIn = 0 ∧ pickAccess ⟨strBytes "T", [], [], 0⟩ ≠ [] := by decide +kernel

/-- Positive `n` up to 9223372036 (292 years): `n` seconds, exactly. -/
theorem lifetime_positive (w : WireToken) (now : Int) (h1 : 1 ≤ w.expiresIn) (h2 : w.expiresIn ≤ 9223372036)
    (ha : pickAccess w ≠ []) : ∃ u, useToken w now = .ok u ∧ u.expires = now + w.expiresIn * second := by
  simp [useToken, ha, lifetimeNs_exact w.expiresIn (by omega) (by omega) h2]

example : (1 : Int) ≤ 300 ∧ (300 : Int) ≤ 9223372036 ∧ pickAccess ⟨strBytes "T", [], [], 300⟩ ≠ [] := by decide +kernel

/-- What a LATER request (at `now2`) finds: `setAuthorization` first drops every token that does not
outlive `now2` by the 1 s margin; the token of this answer survives iff its expiry does. -/
theorem later_request_sees_token_iff (st : RegSt) (w : WireToken) (now now2 : Int) (ha : pickAccess w ≠ []) :
    (prune now2 (consume st w now).1).toks = (prune now2 st).toks ++
      (if now2 + second ≤ now + lifetimeNs w.expiresIn then [(pickAccess w, now + lifetimeNs w.expiresIn)] else []) := by
  simp only [prune, (success_caches_one_token st w now ha).2, List.filter_append]
  by_cases h : now2 + second ≤ now + lifetimeNs w.expiresIn <;> simp [List.filter, alive, h]

/-- EVERY negative `expires_in`, of any magnitude: the token is stored ALREADY EXPIRED — and still returned
for immediate use: the retried request carries it once; no later request (at any time from the
acquisition on) ever finds it in the cache. -/
theorem negative_lifetime_never_reused (st : RegSt) (w : WireToken) (now : Int) (ha : pickAccess w ≠ [])
    (hneg : w.expiresIn < 0) :
    (consume st w now).2 = .ok (pickAccess w) ∧
    ∀ now2, now ≤ now2 → (prune now2 (consume st w now).1).toks = (prune now2 st).toks := by
  refine ⟨(success_caches_one_token st w now ha).1, ?_⟩
  intro now2 hle
  rw [later_request_sees_token_iff st w now now2 ha]
  have hl := lifetimeNs_neg w.expiresIn hneg
  have : ¬ (now2 + second ≤ now + lifetimeNs w.expiresIn) := by unfold second at hl ⊢; omega
  simp [this]

/-- `negative_lifetime_never_reused` with the additional hypothesis `-9223372036 ≤ expires_in`. -/
theorem negative_lifetime_used_once (st : RegSt) (w : WireToken) (now : Int) (ha : pickAccess w ≠ [])
    (hneg : w.expiresIn < 0) (_hlo : -9223372036 ≤ w.expiresIn) :
    (consume st w now).2 = .ok (pickAccess w) ∧
    ∀ now2, now ≤ now2 → (prune now2 (consume st w now).1).toks = (prune now2 st).toks :=
  negative_lifetime_never_reused st w now ha hneg

example : consume {} ⟨strBytes "T", [], [], -5⟩ 1000 = ({ toks := [(strBytes "T", 1000 - 5 * second)] }, .ok (strBytes "T")) ∧
    prune 1000 (consume {} ⟨strBytes "T", [], [], -5⟩ 1000).1 = {} := by decide +kernel

/-- A token with a lifetime of one second is not found by any later request either: with the 1 s margin
it is used once, for the retry. -/
theorem one_second_lifetime_used_once (st : RegSt) (w : WireToken) (now : Int) (ha : pickAccess w ≠ [])
    (h1 : w.expiresIn = 1) : ∀ now2, now < now2 → (prune now2 (consume st w now).1).toks = (prune now2 st).toks := by
  intro now2 hlt
  rw [later_request_sees_token_iff st w now now2 ha, lifetimeNs_exact w.expiresIn (by omega) (by omega) (by omega)]
  have : ¬ (now2 + second ≤ now + w.expiresIn * second) := by rw [h1]; unfold second; omega
  simp [this]

example : pickAccess ⟨strBytes "T", [], [], 1⟩ ≠ [] ∧ (⟨strBytes "T", [], [], 1⟩ : WireToken).expiresIn = 1 ∧
    prune 1 (consume {} ⟨strBytes "T", [], [], 1⟩ 0).1 = {} ∧
    prune 0 (consume {} ⟨strBytes "T", [], [], 1⟩ 0).1 = { toks := [(strBytes "T", second)] } := by decide +kernel

/-- BEYOND ±9223372036 seconds (292 years: what fits into `int64` nanoseconds) the lifetime SATURATES:
it is the bound, with the sign of `expires_in` — whatever the magnitude. -/
theorem lifetime_saturates (n : Int) :
    (9223372036 ≤ n → lifetimeNs n = 9223372036 * second) ∧
    (n ≤ -9223372036 → lifetimeNs n = -9223372036 * second) := by
  constructor
  · intro h; rw [lifetimeNs_eq n (by omega), clampSeconds_hi n h]
  · intro h; rw [lifetimeNs_eq n (by omega), clampSeconds_lo n h]

/-- The inputs of `lifetime_wrapped_before_F41` under the clamp. -/
example : lifetimeNs (-9223372037) = -9223372036000000000 ∧ lifetimeNs 9223372037 = 9223372036000000000 ∧
    lifetimeNs 9223372036854775807 = 9223372036000000000 ∧ lifetimeNs 18446744074 = 9223372036000000000 ∧
    lifetimeNs (-9223372036854775808) = -9223372036000000000 := by decide +kernel

/-- The lifetime never leaves `int64` nanoseconds, keeps the sign of `expires_in`, and grows with it: a
server that states a longer lifetime never gets a shorter one (of the unclamped product this fails: `9223372037` got less than `1`). -/
theorem lifetime_sign_and_order (a b : Int) :
    (a < 0 → lifetimeNs a ≤ -second) ∧ (0 < a → second ≤ lifetimeNs a) ∧
    (a ≠ 0 → b ≠ 0 → a ≤ b → lifetimeNs a ≤ lifetimeNs b) := by
  refine ⟨lifetimeNs_neg a, lifetimeNs_pos a, ?_⟩
  intro ha hb hab
  rw [lifetimeNs_eq a ha, lifetimeNs_eq b hb]
  have := clampSeconds_mono a b hab
  unfold second
  omega

/-- The bound of the clamp is `math.MaxInt64 / int64(time.Second)`: the largest number of seconds whose
nanoseconds fit into `int64`. -/
theorem clamp_bound_is_what_fits_int64 :
    maxSeconds = 9223372036854775807 / second ∧ maxSeconds * second ≤ 9223372036854775807 ∧
    9223372036854775807 < (maxSeconds + 1) * second ∧ wrap64 (maxSeconds * second) = maxSeconds * second ∧
    wrap64 (-maxSeconds * second) = -maxSeconds * second := by decide +kernel

/-- A token the server declared valid for 9223372036 s or MORE (`MaxInt64`, a server's "never expires",
included) is cached for 292 years: every later request up to then finds it. -/
theorem huge_lifetime_is_reused (st : RegSt) (w : WireToken) (now now2 : Int) (ha : pickAccess w ≠ [])
    (hbig : 9223372036 ≤ w.expiresIn) (h2 : now2 + second ≤ now + 9223372036 * second) :
    (prune now2 (consume st w now).1).toks = (prune now2 st).toks ++ [(pickAccess w, now + 9223372036 * second)] := by
  rw [later_request_sees_token_iff st w now now2 ha, (lifetime_saturates w.expiresIn).1 hbig, if_pos h2]

example : pickAccess ⟨strBytes "T", [], [], 9223372036854775807⟩ ≠ [] ∧
    (9223372036 : Int) ≤ (⟨strBytes "T", [], [], 9223372036854775807⟩ : WireToken).expiresIn ∧
    (9150000000 * second + second ≤ 0 + 9223372036 * second) ∧
    (prune (9150000000 * second) (consume {} ⟨strBytes "T", [], [], 9223372036854775807⟩ 0).1).toks =
      [(strBytes "T", 9223372036 * second)] := by decide +kernel

/-- The input of `negative_lifetime_beyond_int64_was_reused_before_F41` under the clamp: stored expired,
never found. -/
example : consume {} ⟨strBytes "T", [], [], -9223372037⟩ 0 = ({ toks := [(strBytes "T", -9223372036 * second)] }, .ok (strBytes "T")) ∧
    (prune 0 (consume {} ⟨strBytes "T", [], [], -9223372037⟩ 0).1).toks = [] ∧
    (prune (9150000000 * second) (consume {} ⟨strBytes "T", [], [], -9223372037⟩ 0).1).toks = [] := by decide +kernel

/-! ### Before F41 (the computation the code had: `lifetimeNsBeforeF41`, no clamp) -/

/-- The fix changes no lifetime within ±9223372036 s. -/
theorem lifetime_unchanged_in_range (n : Int) (h1 : -9223372036 ≤ n) (h2 : n ≤ 9223372036) :
    lifetimeNs n = lifetimeNsBeforeF41 n := by
  unfold lifetimeNs lifetimeNsBeforeF41
  rw [clampSeconds_exact n h1 h2]

/-- BEYOND ±9223372036 seconds the `int64` nanosecond product wrapped (finding F41): a lifetime
of −9223372037 s became +292 years, one of +9223372037 s (or `MaxInt64`) became negative. -/
theorem lifetime_wrapped_before_F41 :
    lifetimeNsBeforeF41 (-9223372037) = 9223372036709551616 ∧ lifetimeNsBeforeF41 9223372037 = -9223372036709551616 ∧
    lifetimeNsBeforeF41 9223372036854775807 = -1000000000 ∧ lifetimeNsBeforeF41 18446744074 = 290448384 ∧
    lifetimeNsBeforeF41 (-9223372036854775808) = 0 := by decide +kernel

/-- `negative_lifetime_never_reused` is FALSE of the unclamped computation `lifetimeNsBeforeF41`: an answer
with a negative lifetime whose token a request 290 years later finds cached (`alive`: the pruning rule). -/
theorem negative_lifetime_beyond_int64_was_reused_before_F41 :
    ∃ n : Int, n < 0 ∧ alive (9150000000 * second) (strBytes "T", 0 + lifetimeNsBeforeF41 n) = true :=
  ⟨-9223372037, by decide +kernel⟩

/-- Under `lifetimeNsBeforeF41` a token the server declared valid for `MaxInt64` seconds is never reused at all. -/
theorem huge_lifetime_was_not_reused_before_F41 :
    ∀ now2, 0 ≤ now2 → alive now2 (strBytes "T", 0 + lifetimeNsBeforeF41 9223372036854775807) = false := by
  intro now2 h
  have h1 : lifetimeNsBeforeF41 9223372036854775807 = -1000000000 := by decide +kernel
  rw [h1]
  simp only [alive, decide_eq_false_iff_not]
  unfold second; omega

/-! ## The link to the transport model (C10 / C11) -/

/-- `Auth.finish` (`AuthTransport.lean`) — the consumer as C10 and C11 model it, fed with four DECODED fields and a
natural `expires_in` — is this consumer on every answer with `0 ≤ expires_in`: same error, same token,
same refresh-token rule, same expiry (milliseconds there, nanoseconds here). The theorems of C10/C11
therefore cover exactly the answers that decode into that range; negative values are covered by the
statements above.
There is no upper bound on `expires_in`: both models clamp (`Auth.lifeOf`). -/
theorem transport_model_finish_agrees (nowMs : Nat) (st : Auth.HostSt) (ms : List Auth.Msg) (sc : Scope.Scope)
    (w : WireToken) (h0 : 0 ≤ w.expiresIn) :
    (Auth.finish nowMs st ms sc (.ok w.token w.accessToken w.refreshToken w.expiresIn.toNat)).1.refresh =
      (match adopted w with | some t => some ⟨st.host, .refresh, t⟩ | none => st.refresh) ∧
    match useToken w ((nowMs : Int) * 1000000) with
    | .error _ =>
      (Auth.finish nowMs st ms sc (.ok w.token w.accessToken w.refreshToken w.expiresIn.toNat)).2.2 = none ∧
      (Auth.finish nowMs st ms sc (.ok w.token w.accessToken w.refreshToken w.expiresIn.toNat)).1.toks = st.toks
    | .ok u =>
      (Auth.finish nowMs st ms sc (.ok w.token w.accessToken w.refreshToken w.expiresIn.toNat)).2.2 =
        some ⟨st.host, .access, u.access⟩ ∧
      ∃ e : Nat, (Auth.finish nowMs st ms sc (.ok w.token w.accessToken w.refreshToken w.expiresIn.toNat)).1.toks =
        st.toks ++ [⟨sc, ⟨st.host, .access, u.access⟩, e⟩] ∧ (e : Int) * 1000000 = u.expires := by
  have hl := lifeOf_eq w h0
  by_cases hp : pickAccess w = []
  · by_cases hr : w.refreshToken = [] <;>
      simp [Auth.finish, pickToken_eq, hp, useToken, Auth.adoptRefresh, adopted, hr]
  · by_cases hr : w.refreshToken = []
    · simp only [Auth.finish, pickToken_eq, hp, useToken, Auth.adoptRefresh, adopted, hr, if_true, if_false]
      refine ⟨trivial, trivial, _, rfl, ?_⟩
      simp only [Int.natCast_add, Int.natCast_mul] at hl ⊢
      omega
    · simp only [Auth.finish, pickToken_eq, hp, useToken, Auth.adoptRefresh, adopted, hr, if_false]
      refine ⟨trivial, trivial, _, rfl, ?_⟩
      simp only [Int.natCast_add, Int.natCast_mul] at hl ⊢
      omega

example : (0 : Int) ≤ 300 ∧ (0 : Int) ≤ 9223372036854775807 := by decide +kernel

/-! ## The source has the shape the model mirrors (facts regenerated from the working tree) -/

open OciModel.Generated in
/-- `wireToken`: four fields, their JSON names and Go types are the ones `tokStep` mirrors, and
nothing in the package decodes itself. -/
theorem wireToken_as_modelled :
    WireToken.structWireToken = [("Token", "token", "string"), ("AccessToken", "access_token", "string"),
      ("RefreshToken", "refresh_token", "string"), ("ExpiresIn", "expires_in", "int")] ∧
    WireToken.structFound = true ∧ WireToken.customUnmarshal = false ∧ WireToken.sourcesRead = true := ⟨rfl, rfl, rfl, rfl⟩

open OciModel.Generated in
/-- The model's member-name table is exactly the JSON names of that struct, in declaration order. -/
theorem model_table_is_the_struct_tags :
    tokenTable.map (·.1) = WireToken.structWireToken.map (fun f => strBytes f.2.1) := by decide +kernel

open OciModel.Generated in
/-- `doTokenRequest`: status check first, then `json.Unmarshal` of the WHOLE body into a fresh `wireToken`,
failing closed. -/
theorem doTokenRequest_decoding_as_modelled :
    WireToken.decodeStmtsFound = true ∧ WireToken.decodeStmts =
      ["if resp.StatusCode != http.StatusOK { return nil, ociregistry.NewHTTPError(nil, resp.StatusCode, resp, data) }",
       "if bodyErr != nil { return nil, fmt.Errorf(\"error reading response body: %v\", err) }",
       "var tok wireToken",
       "if err := json.Unmarshal(data, &tok); err != nil { return nil, fmt.Errorf(\"malformed JSON token in response: %v\", err) }",
       "return &tok, nil"] := ⟨rfl, rfl⟩

open OciModel.Generated in
/-- The tail of `acquireAccessToken`, statement by statement: refresh token first, `Token` before
`AccessToken`, the error, 60 s for 0, else `time.Duration(seconds) * time.Second` with `seconds` the
`expires_in` clamped to ±`math.MaxInt64 / int64(time.Second)` (`clampSeconds`, `maxSeconds`), one append. -/
theorem consumer_as_modelled :
    WireToken.consumerStmtsFound = true ∧ WireToken.consumerStmts =
      ["if tok.RefreshToken != \"\" { r.refreshToken = tok.RefreshToken }",
       "accessToken := tok.Token",
       "if accessToken == \"\" { accessToken = tok.AccessToken }",
       "if accessToken == \"\" { return \"\", fmt.Errorf(\"no access token found in auth server response\") }",
       "var expires time.Time",
       "now := time.Now().UTC()",
       -- F41: the else branch was `expires = now.Add(time.Duration(tok.ExpiresIn) * time.Second)`
       "if tok.ExpiresIn == 0 { expires = now.Add(60 * time.Second) } else { const maxSeconds = math.MaxInt64 / int64(time.Second) seconds := min(max(int64(tok.ExpiresIn), -maxSeconds), maxSeconds) expires = now.Add(time.Duration(seconds) * time.Second) }",
       "r.accessTokens = append(r.accessTokens, &scopedToken{scope: scope, token: accessToken, expires: expires})",
       "return accessToken, nil"] := ⟨rfl, rfl⟩

end OciModel.Props.C10T
