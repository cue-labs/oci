/-
C20 — Function-table registry is total: unset methods fail cleanly, set ones delegate.

The model of `Funcs` is the table regenerated from `ociregistry/func.go` on every
run (`OciModel.Generated.Funcs.table`). The general theorems are proved for
every row satisfying the decidable predicate `RowOk`; `generated_table_ok`
checks the regenerated table against it.
-/
import OciModel.Funcs

namespace OciModel.Props.C20
open OciModel.Funcs OciModel.Generated.Funcs

/-- What `RowOk` says about a row, as far as `call` looks at it. -/
theorem rowOk_unfold (r : Row) (h : RowOk r = true) :
    r.shapeKnown = true ∧ r.nilGuard = true ∧ r.guardField = fieldOf r.method ∧
    r.calledField = fieldOf r.method ∧ r.callArgs = r.params ∧ r.errName = r.method := by
  simp [RowOk] at h
  obtain ⟨⟨⟨⟨⟨⟨⟨hk, hg⟩, hgf⟩, hcf⟩, hca⟩, hen⟩, _⟩, _⟩ := h
  exact ⟨hk, hg, hgf, hcf, hca, hen⟩

/-- A set method is delegated: exactly the user's function for that method is
called, with the method's own parameters in order; for every assignment of the
other fields and with or without `NewError`. -/
theorem funcs_set_delegates (r : Row) (h : RowOk r = true) (c : Cfg)
    (hn : c.nilRecv = false) (hs : c.set (fieldOf r.method) = true) :
    call c r = .delegated (fieldOf r.method) r.params := by
  obtain ⟨hk, hg, hgf, hcf, hca, _⟩ := rowOk_unfold r h
  simp [call, hk, hg, hn, hgf, hcf, hca, hs]

/-- An unset method (or any method of a nil table) returns the constructor's
error, or `<method>: unsupported`, and nothing else happens. -/
theorem funcs_unset_clean (r : Row) (h : RowOk r = true) (c : Cfg)
    (hu : c.nilRecv = true ∨ c.set (fieldOf r.method) = false) :
    call c r = .unset r.method r.errRepo (!c.nilRecv && c.hasNewError) r.unsetShape := by
  obtain ⟨hk, hg, hgf, _, _, hen⟩ := rowOk_unfold r h
  rcases hu with hu | hu <;> simp [call, hk, hg, hgf, hen, hu]

/-- The result depends only on the method's own field, the receiver's nil-ness and
`NewError`: it is independent of which other functions are set. -/
theorem funcs_independent (r : Row) (h : RowOk r = true) (c c' : Cfg)
    (h1 : c.nilRecv = c'.nilRecv) (h2 : c.hasNewError = c'.hasNewError)
    (h3 : c.set (fieldOf r.method) = c'.set (fieldOf r.method)) :
    call c r = call c' r := by
  obtain ⟨hk, hg, hgf, hcf, _, _⟩ := rowOk_unfold r h
  simp [call, hk, hg, hgf, hcf, h1, h2, h3]

/-- No configuration makes a well-formed row panic (nil receiver included). -/
theorem funcs_no_panic (r : Row) (h : RowOk r = true) (c : Cfg) (s : String) :
    call c r ≠ .panic s := by
  cases hn : c.nilRecv
  · cases hs : c.set (fieldOf r.method)
    · rw [funcs_unset_clean r h c (Or.inr hs)]; simp
    · rw [funcs_set_delegates r h c hn hs]; simp
  · rw [funcs_unset_clean r h c (Or.inl hn)]; simp

/-! ### Obligations on the regenerated table -/

/-- Every row of the table extracted from `func.go` is well-formed. -/
theorem generated_table_ok : TableOk table = true := by decide +kernel

/-- `newError` has the expected two-branch shape. -/
theorem generated_newError_ok : newErrorShapeKnown = true := by decide +kernel

/-- The error constructor is asked about the repository the call acts on: the method's `repo`
parameter, the repository written to (`toRepo`) for a mount, and no repository for the catalogue. -/
def errRepoOk (r : Row) : Bool :=
  if r.params.contains "repo" then r.errRepo == "repo"
  else if r.params.contains "toRepo" then r.errRepo == "toRepo"
  else r.errRepo == "\"\""

theorem generated_error_names_the_repository_acted_on :
    table.all errRepoOk = true ∧ table.all (fun r => r.errName == r.method) = true := by decide +kernel

/-- The table has exactly one row per method of `ociregistry.Interface`. -/
theorem generated_covers_interface :
    (table.map (·.method)).Nodup ∧
    (∀ m ∈ interfaceMethods, m ∈ table.map (·.method)) ∧
    (∀ m ∈ table.map (·.method), m ∈ interfaceMethods) ∧
    interfaceMethods.length = 18 := by decide +kernel

/-- The property on the regenerated table: for every method of the interface and
every configuration, the call never panics, delegates when set and fails cleanly
when unset. -/
theorem C20_holds (r : Row) (hr : r ∈ table) (c : Cfg) :
    (∀ s, call c r ≠ .panic s) ∧
    (c.nilRecv = false → c.set (fieldOf r.method) = true →
      call c r = .delegated (fieldOf r.method) r.params) ∧
    ((c.nilRecv = true ∨ c.set (fieldOf r.method) = false) →
      call c r = .unset r.method r.errRepo (!c.nilRecv && c.hasNewError) r.unsetShape) := by
  have h : RowOk r = true := by
    have := generated_table_ok
    simp [TableOk, List.all_eq_true] at this
    exact this r hr
  exact ⟨funcs_no_panic r h c, funcs_set_delegates r h c, funcs_unset_clean r h c⟩

/-! ### "… with the same arguments and results" -/

/-- In `func.go` the guarded branch of every method is the single
statement `return f.<Field>(ctx, <args>)` — one call, no `...`, nothing between the
call and the `return` — and every field is declared with exactly the parameter and
result types of its method. -/
theorem generated_returns_verbatim :
    table.all (·.returnsCallVerbatim) = true ∧ table.all (·.signatureSame) = true := by decide +kernel

/-- A set method returns its results: for every behaviour `user` of the functions in
the table and every argument values `env`, the caller gets exactly what the user's
function for that method returned on the caller's arguments, in order. -/
theorem funcs_set_returns_verbatim {α ρ : Type} (r : Row) (h : RowOk r = true)
    (hv : r.returnsCallVerbatim = true) (hsig : r.signatureSame = true) (c : Cfg)
    (hn : c.nilRecv = false) (hs : c.set (fieldOf r.method) = true)
    (user : String → List α → ρ) (env : String → α) :
    result user env c r = .user (user (fieldOf r.method) (r.params.map env)) := by
  simp [result, funcs_set_delegates r h c hn hs, hv, hsig]

/-- An unset method (or a nil table) returns the constructor's
error whatever the user's other functions would return. -/
theorem funcs_unset_result {α ρ : Type} (r : Row) (h : RowOk r = true) (c : Cfg)
    (hu : c.nilRecv = true ∨ c.set (fieldOf r.method) = false)
    (user : String → List α → ρ) (env : String → α) :
    result user env c r = .error r.method r.errRepo (!c.nilRecv && c.hasNewError) r.unsetShape := by
  simp [result, funcs_unset_clean r h c hu]

/-- The results clause on the regenerated table: every method of the regenerated
table, every configuration, every behaviour of the user's functions. -/
theorem C20_results_hold {α ρ : Type} (r : Row) (hr : r ∈ table) (c : Cfg)
    (user : String → List α → ρ) (env : String → α) :
    (c.nilRecv = false → c.set (fieldOf r.method) = true →
      result user env c r = .user (user (fieldOf r.method) (r.params.map env))) ∧
    ((c.nilRecv = true ∨ c.set (fieldOf r.method) = false) →
      result user env c r = .error r.method r.errRepo (!c.nilRecv && c.hasNewError) r.unsetShape) := by
  have h : RowOk r = true := by
    have := generated_table_ok
    simp [TableOk, List.all_eq_true] at this
    exact this r hr
  obtain ⟨h1, h2⟩ := generated_returns_verbatim
  simp only [List.all_eq_true] at h1 h2
  exact ⟨fun hn hs => funcs_set_returns_verbatim r h (h1 r hr) (h2 r hr) c hn hs user env,
    fun hu => funcs_unset_result r h c hu user env⟩

/-- Non-vacuity: a concrete row meeting the hypothesis `RowOk`. -/
example : ∃ r ∈ table, r.method = "GetBlob" ∧ RowOk r = true := by decide +kernel

/-- The hypotheses of `funcs_set_returns_verbatim` on a row of the table, with the
result evaluated (a user function that returns its field name and arguments); and
the two flags matter: the same row with `returnsCallVerbatim` cleared (a body that
does something to the results) is not claimed to return them. -/
example : ∃ r ∈ table, r.method = "MountBlob" ∧ RowOk r = true ∧
    r.returnsCallVerbatim = true ∧ r.signatureSame = true ∧
    let c : Cfg := { nilRecv := false, set := fun f => f == "MountBlob_", hasNewError := false }
    let env : String → Nat := fun p => p.length
    let user : String → List Nat → String × List Nat := fun f a => (f, a)
    c.set (fieldOf r.method) = true ∧
    result user env c r = .user ("MountBlob_", [8, 6, 6]) ∧
    result user env c { r with returnsCallVerbatim := false } = .unknown ∧
    result user env { c with nilRecv := true } r = .error "MountBlob" "toRepo" false "zero,err" := by decide +kernel

end OciModel.Props.C20
