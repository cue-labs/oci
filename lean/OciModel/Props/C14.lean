/-
C14 — immutable tags in `ocimem` (the model has the retype rule of fix F19).

All theorems are for an arbitrary hash `H : Bytes → Bytes`. The only property of `H` ever used is an
explicit hypothesis: "the tagged bytes have no second preimage" in `tagged_manifest_retained`
(`hnc` in `tagged_manifest_retained_run`, `getTag_stable_of_no_second_preimage`), or full
collision-freeness (`hinj`) in `getTag_stable` and the retention theorems over histories.
Helper lemmas live in `OciModel/MemImmutable.lean` and `OciModel/MemConcImmutable.lean`. What holds along
a history comes from `Mem.step_eff` (each operation changes each repository by one `RepoStep`, or not at
all); what a single delete or push answers is read off `Mem.step` directly.

The sections, and the labels T1–T5 used in docstrings below:
* the mode itself and the digest invariant;
* T1 a tag resolves to the same descriptor forever: `tag_stable`, `tag_stable_run`, `resolveTag_stable`;
* T2 the manifest a tag points at is retained: `tagged_manifest_retained`, `_run`, `getTag_stable`
  (the whole descriptor, media type included);
* T3 what a tagged manifest references directly cannot be deleted: `referenced_retained`,
  `referenced_manifest_retained`;
* T4 transitive references: `refersTo_iff_reach`, `taggedRefersTo_iff_reachable` (the fuel is never a
  restriction, in any state), `reachable_retained`, `unreachable_deleted`;
* F42, a child manifest is followed under the media type it is stored with AND under the one the parent
  declares for it (`Reach.stepAs`): `taggedRefersTo_declared`, `declared_reference_retained`,
  `declared_reference_manifest_retained`;
* T5 pushing to an existing tag changes nothing: `nothing_tagged_changes`; the retype rule:
  `retype_tagged_refused`, `retype_tagged_unchanged`;
* retention over histories, under `DecFunctional`/`ManOK` and collision-freeness on the pushed manifest
  bytes: `reachable_retained_run`, `reachable_manifest_retained_run`, `reachable_delete_denied_run`,
  `referenced_retained_run`, `declared_reference_retained_run`;
* under concurrency, the same over EVERY schedule of the interleaving model `MemConc` (`arun`: registry
  operations and the two halves of chunked commits of any number of clients, in any order): the `_arun`
  theorems;
* concrete witnesses (`Witness`).
-/
import OciModel.MemImmutable
import OciModel.MemConcImmutable
import OciModel.ManifestDecodeLemmas

namespace OciModel.Props.C14
open OciModel.Mem

variable (H : Bytes → Bytes)

/-! ### The mode itself -/

/-- In immutable-tags mode `deleteTag` never changes the state. -/
theorem deleteTag_immutable (s : State) (h : s.immutableTags = true) (r t : Bytes) :
    (step H s (.deleteTag r t)).1 = s := by
  simp only [step]
  split
  · rfl
  · rw [if_pos h]
    split <;> rfl

theorem immutable_preserved (s : State) (op : Op) : (step H s op).1.immutableTags = s.immutableTags :=
  Mem.immutable_preserved H s op

theorem immutable_preserved_run (s : State) (ops : List Op) :
    (run H s ops).1.immutableTags = s.immutableTags :=
  Mem.immutable_preserved_run H s ops

/-- The digest invariant (every stored blob/manifest sits under the hash of its
bytes) holds initially. -/
theorem inv_init (imm : Bool) : Inv H (init imm) := Inv_init H imm

/-- The digest invariant is preserved by every operation. -/
theorem inv_preserved {s : State} (hinv : Inv H s) (op : Op) : Inv H (step H s op).1 := Inv_step H hinv op

theorem inv_preserved_run {s : State} (hinv : Inv H s) (ops : List Op) : Inv H (run H s ops).1 :=
  Inv_run H hinv ops

/-! ### T1: a tag resolves to the same descriptor forever -/

theorem tag_stable {s : State} (him : s.immutableTags = true) {r t : Bytes} {rp : Repo} {d : Desc}
    (hg : getRepo s r = some rp) (ht : alookup t rp.tags = some d) (op : Op) :
    ∃ rp', getRepo (step H s op).1 r = some rp' ∧ alookup t rp'.tags = some d :=
  Eff.tag_stable H him (step_eff H s op) hg ht

theorem tag_stable_run {s : State} (him : s.immutableTags = true) {r t : Bytes} {rp : Repo} {d : Desc}
    (hg : getRepo s r = some rp) (ht : alookup t rp.tags = some d) (ops : List Op) :
    ∃ rp', getRepo (run H s ops).1 r = some rp' ∧ alookup t rp'.tags = some d := by
  have := run_induction H
    (P := fun s => s.immutableTags = true ∧ ∃ rp', getRepo s r = some rp' ∧ alookup t rp'.tags = some d)
    (fun s op ⟨him, rp', hg, ht⟩ => ⟨(immutable_preserved H s op).trans him, tag_stable H him hg ht op⟩)
    s ⟨him, rp, hg, ht⟩ ops
  exact this.2

/-- In the property's words: once `resolveTag r t` has answered `d`, it answers `d`
after every history. -/
theorem resolveTag_stable {s s0 : State} (him : s.immutableTags = true) {r t : Bytes} {d : Desc}
    (h : step H s (.resolveTag r t) = (s0, .okDesc d)) (ops : List Op) :
    step H (run H s ops).1 (.resolveTag r t) = ((run H s ops).1, .okDesc d) := by
  obtain ⟨rp, hg, ht⟩ := resolveTag_ok H h
  obtain ⟨rp', hg', ht'⟩ := tag_stable_run H him hg ht ops
  exact step_resolveTag_of H hg' ht'

/-! ### T2: the manifest a tag points at is retained -/

/-- State predicate: tag `t` of repository `r` is `d` and the manifest stored under
`d.digest` has the bytes `data` and the media type `mt`. -/
def TaggedData (s : State) (r t : Bytes) (d : Desc) (data mt : Bytes) : Prop :=
  ∃ rp b, getRepo s r = some rp ∧ alookup t rp.tags = some d ∧
    alookup d.digest rp.manifests = some b ∧ b.data = data ∧ b.mediaType = mt

/-- State predicate: tag `t` of repository `r` is `d` and a manifest of media type
`mt` is stored under `d.digest`. -/
def TaggedPresent (s : State) (r t : Bytes) (d : Desc) (mt : Bytes) : Prop :=
  ∃ rp b, getRepo s r = some rp ∧ alookup t rp.tags = some d ∧
    alookup d.digest rp.manifests = some b ∧ b.mediaType = mt

/-- One step: the tag stays, a manifest stays under `d.digest` with the same media
type (the retype rule), its bytes hash to `d.digest` (uses the digest invariant,
which is itself preserved: `inv_preserved`), and if the stored bytes have no second
preimage under `H` (in particular if `H` has no collisions at all) they are the
same bytes. -/
theorem tagged_manifest_retained {s : State} (him : s.immutableTags = true) (hinv : Inv H s)
    {r t : Bytes} {rp : Repo} {d : Desc} {b : Blob}
    (hg : getRepo s r = some rp) (ht : alookup t rp.tags = some d)
    (hm : alookup d.digest rp.manifests = some b) (op : Op) :
    ∃ rp' b', getRepo (step H s op).1 r = some rp' ∧ alookup t rp'.tags = some d ∧
      alookup d.digest rp'.manifests = some b' ∧ H b'.data = d.digest ∧ b'.mediaType = b.mediaType ∧
      ((∀ x, H x = H b.data → x = b.data) → b'.data = b.data) := by
  obtain ⟨rp', b', hg', ht', hm', hmt, _⟩ := Eff.tagged_manifest H him (step_eff H s op) hg ht hm
  have hb : H b.data = d.digest := (hinv r rp hg).2 _ _ hm
  have hb' : H b'.data = d.digest := (inv_preserved H hinv op r rp' hg').2 _ _ hm'
  exact ⟨rp', b', hg', ht', hm', hb', hmt, fun hnc => hnc _ (hb'.trans hb.symm)⟩

/-- Without any assumption on `H` and without `Inv`: the tagged manifest stays
present, with its media type. -/
theorem tagged_present_run {s : State} (him : s.immutableTags = true) {r t : Bytes} {d : Desc} {mt : Bytes}
    (h : TaggedPresent s r t d mt) (ops : List Op) : TaggedPresent (run H s ops).1 r t d mt := by
  have := run_induction H (P := fun s => s.immutableTags = true ∧ TaggedPresent s r t d mt)
    (fun s op ⟨him, rp, b, hg, ht, hm, hmt⟩ =>
      ⟨(immutable_preserved H s op).trans him,
        let ⟨rp', b', hg', ht', hm', hmt', _⟩ := Eff.tagged_manifest H him (step_eff H s op) hg ht hm
        ⟨rp', b', hg', ht', hm', hmt'.trans hmt⟩⟩)
    s ⟨him, h⟩ ops
  exact this.2

/-- Histories: if the tagged bytes have no second preimage under `H`, the tagged
manifest keeps its bytes and media type forever. -/
theorem tagged_manifest_retained_run {s : State} (him : s.immutableTags = true) (hinv : Inv H s)
    {r t : Bytes} {d : Desc} {data mt : Bytes} (hnc : ∀ x, H x = H data → x = data)
    (h : TaggedData s r t d data mt) (ops : List Op) : TaggedData (run H s ops).1 r t d data mt := by
  have := run_induction H
    (P := fun s => s.immutableTags = true ∧ Inv H s ∧ TaggedData s r t d data mt)
    (fun s op ⟨him, hinv, rp, b, hg, ht, hm, hd, hmt⟩ =>
      ⟨(immutable_preserved H s op).trans him, inv_preserved H hinv op,
        let ⟨rp', b', hg', ht', hm', _, hmt', hsame⟩ := tagged_manifest_retained H him hinv hg ht hm op
        ⟨rp', b', hg', ht', hm', (hsame (hd ▸ hnc)).trans hd, hmt'.trans hmt⟩⟩)
    s ⟨him, hinv, h⟩ ops
  exact this.2.2

/-- `getTag` keeps returning exactly the same descriptor and bytes, provided these
bytes have no second preimage under `H`. -/
theorem getTag_stable_of_no_second_preimage {s s0 : State} (him : s.immutableTags = true) (hinv : Inv H s)
    {r t : Bytes} {desc : Desc} {data : Bytes} (hnc : ∀ x, H x = H data → x = data)
    (h : step H s (.getTag r t) = (s0, .okRead desc data)) (ops : List Op) :
    step H (run H s ops).1 (.getTag r t) = ((run H s ops).1, .okRead desc data) := by
  obtain ⟨rp, d, b, hg, ht, hm, rfl, rfl⟩ := (step_getTag_okRead H h).2
  obtain ⟨rp', b', hg', ht', hm', hd, hmt⟩ :=
    tagged_manifest_retained_run H him hinv hnc ⟨rp, b, hg, ht, hm, rfl, rfl⟩ ops
  rw [step_getTag_of H hg' ht' hm', hd]
  simp [descOf, hd, hmt]

/-- In the property's words: with a collision-free `H`, once `getTag r t` has returned
`desc` and `data` it returns the same `desc` (media type included, thanks to the
retype rule) and `data` after every history. -/
theorem getTag_stable {s s0 : State} (him : s.immutableTags = true) (hinv : Inv H s)
    (hinj : ∀ x y, H x = H y → x = y) {r t : Bytes} {desc : Desc} {data : Bytes}
    (h : step H s (.getTag r t) = (s0, .okRead desc data)) (ops : List Op) :
    step H (run H s ops).1 (.getTag r t) = ((run H s ops).1, .okRead desc data) :=
  getTag_stable_of_no_second_preimage H him hinv (fun x => hinj x data) h ops

/-! ### T3: what a tagged manifest references directly cannot be deleted -/

/-- Reachability at depth 2: tag → its manifest → one of the manifest's references. -/
theorem taggedRefersTo_direct {rp : Repo} {t : Bytes} {d : Desc} {b : Blob} {ref : RefInfo}
    (ht : alookup t rp.tags = some d) (hm : alookup d.digest rp.manifests = some b) (href : ref ∈ b.refs) :
    taggedRefersTo rp ref.desc.digest = true :=
  (taggedRefersTo_iff rp _).2 ⟨2, .step (mem_tagRefs ht) (.inl rfl) hm (.here href rfl)⟩

/-- A blob referenced by a tagged manifest (any kind of reference; layers and config
are kind 0) cannot be deleted: the call is `DENIED` and the state is unchanged. -/
theorem referenced_retained {s : State} (him : s.immutableTags = true)
    {r t : Bytes} {rp : Repo} {d : Desc} {b x : Blob} {ref : RefInfo}
    (hg : getRepo s r = some rp) (ht : alookup t rp.tags = some d)
    (hm : alookup d.digest rp.manifests = some b) (href : ref ∈ b.refs)
    (hpres : alookup ref.desc.digest rp.blobs = some x) :
    step H s (.deleteBlob r ref.desc.digest) = (s, .err "DENIED") :=
  deleteBlob_denied H him hg hpres (taggedRefersTo_direct ht hm href)

/-- The same for a manifest referenced by a tagged manifest (index entries are kind 1,
subjects kind 2). -/
theorem referenced_manifest_retained {s : State} (him : s.immutableTags = true)
    {r t : Bytes} {rp : Repo} {d : Desc} {b x : Blob} {ref : RefInfo}
    (hg : getRepo s r = some rp) (ht : alookup t rp.tags = some d)
    (hm : alookup d.digest rp.manifests = some b) (href : ref ∈ b.refs)
    (hpres : alookup ref.desc.digest rp.manifests = some x) :
    step H s (.deleteManifest r ref.desc.digest) = (s, .err "DENIED") :=
  deleteManifest_denied H him hg hpres (taggedRefersTo_direct ht hm href)

/-! ### T4: transitive references -/

/-- `refersTo` is exactly depth-bounded reachability. `Reach` follows a stored manifest under its
stored media type (`step`) and under the media type the reference declares for it (`stepAs`, F42). -/
theorem refersTo_iff_reach (rp : Repo) (target : Bytes) (fuel : Nat) (refs : List RefInfo) :
    refersTo rp target fuel refs = true ↔ Reach rp fuel refs target :=
  Mem.refersTo_iff_reach rp target fuel refs

/-- The fuel `3 * manifests.length + 2` is never a restriction, in any state whatsoever:
the check equals reachability at *any* depth. (A shortest reference path continues from
each of the at most three reference lists of a stored manifest — under its stored media
type, as an image manifest, as an image index — at most once; cycles, e.g. through
dangling subjects, do no harm.) -/
theorem taggedRefersTo_iff_reachable (rp : Repo) (target : Bytes) :
    taggedRefersTo rp target = true ↔ ReachU rp (tagRefs rp) target :=
  taggedRefersTo_iff rp target

/-- Whatever is reachable from a tag, at any depth, through stored manifests cannot
be deleted. -/
theorem reachable_retained {s : State} (him : s.immutableTags = true) {r x : Bytes} {rp : Repo} {bx : Blob}
    (hg : getRepo s r = some rp) (hreach : ReachU rp (tagRefs rp) x)
    (hpres : alookup x rp.blobs = some bx) :
    step H s (.deleteBlob r x) = (s, .err "DENIED") :=
  deleteBlob_denied H him hg hpres ((taggedRefersTo_iff rp x).2 hreach)

theorem reachable_manifest_retained {s : State} (him : s.immutableTags = true) {r x : Bytes} {rp : Repo}
    {bx : Blob} (hg : getRepo s r = some rp) (hreach : ReachU rp (tagRefs rp) x)
    (hpres : alookup x rp.manifests = some bx) :
    step H s (.deleteManifest r x) = (s, .err "DENIED") :=
  deleteManifest_denied H him hg hpres ((taggedRefersTo_iff rp x).2 hreach)

/-- Conversely the protection is exact: a stored blob that is not reachable from any
tag is deleted. -/
theorem unreachable_deleted {s : State} {r x : Bytes} {rp : Repo} {bx : Blob}
    (hg : getRepo s r = some rp) (hunreach : ¬ ReachU rp (tagRefs rp) x)
    (hpres : alookup x rp.blobs = some bx) :
    step H s (.deleteBlob r x) = (putRepo s r { rp with blobs := aerase x rp.blobs }, .okUnit) := by
  refine deleteBlob_allowed H hg hpres ?_
  cases h : taggedRefersTo rp x with
  | false => rfl
  | true => exact absurd ((taggedRefersTo_iff rp x).1 h) hunreach

/-! ### F42: a child is followed under the media type its parent declares for it

The same bytes can be stored under another media type as long as no tag leads to them
(the retype rule only protects what a tag leads to). A tagged index pushed afterwards
that lists them under the first media type is read, by whoever pulls it, as leading to
what the bytes reference under that media type. `refersTo` follows a stored manifest
under its stored media type (F15) and under the declared one (`refsAs`). -/

/-- What the stored bytes decode to under a media type other than the stored one is
what `refsAs` gives. -/
theorem refsAs_of_decode {b : Blob} {mt : Bytes} {rs : List RefInfo}
    (hne : mt ≠ b.mediaType) (hdec : ManifestDecode.decodeRefs mt b.data = .refs rs) : refsAs b mt = rs := by
  unfold refsAs
  rw [if_neg hne, hdec]

theorem mem_refsAs {b : Blob} {mt : Bytes} {rs : List RefInfo} {cref : RefInfo}
    (hne : mt ≠ b.mediaType) (hdec : ManifestDecode.decodeRefs mt b.data = .refs rs) (hc : cref ∈ rs) :
    cref ∈ refsAs b mt := by
  rw [refsAs_of_decode hne hdec]
  exact hc

/-- Reachability at depth 3: tag → its manifest → a child manifest, read as the media
type the reference declares for it → one of the references it then has. -/
theorem taggedRefersTo_declared {rp : Repo} {t : Bytes} {d : Desc} {b child : Blob} {ref cref : RefInfo}
    (ht : alookup t rp.tags = some d) (hm : alookup d.digest rp.manifests = some b) (href : ref ∈ b.refs)
    (hk : ref.kind = 1 ∨ ref.kind = 2) (hc : alookup ref.desc.digest rp.manifests = some child)
    (hcref : cref ∈ refsAs child ref.desc.mediaType) :
    taggedRefersTo rp cref.desc.digest = true :=
  (taggedRefersTo_iff rp _).2
    ⟨3, .step (mem_tagRefs ht) (.inl rfl) hm (.stepAs href hk hc (.here hcref rfl))⟩

/-- **The F42 guarantee.** A blob that a child manifest references under the media type
the tagged parent declares for it — whatever media type the child is stored with —
cannot be deleted: the call is `DENIED` and the state is unchanged. -/
theorem declared_reference_retained {s : State} (him : s.immutableTags = true)
    {r t : Bytes} {rp : Repo} {d : Desc} {b child x : Blob} {ref cref : RefInfo}
    (hg : getRepo s r = some rp) (ht : alookup t rp.tags = some d)
    (hm : alookup d.digest rp.manifests = some b) (href : ref ∈ b.refs)
    (hk : ref.kind = 1 ∨ ref.kind = 2) (hc : alookup ref.desc.digest rp.manifests = some child)
    (hcref : cref ∈ refsAs child ref.desc.mediaType)
    (hpres : alookup cref.desc.digest rp.blobs = some x) :
    step H s (.deleteBlob r cref.desc.digest) = (s, .err "DENIED") :=
  deleteBlob_denied H him hg hpres (taggedRefersTo_declared ht hm href hk hc hcref)

/-- The same for a manifest the child references under the declared media type. -/
theorem declared_reference_manifest_retained {s : State} (him : s.immutableTags = true)
    {r t : Bytes} {rp : Repo} {d : Desc} {b child x : Blob} {ref cref : RefInfo}
    (hg : getRepo s r = some rp) (ht : alookup t rp.tags = some d)
    (hm : alookup d.digest rp.manifests = some b) (href : ref ∈ b.refs)
    (hk : ref.kind = 1 ∨ ref.kind = 2) (hc : alookup ref.desc.digest rp.manifests = some child)
    (hcref : cref ∈ refsAs child ref.desc.mediaType)
    (hpres : alookup cref.desc.digest rp.manifests = some x) :
    step H s (.deleteManifest r cref.desc.digest) = (s, .err "DENIED") :=
  deleteManifest_denied H him hg hpres (taggedRefersTo_declared ht hm href hk hc hcref)

/-! ### T5: pushing to an existing tag changes nothing -/

/-- In immutable mode `pushManifest` to an existing tag either fails or returns the
*existing* descriptor (only when digest and media type both agree); either way the
whole state — tags, manifests, blobs, uploads — is unchanged. (`t ≠ []`: the empty
tag means "push untagged"; no valid tag is empty.) -/
theorem nothing_tagged_changes {s : State} (him : s.immutableTags = true) {r t : Bytes} {rp : Repo}
    {cur : Desc} (hg : getRepo s r = some rp) (ht : alookup t rp.tags = some cur) (hne : t ≠ [])
    (data mt : Bytes) (dec : Decoded) :
    (∃ e, step H s (.pushManifest r t data mt dec) = (s, .err e)) ∨
    (step H s (.pushManifest r t data mt dec) = (s, .okDesc cur) ∧ cur.digest = H data ∧ cur.mediaType = mt) :=
  pushManifest_existing_tag H him hg ht hne data mt dec

/-! ### The retype rule

Without the rule (fix F19), pushing the bytes of a tagged manifest again — untagged, or under a
fresh tag — with another media type would overwrite `manifests[digest]`; references are
decoded under the *stored* media type, so an unknown media type would make the tagged
manifest reference nothing and its layers deletable. Such a push is refused. -/

/-- In immutable mode a manifest stored under a digest reachable from a tag cannot be
re-stored under another media type (untagged, or under a fresh valid tag): the call
is `DENIED` and nothing changes. -/
theorem retype_tagged_refused {s : State} (him : s.immutableTags = true) {r t : Bytes} {rp : Repo}
    {b0 : Blob} (hg : getRepo s r = some rp) (hr : Ref.isRepo r = true) {data mt : Bytes}
    (hm : alookup (H data) rp.manifests = some b0) (hmt : b0.mediaType ≠ mt)
    (hreach : ReachU rp (tagRefs rp) (H data))
    (hfresh : t = [] ∨ (Ref.isTag t = true ∧ alookup t rp.tags = none)) (dec : Decoded) :
    step H s (.pushManifest r t data mt dec) = (s, .err "DENIED") :=
  pushManifest_retype_refused H him hg hr hm hmt ((taggedRefersTo_iff rp _).2 hreach) hfresh dec

/-- Whatever the tag argument, such a push leaves the state unchanged. -/
theorem retype_tagged_unchanged {s : State} (him : s.immutableTags = true) {r t : Bytes} {rp : Repo}
    {b0 : Blob} (hg : getRepo s r = some rp) {data mt : Bytes}
    (hm : alookup (H data) rp.manifests = some b0) (hmt : b0.mediaType ≠ mt)
    (hreach : ReachU rp (tagRefs rp) (H data)) (dec : Decoded) :
    (step H s (.pushManifest r t data mt dec)).1 = s :=
  pushManifest_retype_unchanged H him hg hm hmt ((taggedRefersTo_iff rp _).2 hreach) dec

/-! ### Retention over histories

What is reachable from a tag and stored stays reachable and stored after every
history. Hypotheses that are about the environment, not the registry:

* `DecFunctional decOf D ops`: every `pushManifest _ _ data mt dec` in `ops` has
  `dec = decOf data mt` (the harness decodes with the real JSON decoder, a function
  of bytes and media type) and `D data`; and `ManOK decOf D s`: the stored manifests
  of the starting state agree with `decOf` and lie in `D` (true of `init`, preserved);
* `hinj`: `H` has no collisions among the manifest byte strings in `D`
  (`D := fun _ => True` is plain collision-freeness). With a collision, other bytes
  could be stored under the same digest and media type, with other references.
-/

/-- Every manifest push in `ops` takes its decoding from `decOf` and its bytes from `D`. -/
def DecFunctional (decOf : Bytes → Bytes → Decoded) (D : Bytes → Prop) (ops : List Op) : Prop :=
  ∀ op, op ∈ ops → OpOK decOf D op

theorem manOK_init (decOf : Bytes → Bytes → Decoded) (D : Bytes → Prop) (imm : Bool) :
    ManOK decOf D (init imm) := ManOK_init decOf D imm

theorem manOK_preserved_run (decOf : Bytes → Bytes → Decoded) (D : Bytes → Prop) {s : State}
    (hok : ManOK decOf D s) {ops : List Op} (hops : DecFunctional decOf D ops) :
    ManOK decOf D (run H s ops).1 :=
  run_induction_ops H (P := ManOK decOf D) (Q := OpOK decOf D)
    (fun _ _ hop h => ManOK_step H decOf D hop h) s hok ops hops

/-- `x` is reachable from the tags of repository `r` and stored there as a blob. -/
def ReachableBlob (s : State) (r x : Bytes) : Prop :=
  ∃ rp b, getRepo s r = some rp ∧ ReachU rp (tagRefs rp) x ∧ alookup x rp.blobs = some b ∧ H b.data = x

/-- `x` is reachable from the tags of repository `r` and stored there as the manifest
with these bytes, media type and references. -/
def ReachableManifest (s : State) (r x data mt : Bytes) (refs : List RefInfo) : Prop :=
  ∃ rp b, getRepo s r = some rp ∧ ReachU rp (tagRefs rp) x ∧ alookup x rp.manifests = some b ∧
    b.data = data ∧ b.mediaType = mt ∧ b.refs = refs

section
variable (decOf : Bytes → Bytes → Decoded) (D : Bytes → Prop)

/-- The invariant carried through a history. -/
private def Good (s : State) : Prop := s.immutableTags = true ∧ Inv H s ∧ ManOK decOf D s

private theorem Good.step {s : State} {op : Op} (hop : OpOK decOf D op) (h : Good H decOf D s) :
    Good H decOf D (step H s op).1 :=
  ⟨(immutable_preserved H s op).trans h.1, inv_preserved H h.2.1 op, ManOK_step H decOf D hop h.2.2⟩

/-- **Transitive retention, blobs.** A stored blob reachable from a tag (at any depth)
is, after every history, still stored under its digest, still hashing to it, and
still reachable from the tags. -/
theorem reachable_retained_run {s : State} (him : s.immutableTags = true) (hinv : Inv H s)
    (hok : ManOK decOf D s) (hinj : ∀ a b, D a → D b → H a = H b → a = b) {r x : Bytes}
    (h : ReachableBlob H s r x) {ops : List Op} (hops : DecFunctional decOf D ops) :
    ReachableBlob H (run H s ops).1 r x := by
  have := run_induction_ops H (P := fun s => Good H decOf D s ∧ ReachableBlob H s r x) (Q := OpOK decOf D)
    (fun s op hop ⟨hgood, rp, b, hg, hreach, hb, _⟩ => by
      obtain ⟨rp', hg', hreach', hblob, _⟩ := Eff.reach_retained H decOf D hgood.1 hgood.2.1 hgood.2.2 hop hinj
        (step_eff H s op) hg hreach
      obtain ⟨b', hb'⟩ := hblob b hb
      have hgood' := Good.step H decOf D hop hgood
      exact ⟨hgood', rp', b', hg', hreach', hb', (hgood'.2.1 r rp' hg').1 _ _ hb'⟩)
    s ⟨⟨him, hinv, hok⟩, h⟩ ops hops
  exact this.2

/-- **Transitive retention, manifests.** A stored manifest reachable from a tag keeps
its bytes, media type and references, and stays reachable, after every history. -/
theorem reachable_manifest_retained_run {s : State} (him : s.immutableTags = true) (hinv : Inv H s)
    (hok : ManOK decOf D s) (hinj : ∀ a b, D a → D b → H a = H b → a = b) {r x data mt : Bytes}
    {refs : List RefInfo} (h : ReachableManifest s r x data mt refs) {ops : List Op}
    (hops : DecFunctional decOf D ops) :
    ReachableManifest (run H s ops).1 r x data mt refs := by
  have := run_induction_ops H (P := fun s => Good H decOf D s ∧ ReachableManifest s r x data mt refs)
    (Q := OpOK decOf D)
    (fun s op hop ⟨hgood, rp, b, hg, hreach, hb, hd, hmt, hrefs⟩ => by
      obtain ⟨rp', hg', hreach', _, hman⟩ := Eff.reach_retained H decOf D hgood.1 hgood.2.1 hgood.2.2 hop hinj
        (step_eff H s op) hg hreach
      obtain ⟨b', hb', hd', hmt', hrefs'⟩ := hman b hb
      exact ⟨Good.step H decOf D hop hgood, rp', b', hg', hreach', hb', hd'.trans hd, hmt'.trans hmt,
        hrefs'.trans hrefs⟩)
    s ⟨⟨him, hinv, hok⟩, h⟩ ops hops
  exact this.2

/-- Hence the delete stays refused after every history. -/
theorem reachable_delete_denied_run {s : State} (him : s.immutableTags = true) (hinv : Inv H s)
    (hok : ManOK decOf D s) (hinj : ∀ a b, D a → D b → H a = H b → a = b) {r x : Bytes}
    (h : ReachableBlob H s r x) {ops : List Op} (hops : DecFunctional decOf D ops) :
    step H (run H s ops).1 (.deleteBlob r x) = ((run H s ops).1, .err "DENIED") := by
  obtain ⟨rp', b', hg', hreach', hb', _⟩ := reachable_retained_run H decOf D him hinv hok hinj h hops
  exact reachable_retained H ((immutable_preserved_run H s ops).trans him) hg' hreach' hb'

/-- **Direct references** (depth 2), in the words of T3: a blob referenced by a tagged
manifest and stored is, after every history, still stored, and deleting it is
still `DENIED`. -/
theorem referenced_retained_run {s : State} (him : s.immutableTags = true) (hinv : Inv H s)
    (hok : ManOK decOf D s) (hinj : ∀ a b, D a → D b → H a = H b → a = b)
    {r t : Bytes} {rp : Repo} {d : Desc} {b x : Blob} {ref : RefInfo}
    (hg : getRepo s r = some rp) (ht : alookup t rp.tags = some d)
    (hm : alookup d.digest rp.manifests = some b) (href : ref ∈ b.refs)
    (hpres : alookup ref.desc.digest rp.blobs = some x) {ops : List Op} (hops : DecFunctional decOf D ops) :
    (∃ x', blobFor (run H s ops).1 r ref.desc.digest = .ok x' ∧ H x'.data = ref.desc.digest) ∧
    step H (run H s ops).1 (.deleteBlob r ref.desc.digest) = ((run H s ops).1, .err "DENIED") := by
  have hrb : ReachableBlob H s r ref.desc.digest :=
    ⟨rp, x, hg, (taggedRefersTo_iff rp _).1 (taggedRefersTo_direct ht hm href), hpres, (hinv r rp hg).1 _ _ hpres⟩
  refine ⟨?_, reachable_delete_denied_run H decOf D him hinv hok hinj hrb hops⟩
  obtain ⟨rp', b', hg', _, hb', hh⟩ := reachable_retained_run H decOf D him hinv hok hinj hrb hops
  exact ⟨b', by simp [blobFor, hg', hb'], hh⟩

/-- **The F42 guarantee over histories.** A stored blob that a child manifest references
under the media type the tagged parent declares for it is, after every history, still
stored, and deleting it is still `DENIED`. -/
theorem declared_reference_retained_run {s : State} (him : s.immutableTags = true) (hinv : Inv H s)
    (hok : ManOK decOf D s) (hinj : ∀ a b, D a → D b → H a = H b → a = b)
    {r t : Bytes} {rp : Repo} {d : Desc} {b child x : Blob} {ref cref : RefInfo}
    (hg : getRepo s r = some rp) (ht : alookup t rp.tags = some d)
    (hm : alookup d.digest rp.manifests = some b) (href : ref ∈ b.refs)
    (hk : ref.kind = 1 ∨ ref.kind = 2) (hc : alookup ref.desc.digest rp.manifests = some child)
    (hcref : cref ∈ refsAs child ref.desc.mediaType)
    (hpres : alookup cref.desc.digest rp.blobs = some x) {ops : List Op} (hops : DecFunctional decOf D ops) :
    (∃ x', blobFor (run H s ops).1 r cref.desc.digest = .ok x' ∧ H x'.data = cref.desc.digest) ∧
    step H (run H s ops).1 (.deleteBlob r cref.desc.digest) = ((run H s ops).1, .err "DENIED") := by
  have hrb : ReachableBlob H s r cref.desc.digest :=
    ⟨rp, x, hg, (taggedRefersTo_iff rp _).1 (taggedRefersTo_declared ht hm href hk hc hcref), hpres,
      (hinv r rp hg).1 _ _ hpres⟩
  refine ⟨?_, reachable_delete_denied_run H decOf D him hinv hok hinj hrb hops⟩
  obtain ⟨rp', b', hg', _, hb', hh⟩ := reachable_retained_run H decOf D him hinv hok hinj hrb hops
  exact ⟨b', by simp [blobFor, hg', hb'], hh⟩

end

/-! ### Under concurrency: every schedule of atomic steps

`MemConc` describes a concurrent execution of the registry as an interleaving of atomic steps
(`AStep`): a registry operation (`.op o`, one critical section of the registry mutex — the
regenerated lock facts of C08 — whose effect is `Mem.step`), or one of the two critical sections
of a chunked `Commit` (`commitCheck` under the buffer lock, `commitStore` under the registry lock),
which other clients' steps may separate. `arun H c sched` runs ANY such schedule: nothing is
assumed about it (no commit-lock discipline, no well-formedness), so the theorems hold for any
number of clients doing anything in any order. `c.snaps` are the snapshots of commits that have
passed their first half.

A half of a commit never touches tags or manifests (`MemConcImm.commit_frame`), so T1 and T2 need
nothing more. For blobs, `commitStore` inserts the pending snapshot under its digest: that the
inserted bytes hash to it is the invariant `SnapsOk` of the concurrent state (true when no commit
is pending, preserved by every step: `snapsOk_preserved_arun`), needed only for the clause "the
retained blob still hashes to its digest". -/

section conc
open OciModel.MemConc

theorem immutable_preserved_arun (c : CState) (sched : List AStep) :
    (arun H c sched).st.immutableTags = c.st.immutableTags :=
  MemConcImm.arun_immutable H c sched

/-- Pending snapshots hash to their digests: true with no commit pending. -/
theorem snapsOk_init (s : State) : SnapsOk H (CState.mk s []).snaps := MemConc.snapsOk_nil H

/-- Pending snapshots hash to their digests: kept by every schedule. -/
theorem snapsOk_preserved_arun (c : CState) (sched : List AStep) (h : SnapsOk H c.snaps) :
    SnapsOk H (arun H c sched).snaps :=
  MemConc.snapsOk_arun H c sched h

theorem inv_preserved_arun {c : CState} (hinv : Inv H c.st) (hsn : SnapsOk H c.snaps) (sched : List AStep) :
    Inv H (arun H c sched).st :=
  MemConcImm.inv_arun H c sched hinv hsn

/-- **T1 under concurrency.** In immutable-tags mode a tag bound to `d` is bound to `d` after
every schedule, from any concurrent state whatsoever. -/
theorem tag_stable_arun {c : CState} (him : c.st.immutableTags = true) {r t : Bytes} {rp : Repo} {d : Desc}
    (hg : getRepo c.st r = some rp) (ht : alookup t rp.tags = some d) (sched : List AStep) :
    ∃ rp', getRepo (arun H c sched).st r = some rp' ∧ alookup t rp'.tags = some d := by
  have := MemConc.arun_induction H
    (P := fun c => c.st.immutableTags = true ∧ ∃ rp', getRepo c.st r = some rp' ∧ alookup t rp'.tags = some d)
    (fun c a ⟨him, rp', hg, ht⟩ =>
      ⟨(MemConcImm.astep_immutable H c a).trans him, MemConcImm.astep_tag_stable H him hg ht a⟩)
    c ⟨him, rp, hg, ht⟩ sched
  exact this.2

/-- In the property's words: once `ResolveTag r t` has answered `d`, the atomic step
`ResolveTag r t` answers `d` after every schedule (and changes nothing). -/
theorem resolveTag_stable_arun {c : CState} {s0 : State} (him : c.st.immutableTags = true) {r t : Bytes}
    {d : Desc} (h : step H c.st (.resolveTag r t) = (s0, .okDesc d)) (sched : List AStep) :
    astep H (arun H c sched) (.op (.resolveTag r t)) = (arun H c sched, .okDesc d) := by
  obtain ⟨rp, hg, ht⟩ := resolveTag_ok H h
  obtain ⟨rp', hg', ht'⟩ := tag_stable_arun H him hg ht sched
  show ({ arun H c sched with st := (step H (arun H c sched).st (.resolveTag r t)).1 },
      (step H (arun H c sched).st (.resolveTag r t)).2) = _
  rw [step_resolveTag_of H hg' ht']

/-- **T2 under concurrency**, without any assumption on `H`: the tagged manifest stays present
under the tag's digest, with its media type, after every schedule. -/
theorem tagged_present_arun {c : CState} (him : c.st.immutableTags = true) {r t : Bytes} {d : Desc}
    {mt : Bytes} (h : TaggedPresent c.st r t d mt) (sched : List AStep) :
    TaggedPresent (arun H c sched).st r t d mt := by
  have := MemConc.arun_induction H
    (P := fun c => c.st.immutableTags = true ∧ TaggedPresent c.st r t d mt)
    (fun c a ⟨him, rp, b, hg, ht, hm, hmt⟩ =>
      ⟨(MemConcImm.astep_immutable H c a).trans him,
        let ⟨rp', b', hg', ht', hm', hmt', _⟩ := MemConcImm.astep_tagged_manifest H him hg ht hm a
        ⟨rp', b', hg', ht', hm', hmt'.trans hmt⟩⟩)
    c ⟨him, h⟩ sched
  exact this.2

/-- **T2 under concurrency.** The manifest a tag points at is, after every schedule, still stored
under the tag's digest with the same bytes and the same media type — under the hypothesis
`getTag_stable_of_no_second_preimage` uses: the tagged bytes have no second preimage under `H`.
(`Inv` is needed of the starting state only: it says the tagged bytes hash to the tag's digest.) -/
theorem tagged_manifest_kept_arun {c : CState} (him : c.st.immutableTags = true) (hinv : Inv H c.st)
    {r t : Bytes} {d : Desc} {data mt : Bytes} (hnc : ∀ x, H x = H data → x = data)
    (h : TaggedData c.st r t d data mt) (sched : List AStep) :
    TaggedData (arun H c sched).st r t d data mt := by
  have hdig : H data = d.digest := by
    obtain ⟨rp, b, hg, _, hm, hd, _⟩ := h
    exact hd ▸ (hinv r rp hg).2 _ _ hm
  have := MemConc.arun_induction H
    (P := fun c => c.st.immutableTags = true ∧ TaggedData c.st r t d data mt)
    (fun c a ⟨him, rp, b, hg, ht, hm, hd, hmt⟩ =>
      ⟨(MemConcImm.astep_immutable H c a).trans him,
        let ⟨rp', b', hg', ht', hm', hmt', hor⟩ := MemConcImm.astep_tagged_manifest H him hg ht hm a
        ⟨rp', b', hg', ht', hm', by
          rcases hor with rfl | hh
          · exact hd
          · exact hnc _ (hh.trans hdig.symm), hmt'.trans hmt⟩⟩)
    c ⟨him, h⟩ sched
  exact this.2

/-- In the property's words: once `GetTag r t` has returned `desc` and `data`, the atomic step
`GetTag r t` returns the same descriptor and bytes after every schedule. -/
theorem getTag_stable_arun {c : CState} {s0 : State} (him : c.st.immutableTags = true) (hinv : Inv H c.st)
    {r t : Bytes} {desc : Desc} {data : Bytes} (hnc : ∀ x, H x = H data → x = data)
    (h : step H c.st (.getTag r t) = (s0, .okRead desc data)) (sched : List AStep) :
    astep H (arun H c sched) (.op (.getTag r t)) = (arun H c sched, .okRead desc data) := by
  obtain ⟨rp, d, b, hg, ht, hm, rfl, rfl⟩ := (step_getTag_okRead H h).2
  obtain ⟨rp', b', hg', ht', hm', hd, hmt⟩ :=
    tagged_manifest_kept_arun H him hinv hnc ⟨rp, b, hg, ht, hm, rfl, rfl⟩ sched
  show ({ arun H c sched with st := (step H (arun H c sched).st (.getTag r t)).1 },
      (step H (arun H c sched).st (.getTag r t)).2) = _
  rw [step_getTag_of H hg' ht' hm', hd]
  simp [descOf, hd, hmt]

/-- Every manifest push in the schedule takes its decoding from `decOf` and its bytes from `D`
(`DecFunctional` for schedules; the halves of commits push no manifest). -/
def SchedFunctional (decOf : Bytes → Bytes → Decoded) (D : Bytes → Prop) (sched : List AStep) : Prop :=
  ∀ o, AStep.op o ∈ sched → OpOK decOf D o

section
variable (decOf : Bytes → Bytes → Decoded) (D : Bytes → Prop)

/-- The invariant carried through a schedule. -/
private def GoodC (c : CState) : Prop :=
  c.st.immutableTags = true ∧ Inv H c.st ∧ SnapsOk H c.snaps ∧ ManOK decOf D c.st

private theorem opOf_ok {sched : List AStep} (hs : SchedFunctional decOf D sched) {a : AStep} (ha : a ∈ sched) :
    OpOK decOf D (MemConcImm.opOf a) := by
  cases a with
  | op o => exact hs o ha
  | commitCheck r id dig => trivial
  | commitStore r id => trivial

private theorem GoodC.astep {c : CState} {a : AStep} (hop : OpOK decOf D (MemConcImm.opOf a))
    (h : GoodC H decOf D c) : GoodC H decOf D (astep H c a).1 :=
  ⟨(MemConcImm.astep_immutable H c a).trans h.1, MemConcImm.inv_astep H c a h.2.1 h.2.2.1,
    MemConc.snapsOk_astep H c a h.2.2.1,
    Eff.manOK H decOf D hop h.2.2.2 (MemConcImm.astep_eff H c a h.2.2.1)⟩

/-- **Transitive retention under concurrency, blobs.** A stored blob reachable from a tag (at any
depth; the `ReachableBlob` of `reachable_retained_run`) is, after every schedule, still stored
under its digest, still hashing to it, and still reachable from the tags. Hypotheses as in the
sequential theorem, plus `SnapsOk` of the starting state (an invariant, see above). -/
theorem reachable_blob_kept_arun {c : CState} (him : c.st.immutableTags = true) (hinv : Inv H c.st)
    (hsn : SnapsOk H c.snaps) (hok : ManOK decOf D c.st) (hinj : ∀ a b, D a → D b → H a = H b → a = b)
    {r x : Bytes} (h : ReachableBlob H c.st r x) {sched : List AStep} (hs : SchedFunctional decOf D sched) :
    ReachableBlob H (arun H c sched).st r x := by
  have := MemConc.arun_induction_sched H
    (P := fun c => GoodC H decOf D c ∧ ReachableBlob H c.st r x) (Q := fun a => OpOK decOf D (MemConcImm.opOf a))
    (fun c a hop ⟨hgood, rp, b, hg, hreach, hb, _⟩ => by
      obtain ⟨rp', hg', hreach', hblob, _⟩ := Eff.reach_retained H decOf D hgood.1 hgood.2.1 hgood.2.2.2 hop hinj
        (MemConcImm.astep_eff H c a hgood.2.2.1) hg hreach
      obtain ⟨b', hb'⟩ := hblob b hb
      have hgood' := GoodC.astep H decOf D hop hgood
      exact ⟨hgood', rp', b', hg', hreach', hb', (hgood'.2.1 r rp' hg').1 _ _ hb'⟩)
    c ⟨⟨him, hinv, hsn, hok⟩, h⟩ sched (fun a ha => opOf_ok decOf D hs ha)
  exact this.2

/-- **Transitive retention under concurrency, manifests.** A stored manifest reachable from a
tag keeps its bytes, media type and references, and stays reachable, after every schedule. -/
theorem reachable_manifest_kept_arun {c : CState} (him : c.st.immutableTags = true) (hinv : Inv H c.st)
    (hsn : SnapsOk H c.snaps) (hok : ManOK decOf D c.st) (hinj : ∀ a b, D a → D b → H a = H b → a = b)
    {r x data mt : Bytes} {refs : List RefInfo} (h : ReachableManifest c.st r x data mt refs)
    {sched : List AStep} (hs : SchedFunctional decOf D sched) :
    ReachableManifest (arun H c sched).st r x data mt refs := by
  have := MemConc.arun_induction_sched H
    (P := fun c => GoodC H decOf D c ∧ ReachableManifest c.st r x data mt refs)
    (Q := fun a => OpOK decOf D (MemConcImm.opOf a))
    (fun c a hop ⟨hgood, rp, b, hg, hreach, hb, hd, hmt, hrefs⟩ => by
      obtain ⟨rp', hg', hreach', _, hman⟩ := Eff.reach_retained H decOf D hgood.1 hgood.2.1 hgood.2.2.2 hop hinj
        (MemConcImm.astep_eff H c a hgood.2.2.1) hg hreach
      obtain ⟨b', hb', hd', hmt', hrefs'⟩ := hman b hb
      exact ⟨GoodC.astep H decOf D hop hgood, rp', b', hg', hreach', hb', hd'.trans hd, hmt'.trans hmt,
        hrefs'.trans hrefs⟩)
    c ⟨⟨him, hinv, hsn, hok⟩, h⟩ sched (fun a ha => opOf_ok decOf D hs ha)
  exact this.2

/-- Hence, after every schedule, the atomic step `DeleteBlob` of such a blob is refused and
changes nothing. -/
theorem reachable_delete_denied_arun {c : CState} (him : c.st.immutableTags = true) (hinv : Inv H c.st)
    (hsn : SnapsOk H c.snaps) (hok : ManOK decOf D c.st) (hinj : ∀ a b, D a → D b → H a = H b → a = b)
    {r x : Bytes} (h : ReachableBlob H c.st r x) {sched : List AStep} (hs : SchedFunctional decOf D sched) :
    astep H (arun H c sched) (.op (.deleteBlob r x)) = (arun H c sched, .err "DENIED") := by
  obtain ⟨rp', b', hg', hreach', hb', _⟩ := reachable_blob_kept_arun H decOf D him hinv hsn hok hinj h hs
  show ({ arun H c sched with st := (step H (arun H c sched).st (.deleteBlob r x)).1 },
      (step H (arun H c sched).st (.deleteBlob r x)).2) = _
  rw [reachable_retained H ((immutable_preserved_arun H c sched).trans him) hg' hreach' hb']

end

end conc

/-! ### Concrete witnesses

A registry in immutable mode holding repository `foo` with one layer blob, one
image manifest referencing it, and the tag `v1`; built from `init true` by two
pushes. `Hc` is a toy hash with well-formed `sha256:` output (the last hex digit
is the length of the input), so that pushes are accepted. -/

namespace Witness

def Hc (data : Bytes) : Bytes :=
  Ref.sha256 ++ 58 :: (List.replicate 63 48 ++ [48 + UInt8.ofNat (data.length % 10)])

def r0 : Bytes := [102, 111, 111]          -- "foo"
def tag0 : Bytes := [118, 49]              -- "v1"
def layer : Bytes := [1]
def mdata : Bytes := [1, 2]
def mtLayer : Bytes := [108]
def mtImage : Bytes := [105]
def mtOther : Bytes := [111]
def layerDesc : Desc := ⟨mtLayer, Hc layer, 1⟩
def mDesc : Desc := ⟨mtImage, Hc mdata, 2⟩
def mBlob : Blob := ⟨mtImage, mdata, [], [⟨0, layerDesc⟩]⟩
def lBlob : Blob := ⟨mtLayer, layer, [], []⟩

def rpA : Repo := ⟨[(tag0, mDesc)], [(Hc mdata, mBlob)], [(Hc layer, lBlob)], []⟩
def sA : State := ⟨true, [(r0, rpA)], 0⟩

def setup : List Op :=
  [.pushBlob r0 layerDesc layer, .pushManifest r0 tag0 mdata mtImage (.refs [⟨0, layerDesc⟩])]

/-- `sA` is reachable from the empty registry; both pushes succeed. -/
theorem sA_reachable : run Hc (init true) setup = (sA, [.okDesc layerDesc, .okDesc mDesc]) := by decide +kernel

theorem sA_immutable : sA.immutableTags = true := rfl
theorem sA_repo : getRepo sA r0 = some rpA := by decide +kernel
theorem sA_tag : alookup tag0 rpA.tags = some mDesc := by decide +kernel
theorem sA_manifest : alookup mDesc.digest rpA.manifests = some mBlob := by decide +kernel
theorem sA_ref : (⟨0, layerDesc⟩ : RefInfo) ∈ mBlob.refs := by decide +kernel
theorem sA_layer : alookup layerDesc.digest rpA.blobs = some lBlob := by decide +kernel

theorem sA_inv : Inv Hc sA := by
  have := inv_preserved_run Hc (inv_init Hc true) setup
  rwa [sA_reachable] at this

/-- T1 on `sA`: the tag survives every operation. -/
example (op : Op) : ∃ rp', getRepo (step Hc sA op).1 r0 = some rp' ∧ alookup tag0 rp'.tags = some mDesc :=
  tag_stable Hc sA_immutable sA_repo sA_tag op

example (ops : List Op) : step Hc (run Hc sA ops).1 (.resolveTag r0 tag0) = ((run Hc sA ops).1, .okDesc mDesc) :=
  resolveTag_stable Hc sA_immutable (s0 := sA) (by decide +kernel) ops

/-- T2 on `sA` (all hypotheses but the collision one). -/
example (op : Op) : ∃ rp' b', getRepo (step Hc sA op).1 r0 = some rp' ∧ alookup tag0 rp'.tags = some mDesc ∧
    alookup mDesc.digest rp'.manifests = some b' ∧ Hc b'.data = mDesc.digest ∧ b'.mediaType = mBlob.mediaType ∧
    ((∀ x, Hc x = Hc mBlob.data → x = mBlob.data) → b'.data = mBlob.data) :=
  tagged_manifest_retained Hc sA_immutable sA_inv sA_repo sA_tag sA_manifest op

/-- T3 on `sA`: the layer cannot be deleted. -/
theorem sA_layer_protected : step Hc sA (.deleteBlob r0 layerDesc.digest) = (sA, .err "DENIED") :=
  referenced_retained Hc sA_immutable sA_repo sA_tag sA_manifest sA_ref sA_layer

/-- T4 on `sA`: the layer is reachable from the tags. -/
theorem sA_layer_reachable : ReachU rpA (tagRefs rpA) layerDesc.digest :=
  ⟨2, .step (mem_tagRefs sA_tag) (.inl rfl) sA_manifest (.here sA_ref rfl)⟩

/-- T5 on `sA`: pushing other bytes to `v1` is refused, pushing the same is a no-op. -/
example : step Hc sA (.pushManifest r0 tag0 [9, 9, 9] mtImage .opaque) = (sA, .err "DENIED") := by decide +kernel
example : step Hc sA (.pushManifest r0 tag0 mdata mtImage .opaque) = (sA, .okDesc mDesc) := by decide +kernel

/-! The collision-freeness hypothesis is satisfiable together with `Inv` on a
non-trivial state: take `H := id` (no `sha256:` syntax, so this state is not built
by pushes; it only shows the hypotheses of `getTag_stable` are consistent). -/

def rpI : Repo := ⟨[(tag0, ⟨mtImage, mdata, 2⟩)], [(mdata, ⟨mtImage, mdata, [], [⟨0, ⟨mtLayer, layer, 1⟩⟩]⟩)],
  [(layer, lBlob)], []⟩
def sI : State := ⟨true, [(r0, rpI)], 0⟩

theorem sI_inv : Inv id sI := by
  intro r rp h
  simp only [sI, getRepo, alookup] at h
  split at h
  · cases h
    constructor <;> intro k b hk <;> simp only [rpI, alookup] at hk <;> split at hk <;> cases hk <;>
      (subst_vars; rfl)
  · cases h

example (ops : List Op) : step id (run id sI ops).1 (.getTag r0 tag0) =
      ((run id sI ops).1, .okRead ⟨mtImage, mdata, 2⟩ mdata) :=
  getTag_stable id (s := sI) (s0 := sI) rfl sI_inv (fun _ _ h => h) (by decide +kernel) ops

/-! #### The retype attack (F19) is refused -/

/-- The attack: re-push the tagged manifest's bytes, untagged, under another media type. -/
def repush : Op := .pushManifest r0 [] mdata mtOther .opaque

/-- It is refused, and nothing changes. -/
theorem repush_refused : step Hc sA repush = (sA, .err "DENIED") :=
  retype_tagged_refused Hc sA_immutable sA_repo (by decide +kernel) (b0 := mBlob) (by decide +kernel) (by decide +kernel)
    ⟨1, .here (mem_tagRefs sA_tag) rfl⟩ (.inl rfl) .opaque

/-- The same under a fresh tag. -/
example : step Hc sA (.pushManifest r0 [118, 50] mdata mtOther .opaque) = (sA, .err "DENIED") :=
  retype_tagged_refused Hc sA_immutable sA_repo (by decide +kernel) (b0 := mBlob) (by decide +kernel) (by decide +kernel)
    ⟨1, .here (mem_tagRefs sA_tag) rfl⟩ (.inr ⟨by decide +kernel, by decide +kernel⟩) .opaque

/-- A decoder for the witness: the image manifest bytes under the image media type
reference the layer; everything else is opaque. `DW`: the only manifest bytes. -/
def decOfW (data mt : Bytes) : Decoded :=
  if data = mdata ∧ mt = mtImage then .refs [⟨0, layerDesc⟩] else .opaque
def DW (data : Bytes) : Prop := data = mdata

theorem setup_functional : DecFunctional decOfW DW setup := by
  intro op hop
  simp only [setup, List.mem_cons, List.not_mem_nil, or_false] at hop
  rcases hop with rfl | rfl
  · trivial
  · exact ⟨rfl, by decide +kernel⟩

theorem sA_manOK : ManOK decOfW DW sA := by
  have := manOK_preserved_run Hc decOfW DW (manOK_init decOfW DW true) setup_functional
  rwa [sA_reachable] at this

/-- The hypotheses of the history theorems are satisfiable on `sA`, with the attack in
the history: after `repush :: ops` the layer is still there and still protected. -/
example (ops : List Op) (hops : DecFunctional decOfW DW ops) :
    (∃ x', blobFor (run Hc sA (repush :: ops)).1 r0 layerDesc.digest = .ok x' ∧ Hc x'.data = layerDesc.digest) ∧
    step Hc (run Hc sA (repush :: ops)).1 (.deleteBlob r0 layerDesc.digest) =
      ((run Hc sA (repush :: ops)).1, .err "DENIED") :=
  referenced_retained_run Hc decOfW DW sA_immutable sA_inv sA_manOK (fun _ _ ha hb _ => ha.trans hb.symm)
    sA_repo sA_tag sA_manifest sA_ref sA_layer
    (fun op hop => by
      rcases List.mem_cons.1 hop with rfl | h
      · exact ⟨rfl, by decide +kernel⟩
      · exact hops op h)

/-! #### A child followed under the media type its parent declares (F42)

A state of the shape the F42 history ends in, written down by hand with the short stand-ins `kM`, `kI`
for digests (the theorems applied to it never look at `H`; `Inv` does not hold of it): the image manifest
`mF` (one layer, a config) pushed untagged, its bytes pushed again untagged under the media type `mtOther`
ocimem cannot look inside (allowed: no tag led to them), then an index listing them
*as an image manifest* pushed with the tag `v1`. The bytes are the model's own
rendering of the manifest (`Json.print (manifestJ mF)`), decoded by the model's decoder
(`decodeRefs_manifest`). -/

def cfgDesc : Desc := ⟨mtLayer, Hc [2, 2, 2], 3⟩
def mF : ManifestDecode.Manifest := ⟨cfgDesc, [layerDesc], none⟩
def mFbytes : Bytes := Json.print (ManifestDecode.manifestJ mF)
def kM : Bytes := [77]                     -- stands in for the digest of `mFbytes`
def kI : Bytes := [73]
def mtIndex : Bytes := [120]
/-- the child as it is stored: under `mtOther`, referencing nothing -/
def mBlobF : Blob := ⟨mtOther, mFbytes, [], []⟩
def childRef : RefInfo := ⟨1, ⟨ManifestDecode.imageMT, kM, 2⟩⟩
def iBlobF : Blob := ⟨mtIndex, [7, 7, 7], [], [childRef]⟩
def rpF : Repo := ⟨[(tag0, ⟨mtIndex, kI, 3⟩)], [(kI, iBlobF), (kM, mBlobF)], [(Hc layer, lBlob)], []⟩
def sF : State := ⟨true, [(r0, rpF)], 0⟩

theorem mF_ok : mF.OK := by
  refine ⟨by decide +kernel, ?_, ?_⟩
  · intro d hd
    simp only [mF, List.mem_cons, List.not_mem_nil, or_false] at hd
    subst hd; decide +kernel
  · intro d hd; cases hd

/-- Read as an image manifest — the media type the index declares — the child's bytes
reference the layer and the config. -/
theorem mBlobF_refsAs : refsAs mBlobF ManifestDecode.imageMT = [⟨0, layerDesc⟩, ⟨0, cfgDesc⟩] := by
  have h := ManifestDecode.decodeRefs_manifest mF mF_ok [] [] rfl rfl
  simp only [List.nil_append, List.append_nil] at h
  exact refsAs_of_decode (b := mBlobF) (by decide +kernel) h

/-- Stored as it is — under `mtOther` — the child references nothing: followed under its stored
media type alone, the layer would not be reachable from `v1`. -/
example : mBlobF.refs = [] := rfl

/-- F42 on `sF`: the layer of the retyped child of the tagged index cannot be deleted. -/
theorem sF_layer_protected : step Hc sF (.deleteBlob r0 layerDesc.digest) = (sF, .err "DENIED") :=
  declared_reference_retained Hc (s := sF) (rp := rpF) (t := tag0) (d := ⟨mtIndex, kI, 3⟩) (b := iBlobF)
    (child := mBlobF) (x := lBlob) (ref := childRef) (cref := ⟨0, layerDesc⟩)
    rfl rfl rfl rfl List.mem_cons_self (.inl rfl) rfl
    (by rw [show childRef.desc.mediaType = ManifestDecode.imageMT from rfl, mBlobF_refsAs]; exact List.mem_cons_self)
    rfl

/-! #### Under concurrency

The concurrent state `cA`: the registry `sA`, no commit pending. `attack` is a schedule in which a
client's chunked commit (session `u0`, bytes `[7,7,7,7]`) is split in its two halves around other
clients' attempts to move `v1`, to delete it, to delete its manifest and to delete its layer. -/

open OciModel.MemConc

def cA : CState := ⟨sA, []⟩
def u0 : Bytes := [117]                    -- upload session "u"
def chunk : Bytes := [7, 7, 7, 7]

def attack : List AStep :=
  [.op (.resume r0 u0 0), .op (.wWrite r0 u0 chunk),
   .commitCheck r0 u0 (Hc chunk),                                  -- first half of the commit
   .op (.pushManifest r0 tag0 [9, 9, 9] mtImage .opaque),          -- move the tag
   .op (.deleteTag r0 tag0),
   .commitStore r0 u0,                                             -- second half of the commit
   .op (.deleteManifest r0 mDesc.digest),
   .op (.deleteBlob r0 layerDesc.digest)]

/-- The schedule is not idle: the first half of the commit passes, the attacks that come between
the halves are refused, the second half stores the blob. (`refersTo` is defined by well-founded
recursion and does not reduce under `decide`; the two deletes, which consult it, therefore come last in
the schedule, and that the delete of the layer is refused is the last example below, by the theorems.) -/
example : (astep Hc (arun Hc cA (attack.take 2)) (.commitCheck r0 u0 (Hc chunk))).2 = .okUnit := by decide +kernel
example : (astep Hc (arun Hc cA (attack.take 3)) (.op (.pushManifest r0 tag0 [9, 9, 9] mtImage .opaque))).2 =
    .err "DENIED" := by decide +kernel
example : (astep Hc (arun Hc cA (attack.take 4)) (.op (.deleteTag r0 tag0))).2 = .err "DENIED" := by decide +kernel
example : (astep Hc (arun Hc cA (attack.take 5)) (.commitStore r0 u0)).2 =
    .okDesc ⟨octetStream, Hc chunk, 4⟩ := by decide +kernel
example : (blobFor (arun Hc cA (attack.take 6)).st r0 (Hc chunk)).toOption.map (·.data) = some chunk := by decide +kernel

/-- T1 on `cA`, every schedule. -/
example (sched : List AStep) :
    astep Hc (arun Hc cA sched) (.op (.resolveTag r0 tag0)) = (arun Hc cA sched, .okDesc mDesc) :=
  resolveTag_stable_arun Hc (c := cA) (s0 := sA) sA_immutable (by decide +kernel) sched

/-- T2 on `cA` without hypotheses on the hash. -/
example (sched : List AStep) : TaggedPresent (arun Hc cA sched).st r0 tag0 mDesc mtImage :=
  tagged_present_arun Hc (c := cA) sA_immutable ⟨rpA, mBlob, sA_repo, sA_tag, sA_manifest, rfl⟩ sched

/-- T2 with the collision hypothesis, satisfiable together with `Inv` (`H := id`, state `sI`). -/
example (sched : List AStep) : astep id (arun id ⟨sI, []⟩ sched) (.op (.getTag r0 tag0)) =
      (arun id ⟨sI, []⟩ sched, .okRead ⟨mtImage, mdata, 2⟩ mdata) :=
  getTag_stable_arun id (c := ⟨sI, []⟩) (s0 := sI) rfl sI_inv (fun _ h => h) (by decide +kernel) sched

/-- `attack` pushes one manifest, with bytes outside `DW`: the hypothesis on the schedule is about
what is pushed, so widen the universe to the two byte strings (`Hc` tells them apart by length). -/
def DW2 (data : Bytes) : Prop := data = mdata ∨ data = [9, 9, 9]
def decOfW2 (data mt : Bytes) : Decoded :=
  if data = mdata ∧ mt = mtImage then .refs [⟨0, layerDesc⟩] else .opaque

theorem sA_manOK2 : ManOK decOfW2 DW2 sA := by
  have h : DecFunctional decOfW2 DW2 setup := by
    intro op hop
    simp only [setup, List.mem_cons, List.not_mem_nil, or_false] at hop
    rcases hop with rfl | rfl
    · trivial
    · exact ⟨.inl rfl, by decide +kernel⟩
  have := manOK_preserved_run Hc decOfW2 DW2 (manOK_init decOfW2 DW2 true) h
  rwa [sA_reachable] at this

theorem DW2_injective : ∀ a b, DW2 a → DW2 b → Hc a = Hc b → a = b := by
  intro a b ha hb h
  rcases ha with rfl | rfl <;> rcases hb with rfl | rfl
  · rfl
  · exact absurd h (by decide +kernel)
  · exact absurd h (by decide +kernel)
  · rfl

theorem attack_functional : SchedFunctional decOfW2 DW2 attack := by
  intro o ho
  simp only [attack, List.mem_cons, List.not_mem_nil, or_false, AStep.op.injEq, reduceCtorEq, false_or, or_false] at ho
  rcases ho with rfl | rfl | rfl | rfl | rfl | rfl
  · trivial
  · trivial
  · exact ⟨.inr rfl, by decide +kernel⟩
  · trivial
  · trivial
  · trivial

/-- The hypotheses of the retention theorems are satisfiable on `cA`, with the interleaved commit
and the attacks in the schedule: after `attack ++ sched` the layer is still stored, still hashes
to its digest, is still reachable from `v1`, and deleting it is still `DENIED`. -/
example (sched : List AStep) (hs : SchedFunctional decOfW2 DW2 sched) :
    ReachableBlob Hc (arun Hc cA (attack ++ sched)).st r0 layerDesc.digest ∧
    astep Hc (arun Hc cA (attack ++ sched)) (.op (.deleteBlob r0 layerDesc.digest)) =
      (arun Hc cA (attack ++ sched), .err "DENIED") := by
  have hrb : ReachableBlob Hc cA.st r0 layerDesc.digest :=
    ⟨rpA, lBlob, sA_repo, sA_layer_reachable, sA_layer, by decide +kernel⟩
  have hs' : SchedFunctional decOfW2 DW2 (attack ++ sched) := fun o ho => by
    rcases List.mem_append.1 ho with h | h
    · exact attack_functional o h
    · exact hs o h
  exact ⟨reachable_blob_kept_arun Hc decOfW2 DW2 (c := cA) sA_immutable sA_inv (snapsOk_init Hc sA) sA_manOK2
      DW2_injective hrb hs',
    reachable_delete_denied_arun Hc decOfW2 DW2 (c := cA) sA_immutable sA_inv (snapsOk_init Hc sA) sA_manOK2
      DW2_injective hrb hs'⟩

end Witness

end OciModel.Props.C14
