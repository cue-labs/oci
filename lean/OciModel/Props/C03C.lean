/-
C03C — the client half of the wire model, tied to ociclient's source (sub-check of C03, beside C03W).

`Wire.Call.request1` (and the initial request of the three listings in `Wire.clientCallS`) say which
`ocirequest.Request` the client builds for each `ociregistry.Interface` call. `plan_site` (`WireSource.lean`,
stated in C03W as `plan_makes_the_calls_of_the_source`) ties the SERVER half to the regenerated handler table;
here the CLIENT half is tied to the regenerated table of request literals `Generated/ClientReq.lean` (translator/clientreq.go): one row per
`ocirequest.Request{…}` literal of package ociclient — function, `Kind`, and the provenance of every field.

* `siteRequest cfg c` — the request denoted by the literal of the method `c` models (`fnOf c`), when that
  method is called with `c`'s arguments (`argsOf c`, indexed like the Go parameters).
* `c.rreq cfg` — the request of the model, as a record (every field).
* `c.proceeds`, `c.decorate` — the method's own refusal before / additions after `newRequest`.

Covered: the 7 reads, the 3 deletes, `PushManifest`, `MountBlob`, the POST of `PushBlob`, `PushBlobChunked`
(`covered`), and the first request of `Tags`, `Repositories`, `Referrers` (`coveredList`).
NOT covered (not built from a literal in the source): `uploadInfo` / `uploadChunk` / `uploadCommit` (built
from the `Location` the writer was given), the second request of the two-request flows (`Call.request2`:
the PUT of `PushBlob` goes to a `Location`, the HEAD fallback of `read` re-uses its request with `Kind`
overwritten), and the follow-up pages of a listing (`nextLink`: a `Link` target, or a copy of the initial
request with `ListLast` overwritten).

Statements and short proofs only; definitions and lemmas are in `OciModel/WireClientSource.lean`.
-/
import OciModel.Wire
import OciModel.WireClientSource
import OciModel.Generated.ClientReq
namespace OciModel.Props.C03C
open OciModel OciModel.Ref OciModel.ReqCodec OciModel.RespCodec OciModel.Wire

/-! ## Part 0 — the table -/

/-- **The regenerated table has the shape the model accounts for**: every `ocirequest.Request` literal of
package ociclient was understood (keyed, with a constant `Kind`), stands in one of the 17 methods of `*client`
the model knows, each of these has exactly one, every `Kind` is a kind of `ocirequest`, and every field's value
has a known provenance (a parameter, a field of the receiver, a conversion of these). -/
theorem generated_clientreq_ok :
    Generated.ClientReq.shapeKnown = true ∧ tableOk Generated.ClientReq.requests = true := by decide +kernel

/-- `argsOf` follows the regenerated signatures: for every covered call, the method has exactly one literal and
the arguments the model passes have the arity and the type shapes of its Go parameters. -/
theorem args_match_params (c : Wire.Call) (h : covered c = true ∨ coveredList c = true) :
    ∃ row ∈ Generated.ClientReq.requests, rowsOf (fnOf c) = [row] ∧ argsTyped row.params (argsOf c) = true := by
  obtain ⟨row, h1, h2⟩ := argsOf_typed c h
  have hm : row ∈ rowsOf (fnOf c) := by rw [h1]; exact List.mem_singleton.2 rfl
  exact ⟨row, (List.mem_filter.1 hm).1, h1, h2⟩

/-! ## Part 1 — the request of every call is the one the source's literal denotes -/

/-- **Field by field**: for all arguments, the regenerated literal of the method a call models denotes exactly
the request of the model — the same kind, and every field from the same parameter. -/
theorem client_request_literal (cfg : Cfg) (c : Wire.Call) (h : covered c = true ∨ coveredList c = true) :
    siteRequest cfg c = some (c.rreq cfg) :=
  siteRequest_eq cfg c h

/-- **The request the model sends for a call is `newRequest` of the regenerated literal**, with the headers
and body the method adds afterwards — unless the method refuses first (`PushManifest`, empty media type). -/
theorem client_request_site (cfg : Cfg) (c : Wire.Call) (h : covered c = true) :
    Call.request1 cfg c =
      if c.proceeds then ((siteRequest cfg c).bind mkReq?).map c.decorate else none := by
  rw [siteRequest_eq cfg c (Or.inl h), request1_eq cfg c h]; rfl

/-- The digest `read` / `resolve` take as known from the request they were given (`rreq.Digest`) is the
`Digest` of the literal: empty for the by-tag calls. (This is what tells `Tag:` from `Digest:`, which
`construct` prints in the same place.) -/
theorem client_known_digest (cfg : Cfg) (c : Wire.Call) (h : (knownDigest (c.dec cfg)).isSome = true) :
    (siteRequest cfg c).map (·.digest) = knownDigest (c.dec cfg) := by
  cases c
  case getBlob | getManifest | getTag | resolveBlob | resolveManifest | resolveTag =>
    rw [siteRequest_eq cfg _ (Or.inl rfl)]
    rfl
  all_goals simp [Call.dec, knownDigest] at h

/-! ## Part 2 — the listings -/

/-- `Tags` starts its pager with the request the literal denotes. -/
theorem tags_request_site {σ : Type} (cfg : Cfg) (fuel : Nat) (send : σ → HttpRequest → σ × HttpResponse) (s : σ)
    (repo start : Bytes) :
    ∃ r, siteRequest cfg (.tags repo start) = some r ∧
      clientCallS cfg fuel send s (.tags repo start) = listCallS cfg cfg.decTags send fuel s r :=
  ⟨_, siteRequest_eq cfg _ (Or.inr rfl), rfl⟩

/-- `Repositories` starts its pager with the request the literal denotes. -/
theorem repositories_request_site {σ : Type} (cfg : Cfg) (fuel : Nat) (send : σ → HttpRequest → σ × HttpResponse) (s : σ)
    (start : Bytes) :
    ∃ r, siteRequest cfg (.repositories start) = some r ∧
      clientCallS cfg fuel send s (.repositories start) = listCallS cfg cfg.decCatalog send fuel s r :=
  ⟨_, siteRequest_eq cfg _ (Or.inr rfl), rfl⟩

/-- `Referrers` sends the request the literal denotes: the model leaves `ListN` out (`-1`), the source sets
it to the page size — `construct` prints no query for a referrers request, so both are the same request. -/
theorem referrers_request_site {σ : Type} (cfg : Cfg) (fuel : Nat) (send : σ → HttpRequest → σ × HttpResponse) (s : σ)
    (repo dg : Bytes) :
    ∃ r, siteRequest cfg (.referrers repo dg) = some r ∧
      clientCallS cfg fuel send s (.referrers repo dg) = referrersCallS cfg send s r.repo r.digest ∧
      mkReq? r = mkReq? { kind := .referrersList, repo := r.repo, digest := r.digest, listN := -1 } ∧
      mkReq r = mkReq { kind := .referrersList, repo := r.repo, digest := r.digest, listN := -1 } :=
  ⟨_, siteRequest_eq cfg _ (Or.inr rfl), rfl, mkReq?_referrers_listN .., mkReq_referrers_listN ..⟩

/-! ## Instances -/

def exDigest : Bytes := sha256 ++ cColon :: List.replicate 64 97

example : covered (.mountBlob (strBytes "src") (strBytes "dst") exDigest) = true := rfl

/-- `MountBlob(ctx, "src", "dst", d)`: the literal puts parameter 2 in `Repo`, parameter 1 in `FromRepo` -/
example (cfg : Cfg) : siteRequest cfg (.mountBlob (strBytes "src") (strBytes "dst") exDigest) =
    some { kind := .blobMount, repo := strBytes "dst", fromRepo := strBytes "src", digest := exDigest } :=
  siteRequest_eq cfg _ (Or.inl rfl)

/-- `MountBlob(ctx, "src", "dst", d)` on the wire: `newRequest` of what the literal denotes -/
example (cfg : Cfg) : Call.request1 cfg (.mountBlob (strBytes "src") (strBytes "dst") exDigest) =
    some { method := mPOST, path := strBytes "/v2/dst/blobs/uploads/",
           query := [(qMount, exDigest), (qFrom, strBytes "src")] } := by
  rw [request1_eq cfg _ rfl]; rfl

/-- `ResolveTag` sets `Tag`, not `Digest` -/
example (cfg : Cfg) : siteRequest cfg (.resolveTag (strBytes "r") (strBytes "latest")) =
    some { kind := .manifestHead, repo := strBytes "r", tag := strBytes "latest" } :=
  siteRequest_eq cfg _ (Or.inl rfl)

/-- `PushManifest` sets both `Tag` and `Digest` (of the contents) -/
example (cfg : Cfg) (content : Bytes) : siteRequest cfg (.pushManifest (strBytes "r") (strBytes "t") content (strBytes "m")) =
    some { kind := .manifestPut, repo := strBytes "r", tag := strBytes "t", digest := cfg.H content } :=
  siteRequest_eq cfg _ (Or.inl rfl)

/-- the order of the keys of a literal does not matter: `MountBlob`'s literal with its keys sorted denotes the same request -/
example (cfg : Cfg) (a b d : Bytes) :
    rowRequest (clientEnv cfg)
      { recv := "client", fn := "MountBlob", params := [], kind := "ReqBlobMount",
        fields := [("Digest", .app "string" (.param 3)), ("FromRepo", .param 1), ("Repo", .param 2)] }
      (argsOf (.mountBlob a b d)) = some ((Call.mountBlob a b d).rreq cfg) := rfl

/-- which parameter goes where does matter: the literal with `Repo` and `FromRepo` swapped denotes another request -/
example (cfg : Cfg) (a b d : Bytes) :
    rowRequest (clientEnv cfg)
      { recv := "client", fn := "MountBlob", params := [], kind := "ReqBlobMount",
        fields := [("Repo", .param 1), ("FromRepo", .param 2), ("Digest", .app "string" (.param 3))] }
      (argsOf (.mountBlob a b d)) = some { kind := .blobMount, repo := a, fromRepo := b, digest := d } := rfl

/-- a value the translator could not trace denotes nothing -/
example (cfg : Cfg) (a b : Bytes) :
    rowRequest (clientEnv cfg)
      { recv := "client", fn := "GetTag", params := [], kind := "ReqManifestGet",
        fields := [("Repo", .param 1), ("Tag", .other "f(x)")] } (argsOf (.getTag a b)) = none := rfl

end OciModel.Props.C03C
