/-
C05D — the `ocidebug` wrapper is transparent and the iterator helpers of
`ociregistry/iter.go` follow the iterator protocol (part of C05: "through any number of
… list-transforming wrappers (select, sub, unify, debug)", "every iterator stops calling
its consumer as soon as the consumer declines further items or an error has been
delivered").

The model is `OciModel.Iter`; the facts about debug.go and iter.go it relies on are
regenerated on every run (`OciModel.Generated.Debug`) and checked by the `generated_…`
obligations below. All statements are for every event list, every consumer (an arbitrary
step function over an arbitrary state type) and every initial state.
-/
import OciModel.IterLemmas

namespace OciModel.Props.C05D
open OciModel.Iter OciModel.Generated.Debug

variable {σ α ε : Type}

/-- After the consumer has declined, or after an error event has been delivered, the
consumer is not called again: every call but the last one was answered `true` and carried
no error. -/
def StopsProperly (tr : Trace α ε) : Prop :=
  ∀ i x, tr[i]? = some x → i + 1 < tr.length → x.2 = true ∧ x.1.err = none

/-- The weaker half: no call follows a call that was answered `false`. -/
def StopsWhenDeclined (tr : Trace α ε) : Prop :=
  ∀ i x, tr[i]? = some x → i + 1 < tr.length → x.2 = true

/-! ### Every helper and the debug iterator deliver exactly the underlying events, in order -/

/-- `SliceSeq(xs)` calls its consumer with `(x, nil)` for the elements of `xs` in order, up to and
including the first one the consumer declines. -/
theorem sliceSeq_delivers (xs : List α) (cb : Cons σ α ε) (s : σ) :
    trace (sliceSeq xs) cb s = delivered cb (itemEvents xs) s := by
  simp [trace, sliceSeq, sliceLoop_eq_feed, feed_traced]

/-- `ErrorSeq[T](err)` calls its consumer exactly once, with `(zero, err)`. -/
theorem errorSeq_delivers (zero : α) (e : Option ε) (cb : Cons σ α ε) (s : σ) :
    trace (errorSeq zero e) cb s = [(⟨zero, e⟩, (cb s ⟨zero, e⟩).2)] := by
  simp [trace, errorSeq, traced]

/-- A delegating loop `for x, err := range it { if !yield(x, err) { return } }` delivers what `it` delivers. -/
theorem delegate_delivers (evs : List (Ev α ε)) (cb : Cons σ α ε) (s : σ) :
    trace (delegate (ofEvents evs)) cb s = delivered cb evs s := by
  simp only [trace, delegate, ofEvents, delegate_cb_eq, feed_traced, List.nil_append]

/-- The debug wrapper's iterator delivers the wrapped sequence's events in order up to and including
its first error event (with the zero item beside the error), for every consumer. -/
theorem debug_iter_delivers (zero : α) (evs : List (Ev α ε)) (cb : Cons σ α ε) (s : σ) :
    trace (logIter zero (ofEvents evs)) cb s = delivered cb (cut zero evs) s := by
  simp [trace, logIter_eq_ofEvents, ofEvents, feed_traced]

/-- The debug wrapper's iterator leaves the consumer in the state the wrapped sequence would have left it in. -/
theorem debug_iter_state (zero : α) (evs : List (Ev α ε)) (cb : Cons σ α ε) (s : σ) :
    logIter zero (ofEvents evs) σ cb s = feed cb (cut zero evs) s := by
  simp [logIter_eq_ofEvents, ofEvents]

/-- On a sequence that follows `Seq`'s convention (an error event carries the zero item and is the
last event) the debug wrapper's iterator is indistinguishable from the sequence it wraps. -/
theorem debug_iter_transparent [DecidableEq α] [DecidableEq ε] (zero : α) (evs : List (Ev α ε))
    (hw : WellFormed zero evs = true) (cb : Cons σ α ε) (s : σ) :
    trace (logIter zero (ofEvents evs)) cb s = trace (ofEvents evs) cb s := by
  have : cut zero evs = evs := by simpa [WellFormed] using hw
  simp [trace, logIter_eq_ofEvents, this]

/-- non-vacuity: a well-formed list with items and a final error, and one that is not -/
example : WellFormed (α := Nat) (ε := Nat) 0 [⟨3, none⟩, ⟨5, none⟩, ⟨0, some 7⟩] = true := by decide +kernel
example : WellFormed (α := Nat) (ε := Nat) 0 [⟨3, none⟩, ⟨9, some 7⟩, ⟨5, none⟩] = false := by decide +kernel

/-- Nothing is lost: a consumer that never declines is given every event. -/
theorem delivered_complete (cb : Cons σ α ε) (hc : ∀ s e, (cb s e).2 = true) (evs : List (Ev α ε)) (s : σ) :
    (delivered cb evs s).map (·.1) = evs := by
  induction evs generalizing s with
  | nil => simp [delivered]
  | cons e es ih => simp [delivered, hc, ih]

theorem sliceSeq_complete (xs : List α) (cb : Cons σ α ε) (hc : ∀ s e, (cb s e).2 = true) (s : σ) :
    (trace (sliceSeq xs) cb s).map (·.1) = itemEvents xs := by
  rw [sliceSeq_delivers, delivered_complete cb hc]

theorem debug_iter_complete (zero : α) (evs : List (Ev α ε)) (cb : Cons σ α ε)
    (hc : ∀ s e, (cb s e).2 = true) (s : σ) :
    (trace (logIter zero (ofEvents evs)) cb s).map (·.1) = cut zero evs := by
  rw [debug_iter_delivers, delivered_complete cb hc]

example : ∀ (s : Nat) (e : Ev Nat Nat), ((fun n _ => (n + 1, true) : Cons Nat Nat Nat) s e).2 = true := by
  intro s e; rfl

/-! ### No call after a decline or after an error -/

theorem sliceSeq_stops (xs : List α) (cb : Cons σ α ε) (s : σ) :
    StopsProperly (trace (sliceSeq xs) cb s) := by
  rw [sliceSeq_delivers]
  exact fun i x hx hl => ⟨(delivered_stops cb _ s hx hl).1, (delivered_stops cb _ s hx hl).2 (errLast_itemEvents xs)⟩

theorem errorSeq_stops (zero : α) (e : Option ε) (cb : Cons σ α ε) (s : σ) :
    StopsProperly (trace (errorSeq zero e) cb s) := by
  rw [errorSeq_delivers]
  intro i x _ hlen
  simp at hlen

/-- The debug wrapper's iterator stops after a decline *and* after the first error, whatever the
wrapped sequence would have gone on to deliver and whatever the consumer answers to the error. -/
theorem debug_iter_stops (zero : α) (evs : List (Ev α ε)) (cb : Cons σ α ε) (s : σ) :
    StopsProperly (trace (logIter zero (ofEvents evs)) cb s) := by
  rw [debug_iter_delivers]
  exact fun i x hx hl => ⟨(delivered_stops cb _ s hx hl).1, (delivered_stops cb _ s hx hl).2 (errLast_cut zero evs)⟩

/-- A plain delegating loop stops when declined. -/
theorem delegate_stops_when_declined (evs : List (Ev α ε)) (cb : Cons σ α ε) (s : σ) :
    StopsWhenDeclined (trace (delegate (ofEvents evs)) cb s) := by
  rw [delegate_delivers]
  exact fun i x hx hl => (delivered_stops cb evs s hx hl).1

/-- A plain delegating loop stops after an error when the sequence it ranges over has nothing after its
error events. -/
theorem delegate_stops (evs : List (Ev α ε)) (hl : ErrLast evs) (cb : Cons σ α ε) (s : σ) :
    StopsProperly (trace (delegate (ofEvents evs)) cb s) := by
  rw [delegate_delivers]
  exact fun i x hx hlen => ⟨(delivered_stops cb evs s hx hlen).1, (delivered_stops cb evs s hx hlen).2 hl⟩

example : ErrLast ([⟨3, none⟩, ⟨0, some 7⟩] : List (Ev Nat Nat)) := by simp [ErrLast]

/-- The statement is not vacuous: a trace in which the consumer is called after declining is rejected. -/
example : ¬ StopsProperly ([(⟨1, none⟩, false), (⟨2, none⟩, true)] : Trace Nat Nat) := by
  intro h
  have := h 0 (⟨1, none⟩, false) (by simp) (by simp)
  simp at this

/-! ### Iterating twice gives the same trace -/

/-- An iterator value that never assigns a captured variable. -/
def Reiterable {κ : Type} (c : Closure κ α ε) : Prop :=
  ∀ (σ : Type) (k : κ) (cb : Cons σ α ε) (s : σ), (c.run σ k cb s).1 = k

/-- Two successive iterations of such a value give the same trace (that of the sequence it denotes). -/
theorem twice_of_reiterable {κ : Type} (c : Closure κ α ε) (h : Reiterable c) (k : κ) (cb : Cons σ α ε) (s : σ) :
    c.twice k cb s = (trace (c.seqAt k) cb s, trace (c.seqAt k) cb s) := by
  simp [Closure.twice, trace, Closure.seqAt, h _ k (traced cb) (s, [])]

theorem sliceSeq_reiterable : Reiterable (sliceClosure : Closure (List α) α ε) := by
  intro σ k cb s; rfl

theorem sliceSeq_twice (xs : List α) (cb : Cons σ α ε) (s : σ) :
    (sliceClosure (ε := ε)).twice xs cb s =
      (delivered cb (itemEvents xs) s, delivered cb (itemEvents xs) s) := by
  rw [twice_of_reiterable _ sliceSeq_reiterable]
  have : trace ((sliceClosure (ε := ε)).seqAt xs) cb s = trace (sliceSeq xs) cb s := rfl
  rw [this, sliceSeq_delivers]

/-- `ErrorSeq` "always returns the given error". -/
theorem errorSeq_reiterable (zero : α) : Reiterable (errorClosure zero : Closure (Option ε) α ε) := by
  intro σ k cb s; rfl

theorem errorSeq_twice (zero : α) (e : Option ε) (cb : Cons σ α ε) (s : σ) :
    (errorClosure zero).twice e cb s =
      ([(⟨zero, e⟩, (cb s ⟨zero, e⟩).2)], [(⟨zero, e⟩, (cb s ⟨zero, e⟩).2)]) := by
  rw [twice_of_reiterable _ (errorSeq_reiterable zero)]
  simp [Closure.seqAt, errorClosure, trace, errorSeq, traced]

/-- The debug wrapper's iterator keeps no memory of its own: it is re-iterable when the sequence it
wraps is. -/
theorem debug_iter_reiterable {κ : Type} (zero : α) (c : Closure κ α ε) (h : Reiterable c) :
    Reiterable (logClosure zero c) := by
  intro σ k cb s
  simp only [logClosure]
  exact h _ k _ _

/-- non-vacuity: the wrapper over a `SliceSeq` value; a backend that counts its iterations is not re-iterable -/
example (zero : α) : Reiterable (logClosure zero (sliceClosure : Closure (List α) α ε)) :=
  debug_iter_reiterable zero _ sliceSeq_reiterable
example : ¬ Reiterable (countingSource (fun _ => []) : Closure Nat Nat Nat) := by
  intro h
  have := h Nat 0 (fun n _ => (n, true)) 0
  simp [countingSource] at this

/-- Iterating the wrapper twice iterates the wrapped value twice, once per iteration, and each time
delivers that iteration's events (a backend whose `n`-th iteration produces `f n`). -/
theorem debug_iter_twice (zero : α) (f : Nat → List (Ev α ε)) (cb : Cons σ α ε) (s : σ) :
    (logClosure zero (countingSource f)).twice 0 cb s =
      (delivered cb (cut zero (f 0)) s, delivered cb (cut zero (f 1)) s) := by
  have key : ∀ (n : Nat), (feed (logCb zero (traced cb)) (f n) ⟨(s, []), [], none⟩).s
      = (feed cb (cut zero (f n)) s, delivered cb (cut zero (f n)) s) := by
    intro n
    rw [feed_logCb]
    simp [feed_traced]
  simp [Closure.twice, logClosure, countingSource, key]

/-! ### `All` -/

/-- `All` returns the items before the first error, and that error (nil when there is none). -/
theorem all_ofEvents (evs : List (Ev α ε)) :
    all (ofEvents evs) = (itemsBefore evs, firstErr evs) := by
  simp [all, ofEvents, feed_allCb]

theorem all_sliceSeq (xs : List α) : all (sliceSeq xs : Seq α ε) = (xs, none) := by
  rw [sliceSeq_eq_ofEvents, all_ofEvents, itemsBefore_itemEvents, firstErr_itemEvents]

theorem all_errorSeq (zero : α) (e : ε) : all (errorSeq zero (some e) : Seq α ε) = ([], some e) := by
  simp [all, errorSeq, allCb]

/-- `ErrorSeq[T](nil)` is a sequence of one zero item. -/
theorem all_errorSeq_nil (zero : α) : all (errorSeq zero none : Seq α ε) = ([zero], none) := by
  simp [all, errorSeq, allCb]

/-- `All` through the debug wrapper is `All` of the wrapped sequence. -/
theorem all_debug_iter (zero : α) (evs : List (Ev α ε)) :
    all (logIter zero (ofEvents evs)) = all (ofEvents evs) := by
  have h1 : all (logIter zero (ofEvents evs)) = all (ofEvents (cut zero evs)) := by
    simp [all, logIter_eq_ofEvents]
  rw [h1, all_ofEvents, all_ofEvents, itemsBefore_cut, firstErr_cut]

/-! ### The logging methods -/

/-- A well-formed row makes exactly one call on the wrapped value: its own method, with the caller's
ctx and the caller's arguments in order; and hands back that call's results (`Transparent`). -/
theorem debug_call_transparent {V E : Type} (recv : String) (r : Row) (h : RowOk recv r = true)
    (backend : Call V → Res V E) (env : String → V) :
    ∃ o, call backend env r = some o ∧
      Transparent ⟨recv, r.method, recv == "r.r", r.params.map env⟩
        (backend ⟨recv, r.method, recv == "r.r", r.params.map env⟩) o := by
  simp only [RowOk, Bool.and_eq_true, Bool.or_eq_true, beq_iff_eq] at h
  obtain ⟨⟨⟨⟨⟨⟨hk, hrecv⟩, hn⟩, hcallee⟩, hargs⟩, hctx⟩, hres⟩ := h
  have hc : (⟨r.recv, r.callee, r.ctxFirst, r.callArgs.map env⟩ : Call V)
      = ⟨recv, r.method, recv == "r.r", r.params.map env⟩ := by
    simp [hrecv, hcallee, hargs, hctx]
  generalize hres' : backend ⟨recv, r.method, recv == "r.r", r.params.map env⟩ = res
  rcases hres with ((⟨⟨hv, hg⟩, he⟩ | ⟨⟨hv, hg⟩, he⟩) | ⟨⟨hv, hg⟩, he⟩) | ⟨hv, hge⟩
  · simp [call, hk, hn, hc, hres', hv, he, Transparent]
  · rcases he with he | he <;> simp [call, hk, hn, hc, hres', hv, hg, he, Transparent]
  · simp [call, hk, hn, hc, hv, hg, he, Transparent]
  · rcases hge with ⟨hg, he⟩ | ⟨hg, he⟩
    · rcases he with he | he
      · cases hre : res.err <;> simp [call, hk, hn, hc, hres', hv, hg, he, hre, Transparent]
      · cases hre : res.err <;> simp [call, hk, hn, hc, hres', hv, hg, he, hre, Transparent]
    · cases hrv : res.val <;> simp [call, hk, hn, hc, hres', hv, hg, he, hrv, Transparent]

/-- non-vacuity: rows of the regenerated tables meet the hypothesis -/
example : ∃ r ∈ table, r.method = "GetBlob" ∧ RowOk "r.r" r = true := by decide +kernel
example : ∃ r ∈ writerTable, r.method = "Commit" ∧ RowOk "w.w" r = true := by decide +kernel

/-- With either modelled shape of `logIterReturn`, a listing through the debug wrapper stops when
declined, stops after an error whenever the wrapped listing has nothing after its errors, and is the
wrapped listing, call for call, when that listing follows `Seq`'s convention. -/
theorem wrapIter_protocol (kind : String) (hk : kind = "logcb" ∨ kind = "range") (zero : α)
    (evs : List (Ev α ε)) :
    ∃ it, wrapIter kind zero (ofEvents evs) = some it ∧
      ∀ (σ : Type) (cb : Cons σ α ε) (s : σ),
        StopsWhenDeclined (trace it cb s) ∧
        (ErrLast evs → StopsProperly (trace it cb s)) ∧
        (cut zero evs = evs → trace it cb s = delivered cb evs s) := by
  rcases hk with hk | hk
  · refine ⟨logIter zero (ofEvents evs), by simp [wrapIter, hk], ?_⟩
    intro σ cb s
    refine ⟨?_, fun _ => debug_iter_stops zero evs cb s, ?_⟩
    · intro i x hx hlen
      exact (debug_iter_stops zero evs cb s i x hx hlen).1
    · intro hcut
      rw [debug_iter_delivers, hcut]
  · refine ⟨delegate (ofEvents evs), by simp [wrapIter, hk], ?_⟩
    intro σ cb s
    exact ⟨delegate_stops_when_declined evs cb s, fun hl => delegate_stops evs hl cb s,
      fun _ => delegate_delivers evs cb s⟩

example : cut (0 : Nat) ([⟨3, none⟩, ⟨0, some 7⟩] : List (Ev Nat Nat)) = [⟨3, none⟩, ⟨0, some 7⟩] := by
  simp [cut]

/-! ### Obligations on the regenerated facts -/

/-- Every method of `*logger`: one call of the same method on the wrapped registry with ctx and the
parameters in order; results returned as they are, a blob writer wrapped only when there is one. -/
theorem generated_debug_transparent_ok : TableOk "r.r" table = true := by decide +kernel

/-- Every method of the `blobWriter` handed out by the chunked-upload methods delegates likewise. -/
theorem generated_writer_transparent_ok : TableOk "w.w" writerTable = true := by decide +kernel

/-- `*logger` declares every method of `ociregistry.Interface` itself (none is left to the embedded
nil `*Funcs`), each once. -/
theorem generated_debug_covers_interface :
    (table.map (·.method)).Nodup ∧
    (∀ m ∈ interfaceMethods, m ∈ table.map (·.method)) ∧
    (∀ m ∈ table.map (·.method), m ∈ interfaceMethods) ∧
    interfaceMethods.length = 18 := by decide +kernel

/-- `New` stores the registry it is given, and `logIterReturn` has one of the modelled shapes. -/
theorem generated_debug_iter_ok : newShapeKnown = true ∧ (iterKind = "logcb" ∨ iterKind = "range") := by decide +kernel

/-- `SliceSeq`, `ErrorSeq` and `All` have the bodies `OciModel.Iter` mirrors. -/
theorem generated_iter_helpers_ok :
    sliceSeqShapeKnown = true ∧ errorSeqShapeKnown = true ∧ allShapeKnown = true := by decide +kernel

/-- The three listing methods return the logging iterator over the wrapped call's sequence. -/
theorem generated_debug_listings_wrapped :
    ∀ m ∈ ["Repositories", "Tags", "Referrers"],
      ∃ r ∈ table, r.method = m ∧ (r.retVal = "logIter(call)" ∨ r.retVal = "res0") := by decide +kernel

/-- The property on the regenerated tables: every method of the debug wrapper is transparent, and a
listing through it is the wrapped listing, delivered in order, complete, and never continued after a
decline or an error. -/
theorem C05D_holds {V E : Type} (r : Row) (hr : r ∈ table) (backend : Call V → Res V E) (env : String → V)
    (zero : α) (evs : List (Ev α ε)) :
    (∃ o, call backend env r = some o ∧
      Transparent ⟨"r.r", r.method, true, r.params.map env⟩ (backend ⟨"r.r", r.method, true, r.params.map env⟩) o) ∧
    (∃ it, debugIter zero (ofEvents evs) = some it ∧
      ∀ (σ : Type) (cb : Cons σ α ε) (s : σ),
        StopsWhenDeclined (trace it cb s) ∧
        (ErrLast evs → StopsProperly (trace it cb s)) ∧
        (cut zero evs = evs → trace it cb s = delivered cb evs s)) := by
  constructor
  · have h : RowOk "r.r" r = true := by
      have := generated_debug_transparent_ok
      simp [TableOk, List.all_eq_true] at this
      exact this r hr
    simpa using debug_call_transparent "r.r" r h backend env
  · exact wrapIter_protocol iterKind generated_debug_iter_ok.2 zero evs

end OciModel.Props.C05D
