/-
C11 — Credentials stay confined and the auth flow is bounded and non-intrusive.

Theorems about the model of `ociauth`'s transport (`OciModel/AuthTransport.lean`)
and of its `Www-Authenticate` parser (`OciModel/Challenge.lean`); the proofs
assemble the lemmas of `OciModel/AuthLemmas.lean` and `ChallengeLemmas.lean`.

Every theorem is for ALL environments (registry and token-server answers, realm
validity), times, requests and states satisfying the invariant `J`. `J` holds
initially (`invariant_init`) and is preserved by each critical section
(`invariant_section1`, `invariant_section2`), so the per-section statements hold
under every interleaving of the sections of concurrent calls; `Reach`
(`reachable_invariant`) makes that explicit. Statements about `roundTrip` are
about one call whose two sections run back to back.

Secrets are atoms tagged with the host they belong to and with their kind
(`Atom`), challenges with the host that sent them; `MsgOwn h m` says that message
`m` goes to registry `h` or to a realm named by `h`, carries only atoms of `h`,
and that each kind of atom sits where it belongs.

"Leaves the caller's request unmodified and closes the request body on every
path" is not a statement about this model (the model has no request object): it
is checked by the correspondence oracles `caller_request_unmodified` and
`request_body_closed_on_every_path` on the real code, and `shape_RoundTrip` pins
the `req.Clone` / `needBodyClose` skeleton the argument rests on.
-/
import OciModel.AuthLemmas
import OciModel.ChallengeLemmas
import OciModel.AuthShapeLemmas
namespace OciModel.Props.C11
open OciModel OciModel.Auth OciModel.Scope

/-! ### The challenge parser -/

/-- `parseWWWAuthenticate` is total: no header value makes it panic (the only
allocation/indexing site, the escape buffer of `expectTokenOrQuoted`, is modelled
with its capacity and never overflows). -/
theorem parse_total (header : Bytes) : ∃ r, Challenge.parseWWWAuthenticate header = .ok r :=
  Challenge.parse_ok header

/-- `challengeFromResponse` is total and selects, among the header values that
parse and whose scheme is Basic or Bearer, the first Basic one if there is any
and otherwise the first (Bearer) one; unknown schemes and unparsable values are
ignored. -/
theorem challenge_select (values : List Bytes) :
    Challenge.challengeFromResponse values =
      .ok (((values.filterMap fun v => (Challenge.parse? v).filter Challenge.usable).find?
              fun h => h.scheme = Challenge.sBasic).or
           (values.filterMap fun v => (Challenge.parse? v).filter Challenge.usable).head?) := by
  unfold Challenge.challengeFromResponse
  rw [Challenge.accepted_eq]
  simp only []
  rw [Challenge.selectLoop_spec]
  intro h hh
  obtain ⟨v, _, hv⟩ := List.mem_filterMap.mp hh
  cases hp : Challenge.parse? v with
  | none => simp [hp] at hv
  | some h' =>
    simp only [hp, Option.filter] at hv
    split at hv
    · rename_i hu; cases hv; exact hu
    · cases hv

theorem challenge_total (values : List Bytes) : ∃ r, Challenge.challengeFromResponse values = .ok r :=
  ⟨_, challenge_select values⟩

/-- A challenge the transport acts on was sent by the host it is stored for. -/
theorem challenge_sender {host : Bytes} {values : List Bytes} {ch : Chal}
    (h : chalOf host values = some ch) : ch.sender = host := chalOf_sender h

/-! ### The invariant -/

theorem invariant_init (host : Bytes) (e : ConfigEntry) : J (initSt host e) := J_init host e

theorem invariant_section1 (env : Env) (now : Nat) (st : HostSt) (req : ReqInfo) (hJ : J st)
    (hr : WF req.required) (hw : WF req.want) :
    J (section1 env now st req).1 ∧ (section1 env now st req).1.host = st.host :=
  ⟨section1_J env now st req hJ hr hw, section1_host env now st req⟩

theorem invariant_section2 (env : Env) (now : Nat) (st : HostSt) (ch : Chal) (req : ReqInfo) (hJ : J st)
    (hc : ch.sender = st.host) (hr : WF req.required) (hw : WF req.want) :
    J (section2 env now st ch req).1 ∧ (section2 env now st ch req).1.host = st.host :=
  ⟨section2_J env now st ch req hJ hc hr hw, section2_host env now st ch req⟩

theorem invariant_roundTrip (env : Env) (now : Nat) (st : HostSt) (req : ReqInfo) (hJ : J st)
    (hr : WF req.required) (hw : WF req.want) :
    J (roundTrip env now st req).1 ∧ (roundTrip env now st req).1.host = st.host :=
  ⟨roundTrip_J env now st req hJ hr hw, roundTrip_host env now st req⟩

/-- Every state reachable by any interleaving of critical sections (any
environments, times, requests, challenges sent by this host) satisfies `J`. -/
theorem reachable_invariant {host : Bytes} {e : ConfigEntry} {st : HostSt} {envs : List Env}
    (h : Reach host e st envs) : J st ∧ st.host = host := reach_J h

/-! ### Host isolation -/

/-- Per section: whatever `setAuthorization` sends or sets is this host's. -/
theorem host_isolation_section1 (env : Env) (now : Nat) (st : HostSt) (req : ReqInfo) (hJ : J st) :
    (∀ m ∈ (section1 env now st req).2.1, MsgOwn st.host m) ∧
    (∀ h, (section1 env now st req).2.2 = some h → AuthOwn st.host h) := section1_own env now st req hJ

/-- Per section: whatever `setAuthorizationFromChallenge` sends or sets, for a
challenge sent by this host, is this host's. -/
theorem host_isolation_section2 (env : Env) (now : Nat) (st : HostSt) (ch : Chal) (req : ReqInfo)
    (hJ : J st) (hc : ch.sender = st.host) :
    (∀ m ∈ (section2 env now st ch req).2.1, MsgOwn st.host m) ∧
    (∀ h acq, (section2 env now st ch req).2.2 = .added h acq → AuthOwn st.host h) :=
  section2_own env now st ch req hJ hc

/-- Every message of a call is this host's. -/
theorem host_isolation (env : Env) (now : Nat) (st : HostSt) (req : ReqInfo) (hJ : J st)
    (hr : WF req.required) (hw : WF req.want) :
    ∀ m ∈ (roundTrip env now st req).2.1, MsgOwn st.host m := roundTrip_own env now st req hJ hr hw

/-- Over any sequence of calls to any hosts (per-host states behind the
`registries` map, configuration consulted at first use), every message sent
during a call to host `h` is `h`'s: no credential or token of another host, no
realm another host named. -/
theorem host_isolation_history (cfg : Config) (calls : List Call)
    (hwf : ∀ c ∈ calls, WF c.req.required ∧ WF c.req.want) :
    ∀ e ∈ (run cfg [] calls).2, ∀ m ∈ e.2.1, MsgOwn e.1 m := run_own cfg [] calls sysJ_nil hwf

/-- A call touches only its own host's state. -/
theorem call_touches_only_its_host (cfg : Config) (env : Env) (now : Nat) (sys : Sys) (host : Bytes)
    (req : ReqInfo) {h : Bytes} (hne : h ≠ host) :
    (sysStep cfg env now sys host req).1.lookup h = sys.lookup h := by
  unfold sysStep
  cases sys.get cfg host with
  | none => rfl
  | some st => simp [lookup_put, hne]

/-- A failing configuration lookup yields an error and sends nothing. -/
theorem config_failure_sends_nothing (cfg : Config) (env : Env) (now : Nat) (sys : Sys) (host : Bytes)
    (req : ReqInfo) (hl : sys.lookup host = none) (hc : cfg host = none) :
    sysStep cfg env now sys host req = (sys, [], .err) := by
  simp [sysStep, Sys.get, hl, hc]

/-! ### Passwords and refresh tokens -/

/-- A Bearer challenge naming this realm is known: stored from an earlier 401 of
this host, or carried by the first response of this call. -/
def RealmNamed (env : Env) (st : HostSt) (realm : Bytes) : Prop :=
  (∃ ch, st.challenge = some ch ∧ ch.scheme = .bearer ∧ ch.realm = realm ∧ ch.sender = st.host) ∨
  (∃ hdrs ch, env.reg 0 = .resp 401 hdrs ∧ chalOf st.host hdrs = some ch ∧ ch.scheme = .bearer ∧
    ch.realm = realm ∧ ch.sender = st.host)

/-- This host has issued a Basic challenge: stored, or in the first response of this call. -/
def BasicChallenged (env : Env) (st : HostSt) : Prop :=
  (∃ ch, st.challenge = some ch ∧ ch.scheme = .basic) ∨
  (∃ hdrs ch, env.reg 0 = .resp 401 hdrs ∧ chalOf st.host hdrs = some ch ∧ ch.scheme = .basic)

/-- Every token request goes to the non-empty realm of a Bearer challenge this host sent. -/
theorem token_requests_go_to_named_realms (env : Env) (now : Nat) (st : HostSt) (req : ReqInfo) (hJ : J st)
    {m : Msg} {realm namedBy : Bytes} (hm : m ∈ (roundTrip env now st req).2.1)
    (hr : m.realm? = some (realm, namedBy)) : realm ≠ [] ∧ namedBy = st.host ∧ RealmNamed env st realm := by
  rcases roundTrip_mem env now st req hm with h | ⟨h1, hh1, rfl⟩ | ⟨hdrs, ch, hreg, hch, h | ⟨h2, acq, hadd, rfl⟩⟩
  · obtain ⟨ch, hc, hs, _, h', hne, _⟩ := section1_tokmsgs env now st req _ h
    have := h'.elim tokMsg_realm tokMsg_realm
    rw [hr] at this; cases this
    exact ⟨hne, hJ.chal_own ch hc, Or.inl ⟨ch, hc, hs, rfl, hJ.chal_own ch hc⟩⟩
  · cases hr
  · obtain ⟨hs, h', hne, _⟩ := section2_tokmsgs env now _ ch req _ h
    have := h'.elim tokMsg_realm tokMsg_realm
    rw [hr] at this; cases this
    exact ⟨hne, chalOf_sender hch, Or.inr ⟨hdrs, ch, hreg, hch, hs, rfl, chalOf_sender hch⟩⟩
  · cases hr

/-- A password leaves only (a) on the GET to a realm named by a Bearer challenge
of this host, or (b) as Basic auth to this registry after it issued a Basic
challenge. -/
theorem password_confined (env : Env) (now : Nat) (st : HostSt) (req : ReqInfo) (hJ : J st)
    (hr : WF req.required) (hw : WF req.want) {m : Msg} (hm : m ∈ (roundTrip env now st req).2.1)
    {pl : Place} {a : Atom} (ha : (pl, a) ∈ m.atoms) (hk : a.kind = .password) :
    a.origin = st.host ∧
    ((∃ realm u sc sv, m = .tokenGET realm st.host (some (u, a)) sc sv ∧ RealmNamed env st realm) ∨
     (∃ u, m = .registry st.host (.basic u a) ∧ BasicChallenged env st)) := by
  have hown := roundTrip_own env now st req hJ hr hw m hm
  obtain ⟨ho, hfit⟩ := msgOwn_atoms hown (pl, a) ha
  refine ⟨ho, ?_⟩
  have hf := of_mem_atoms ha
  -- a password fits only the two password places
  cases pl <;> simp only [Place.fits, hk, reduceCtorEq] at hfit
  · obtain ⟨host, u, rfl⟩ := hf
    obtain ⟨rfl, _⟩ := hown
    refine Or.inr ⟨u, rfl, ?_⟩
    -- the Basic header was set by one of the sections, against the challenge that section saw
    rcases roundTrip_mem env now st req hm with h | ⟨h1, hh1, he⟩ | ⟨hdrs, ch, hreg, hch, h | ⟨h2, acq, hadd, he⟩⟩
    · cases section1_not_registry env now st req _ h
    · cases he
      obtain ⟨ch, hch, hs, _⟩ := section1_basic env now st req hh1
      exact Or.inl ⟨ch, hch, hs⟩
    · cases section2_not_registry env now _ ch req _ h
    · cases he
      rcases section2_added env now _ ch req hadd with ⟨_, _, _, h⟩ | ⟨hs, _⟩
      · cases h
      · exact Or.inr ⟨hdrs, ch, hreg, hch, hs⟩
  · obtain ⟨realm, nb, u, sc, sv, rfl⟩ := hf
    obtain ⟨_, rfl, hnamed⟩ := token_requests_go_to_named_realms env now st req hJ hm rfl
    exact Or.inl ⟨realm, u, sc, sv, rfl, hnamed⟩

/-- A refresh token leaves only in the POST to a realm named by a Bearer
challenge of this host. -/
theorem refresh_confined (env : Env) (now : Nat) (st : HostSt) (req : ReqInfo) (hJ : J st)
    (hr : WF req.required) (hw : WF req.want) {m : Msg} (hm : m ∈ (roundTrip env now st req).2.1)
    {pl : Place} {a : Atom} (ha : (pl, a) ∈ m.atoms) (hk : a.kind = .refresh) :
    a.origin = st.host ∧
    ∃ realm sc sv, m = .tokenPOST realm st.host a sc sv ∧ RealmNamed env st realm := by
  obtain ⟨ho, hfit⟩ := msgOwn_atoms (roundTrip_own env now st req hJ hr hw m hm) (pl, a) ha
  refine ⟨ho, ?_⟩
  have hf := of_mem_atoms ha
  -- a refresh token fits only the POST
  cases pl <;> simp only [Place.fits, hk, reduceCtorEq] at hfit
  obtain ⟨realm, nb, sc, sv, rfl⟩ := hf
  obtain ⟨_, rfl, hnamed⟩ := token_requests_go_to_named_realms env now st req hJ hm rfl
  exact ⟨realm, sc, sv, rfl, hnamed⟩

/-- Before this host has sent any challenge, a call starts with the forwarded
request carrying nothing or a cached access token: never a password, never Basic
auth, and no token request (hence no refresh token) precedes it. The per-section
form: `setAuthorization` sends nothing and sets at most a cached token. -/
theorem never_basic_before_challenge (env : Env) (now : Nat) (st : HostSt) (req : ReqInfo)
    (hc : st.challenge = none) :
    ((section1 env now st req).2.1 = [] ∧
      ((section1 env now st req).2.2 = some .none ∨
        ∃ t ∈ st.toks, (section1 env now st req).2.2 = some (.bearer t.tok))) ∧
    ∃ h1 rest, (roundTrip env now st req).2.1 = Msg.registry st.host h1 :: rest ∧
      (h1 = .none ∨ ∃ t ∈ st.toks, h1 = .bearer t.tok) := by
  have hnone : ∀ ch, st.challenge ≠ some ch := by intro ch h; rw [hc] at h; cases h
  rcases section1_cases env now st req with ⟨_, hms, hh⟩ | ⟨_, ch, hch, _⟩
  case inr => exact absurd hch (hnone ch)
  -- the header is none or a cached token, and the call begins with the request carrying it
  rcases hh with ⟨t, ht, _, _, hh⟩ | ⟨_, hh | ⟨ch, _, _, hch, _⟩⟩
  · obtain ⟨rest, hr⟩ := roundTrip_first_msg env now st req hh
    rw [hms] at hr
    exact ⟨⟨hms, Or.inr ⟨t, ht, hh⟩⟩, _, rest, hr, Or.inr ⟨t, ht, rfl⟩⟩
  · obtain ⟨rest, hr⟩ := roundTrip_first_msg env now st req hh
    rw [hms] at hr
    exact ⟨⟨hms, Or.inl hh⟩, _, rest, hr, Or.inl rfl⟩
  · exact absurd hch (hnone ch)

/-- Per section: Basic credentials are set only against a Basic challenge (the
stored one in the first section, the answered one in the second). -/
theorem basic_only_against_basic_challenge (env : Env) (now : Nat) (st : HostSt) (req : ReqInfo) :
    (∀ u p, (section1 env now st req).2.2 = some (.basic u p) →
      ∃ ch, st.challenge = some ch ∧ ch.scheme = .basic ∧ st.basic = some (u, p)) ∧
    (∀ ch u p acq, (section2 env now st ch req).2.2 = .added (.basic u p) acq →
      ch.scheme = .basic ∧ st.basic = some (u, p)) := by
  refine ⟨fun u p h => ?_, fun ch u p acq h => ?_⟩
  · obtain ⟨ch, h1, h2, h3, _⟩ := section1_basic env now st req h
    exact ⟨ch, h1, h2, h3⟩
  · rcases section2_added env now st ch req h with ⟨_, _, _, h'⟩ | ⟨hs, _, _, _, _, h', hb⟩ <;> cases h'
    exact ⟨hs, hb⟩

/-! ### Bounded: at most two attempts; a 401 to a fresh token becomes 403 -/

/-- At most two requests are forwarded to the registry per call. -/
theorem attempts_le_two (env : Env) (now : Nat) (st : HostSt) (req : ReqInfo) :
    attempts (roundTrip env now st req).2.1 ≤ 2 := by
  -- the sections forward nothing; a call forwards once, and once more after the second section
  obtain ⟨st', tail, r, he, hc⟩ := roundTrip_cases env now st req
  rw [he, attempts_append, attempts_eq_zero (section1_not_registry env now st req), Nat.zero_add]
  rcases hc with ⟨_, _, rfl, _⟩ | ⟨h1, _, ⟨_, _, rfl, _⟩ | ⟨hdrs, ch, _, _, _, ⟨rfl, _⟩ | ⟨h2, acq, _, rfl, _⟩⟩⟩
  · exact Nat.zero_le 2
  · exact Nat.le_succ 1
  all_goals
    have a2 := attempts_eq_zero (section2_not_registry env now (section1 env now st req).1 ch req)
  · rw [attempts_registry_cons, a2]
    exact Nat.le_succ 1
  · rw [attempts_registry_cons, attempts_append, a2]
    exact Nat.le_refl 2

/-- The caller sees the synthesized 403 DENIED exactly when the retry, made with a
token acquired in answer to the challenge of the first response, is answered 401. -/
theorem fresh_401_becomes_403 (env : Env) (now : Nat) (st : HostSt) (req : ReqInfo) :
    (roundTrip env now st req).2.2 = .denied ↔
      ∃ h1 hdrs ch a hd2, (section1 env now st req).2.2 = some h1 ∧
        env.reg 0 = .resp 401 hdrs ∧ chalOf st.host hdrs = some ch ∧
        (section2 env now (section1 env now st req).1 ch req).2.2 = .added (.bearer a) true ∧
        env.reg 1 = .resp 401 hd2 := by
  obtain ⟨st', tail, r, he, hc⟩ := roundTrip_cases env now st req
  rw [he]
  constructor
  · intro h
    rcases hc with ⟨_, _, _, rfl⟩ | ⟨h1, hh1, ⟨_, _, _, hr⟩ |
      ⟨hdrs, ch, hreg, hch, _, ⟨_, hr, _⟩ | ⟨h2, acq, hadd, _, hiff⟩⟩⟩
    · cases h
    · exact absurd h hr
    · exact absurd h hr
    · obtain ⟨rfl, hd2, hreg2⟩ := hiff.mp h
      -- a header reported with `tokenAcquired` is a Bearer one
      rcases section2_added env now _ ch req hadd with ⟨_, _, a, rfl⟩ | ⟨_, hf, _⟩
      · exact ⟨h1, hdrs, ch, a, hd2, hh1, hreg, hch, hadd, hreg2⟩
      · cases hf
  · rintro ⟨h1', hdrs, ch, a, hd2, hh1', hreg, hch, hadd, hreg2⟩
    rcases hc with ⟨hn, _⟩ | ⟨h1, _, ⟨hnc, _⟩ | ⟨hdrs', ch', hreg', hch', _, hc⟩⟩
    · rw [hn] at hh1'; cases hh1'
    · exact absurd hnc (not_noChallenge hreg hch)
    · rw [hreg] at hreg'; cases hreg'
      rw [hch] at hch'; cases hch'
      rcases hc with ⟨_, _, hna⟩ | ⟨h2, acq, hadd', _, hiff⟩
      · exact absurd hadd (hna _ _)
      · rw [hadd] at hadd'; cases hadd'
        exact hiff.mpr ⟨rfl, hd2, hreg2⟩

/-! ### Facts regenerated from the source -/

/-- The tokenizer's character classes are the ones in `challenge.go`. -/
theorem token_classes_match_source :
    Challenge.separators = strBytes Generated.AuthFacts.separatorChars ∧
    Challenge.spaces = strBytes Generated.AuthFacts.spaceChars := by decide +kernel

theorem shape_known : Generated.AuthFacts.shapeKnown = true := rfl

/-- The challenge parser, `RoundTrip` and the token request have the fingerprints of the
functions the models mirror (checked together, see `AuthShapeLemmas.lean`). -/
structure SourceFingerprints : Prop where
  challenge_init : AuthShape.fingerprint "challenge.init" = some AuthShape.challenge_init
  challengeFromResponse :
    AuthShape.fingerprint "challengeFromResponse" = some AuthShape.challengeFromResponse
  parseWWWAuthenticate :
    AuthShape.fingerprint "parseWWWAuthenticate" = some AuthShape.parseWWWAuthenticate
  expectToken : AuthShape.fingerprint "expectToken" = some AuthShape.expectToken
  expectTokenOrQuoted : AuthShape.fingerprint "expectTokenOrQuoted" = some AuthShape.expectTokenOrQuoted
  skipSpace : AuthShape.fingerprint "skipSpace" = some AuthShape.skipSpace
  RoundTrip : AuthShape.fingerprint "stdTransport.RoundTrip" = some AuthShape.stdTransport_RoundTrip
  acquireToken : AuthShape.fingerprint "registry.acquireToken" = some AuthShape.registry_acquireToken
  doTokenRequest : AuthShape.fingerprint "registry.doTokenRequest" = some AuthShape.registry_doTokenRequest

theorem source_fingerprints : SourceFingerprints where
  challenge_init := rfl
  challengeFromResponse := rfl
  parseWWWAuthenticate := rfl
  expectToken := rfl
  expectTokenOrQuoted := rfl
  skipSpace := rfl
  RoundTrip := rfl
  acquireToken := rfl
  doTokenRequest := rfl

theorem shape_challenge_init : AuthShape.fingerprint "challenge.init" = some AuthShape.challenge_init :=
  source_fingerprints.challenge_init
theorem shape_challengeFromResponse :
    AuthShape.fingerprint "challengeFromResponse" = some AuthShape.challengeFromResponse :=
  source_fingerprints.challengeFromResponse
theorem shape_parseWWWAuthenticate :
    AuthShape.fingerprint "parseWWWAuthenticate" = some AuthShape.parseWWWAuthenticate :=
  source_fingerprints.parseWWWAuthenticate
theorem shape_expectToken : AuthShape.fingerprint "expectToken" = some AuthShape.expectToken :=
  source_fingerprints.expectToken
theorem shape_expectTokenOrQuoted :
    AuthShape.fingerprint "expectTokenOrQuoted" = some AuthShape.expectTokenOrQuoted :=
  source_fingerprints.expectTokenOrQuoted
theorem shape_skipSpace : AuthShape.fingerprint "skipSpace" = some AuthShape.skipSpace :=
  source_fingerprints.skipSpace
theorem shape_RoundTrip :
    AuthShape.fingerprint "stdTransport.RoundTrip" = some AuthShape.stdTransport_RoundTrip :=
  source_fingerprints.RoundTrip
theorem shape_init : AuthShape.fingerprint "registry.init" = some AuthShape.registry_init :=
  AuthShape.authorization_fingerprints.registry_init
theorem shape_setAuthorization :
    AuthShape.fingerprint "registry.setAuthorization" = some AuthShape.registry_setAuthorization :=
  AuthShape.authorization_fingerprints.registry_setAuthorization
theorem shape_setAuthorizationFromChallenge :
    AuthShape.fingerprint "registry.setAuthorizationFromChallenge" =
      some AuthShape.registry_setAuthorizationFromChallenge :=
  AuthShape.authorization_fingerprints.registry_setAuthorizationFromChallenge
theorem shape_acquireToken :
    AuthShape.fingerprint "registry.acquireToken" = some AuthShape.registry_acquireToken :=
  source_fingerprints.acquireToken
theorem shape_doTokenRequest :
    AuthShape.fingerprint "registry.doTokenRequest" = some AuthShape.registry_doTokenRequest :=
  source_fingerprints.doTokenRequest

/-! ### The hypotheses are satisfiable; the parser on concrete headers -/

/-- Host "r" configured with user "u", password "p" and refresh token "t". -/
def exSt : HostSt := initSt [114] ⟨[116], [], [117], [112]⟩

example : J exSt := J_init _ _
example : exSt.basic = some (⟨[114], .username, [117]⟩, ⟨[114], .password, [112]⟩) ∧
    exSt.refresh = some ⟨[114], .refresh, [116]⟩ ∧ exSt.challenge = none := by decide +kernel
example : WF Scope.empty := wf_empty

/-- `Bearer realm="a\"b",service=x` : a quoted string with an escape, and a token. -/
example : Challenge.parse? (strBytes "Bearer realm=\"a\\\"b\",service=x") =
    some ⟨Challenge.sBearer, [(Challenge.kService, [120]), (Challenge.kRealm, [97, 34, 98])]⟩ := by decide +kernel
/-- A trailing comma is accepted, a comma followed by a blank is not, an unterminated quote is not. -/
example : (Challenge.parse? (strBytes "Basic realm=x,")).isSome = true ∧
    Challenge.parse? (strBytes "Basic realm=x, ") = none ∧
    Challenge.parse? (strBytes "Basic realm=\"x") = none := by decide +kernel
/-- Basic is preferred over Bearer, unknown schemes are ignored. -/
example : (chalOf [114] [strBytes "Digest realm=d", strBytes "Bearer realm=b", strBytes "Basic realm=c"]).map (·.scheme) =
    some .basic := by decide +kernel

/-- A registry that answers 401 with a Bearer challenge and 401 again to the retry, and a
token server that grants "T". -/
def exEnv : Env :=
  { reg := fun n => if n = 0 then .resp 401 [strBytes "Bearer realm=b"] else .resp 401 []
    tok := fun _ _ _ => .json [84] [] [] 0
    realmOk := fun _ => true }

/-- Against `exSt` (user, password and refresh token configured, no challenge seen yet) the
refresh token goes out on a POST to the named realm, the password is not sent at all, and
the 401 to the fresh token becomes DENIED. -/
example : (roundTrip exEnv 0 exSt ⟨Scope.empty, Scope.empty⟩).2 =
    ([Msg.registry [114] .none,
      Msg.tokenPOST [98] [114] ⟨[114], .refresh, [116]⟩ [] [],
      Msg.registry [114] (.bearer ⟨[114], .access, [84]⟩)], .denied) := by decide +kernel

end OciModel.Props.C11
