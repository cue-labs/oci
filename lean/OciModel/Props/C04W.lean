/-
C04W — the client's chunked writer (`ociclient.blobWriter`, writer.go) as a state machine
under faults. Sub-check of C04 (exact bytes) and C18 (never stuck).

The model (`OciModel/ClientWriter.lean`) makes every method a total function of the writer's
state and of the answer the transport gives to the one request the method may make: any status,
`Location` / `Range` / `OCI-Chunk-Min-Length` present, absent or malformed, or no response at all.
`net/url` is a parameter (`UrlEnv`): every theorem holds for every `env`.

All theorems quantify over ALL answers, ALL writer states (or all states satisfying the stated
invariant), ALL write partitions and ALL scripts. Helper lemmas: `OciModel/ClientWriterLemmas.lean`.
-/
import OciModel.ClientWriter
import OciModel.ClientWriterLemmas
import OciModel.Generated.WriterFacts

namespace OciModel.ClientWriter

/-- a toy `net/url` for the examples: every header value is a path, nothing is escaped -/
def toyEnv : UrlEnv :=
  { resolve := fun _ h => some { path := h }
    parseID := fun id => some ({ path := id }, true)
    qesc := fun d => d }

end OciModel.ClientWriter

namespace OciModel.Props.C04W
open OciModel OciModel.ClientWriter OciModel.ReqCodec

/-! ### What is sent does not depend on the answer; one request per call -/

/-- The request a call makes is a function of the writer and the arguments: the answer cannot
change what has been sent. -/
theorem requests_independent_of_answer (env : UrlEnv) (w : W) (c : Call) (a a' : Answer) :
    (step env w c a).2.reqs = (step env w c a').2.reqs := by
  rw [step_reqs, step_reqs]

/-- Totality, part 1: a call makes at most one request whatever it is answered — there is no
retry loop inside the writer that an answer sequence could keep spinning. -/
theorem at_most_one_request (env : UrlEnv) (w : W) (c : Call) (a : Answer) :
    (step env w c a).2.reqs.length ≤ 1 := by
  rw [step_reqs]; cases stepReq env w c <;> simp

theorem open_at_most_one_request (env : UrlEnv) (u : Loc) (id : Bytes) (off hint : Int) (a : Answer) :
    (start env u hint a).2.1.length ≤ 1 ∧ (resume env id off hint a).2.length ≤ 1 := by
  constructor
  · fun_cases start env u hint a <;> simp
  · exact (resume_spec env id off hint a).1

/-- Totality, part 2: every script runs to its end — one observation per call, for every
sequence of answers. (The methods are total functions; this states it on scripts.) -/
theorem run_total (env : UrlEnv) (w : W) (g : Ghost) (script : List (Call × Answer)) :
    (runG env w g script).2.2.length = script.length := by
  induction script generalizing w g with
  | nil => simp [runG]
  | cons ca rest ih =>
    obtain ⟨c, a⟩ := ca
    simp [runG, ih]

/-! ### A refused call leaves the writer as it was -/

/-- A `Write` that returns an error has changed nothing: not the chunk, not `flushed`, not `size`,
not the location. -/
theorem write_refused_unchanged (env : UrlEnv) (w : W) (buf : Bytes) (a : Answer) (e : WErr)
    (h : (write env w buf a).out = .error e) : (write env w buf a).w = w := by
  revert h
  fun_cases write env w buf a <;> simp

/-- The same for `Commit`. -/
theorem commit_refused_unchanged (env : UrlEnv) (w : W) (d : Bytes) (a : Answer) (e : WErr)
    (h : (commit env w d a).out = .error e) : (commit env w d a).w = w := by
  revert h
  fun_cases commit env w d a <;> simp

/-- A `Close` that returns an error keeps every byte: only `closed` and `closeErr` change. -/
theorem close_refused_keeps_data (env : UrlEnv) (w : W) (a : Answer) (e : WErr)
    (hc : w.closed = false) (h : (close env w a).out = .error e) :
    (close env w a).w = { w with closed := true, closeErr := some e } := by
  revert h
  fun_cases close env w a <;> simp_all

/-- Retry safety, call by call: repeating a refused `Write` or `Commit` sends exactly the same
request again (same URL, same `Content-Range`, same body), whatever the second answer is. -/
theorem retry_sends_same (env : UrlEnv) (w : W) (c : Call) (a a' : Answer) (e : WErr)
    (hc : c ≠ .close) (h : (step env w c a).2.result = .error e) :
    (step env (step env w c a).1 c a').2.reqs = (step env w c a).2.reqs := by
  have hw : (step env w c a).1 = w := by
    cases c with
    | close => exact absurd rfl hc
    | cancel => rfl
    | write buf =>
      revert h
      simp only [step]
      fun_cases write env w buf a <;> simp [mapOut]
    | commit d => exact commit_refused_unchanged env w d a e h
  rw [hw]; exact requests_independent_of_answer env w c a' a

/-! ### The invariant: acknowledged ++ buffered = accepted -/

/-- `ClientWriter.Inv off w g`, in words: the bodies the server has acknowledged, followed by the bytes the
writer still holds, are exactly the bytes of the Writes that returned success; `flushed` counts
the former and `Size()` the latter, both from the offset the writer started at. -/
example (off : Int) (w : W) (g : Ghost) :
    ClientWriter.Inv off w g ↔ (g.acked ++ w.chunk = g.accepted ∧ w.flushed = off + (g.acked.length : Int) ∧
      w.size = off + (g.accepted.length : Int)) := Iff.rfl

/-- A writer fresh from `PushBlobChunked` satisfies the invariant at offset 0, whatever the
registry answered. -/
theorem start_inv (env : UrlEnv) (u : Loc) (hint : Int) (a : Answer) (w : W)
    (h : (start env u hint a).1 = .ok w) : ClientWriter.Inv 0 w {} := by
  revert h
  fun_cases start env u hint a <;> simp
  rintro rfl
  simp [ClientWriter.Inv]

/-- A writer fresh from `PushBlobChunkedResume` satisfies it at the offset it adopted: the
caller's, or the one read from the registry's `Range` answer. -/
theorem resume_inv (env : UrlEnv) (id : Bytes) (off hint : Int) (a : Answer) (w : W)
    (h : (resume env id off hint a).1 = .ok w) : ClientWriter.Inv w.size w {} ∧ (off ≠ -1 → w.size = off) := by
  obtain ⟨hc, hf, ho⟩ := (resume_spec env id off hint a).2 w h
  exact ⟨⟨hc, by simpa using hf, by simp⟩, ho⟩

/-- **Retry safety** (one call): whatever the call and whatever the answer — success, 4xx, 5xx,
429, an unexpected 2xx, a missing or malformed `Location`, no response — the invariant survives.
Nothing is dropped and nothing is duplicated. -/
theorem inv_step (env : UrlEnv) (off : Int) (w : W) (g : Ghost) (c : Call) (a : Answer)
    (h : ClientWriter.Inv off w g) : ClientWriter.Inv off (stepG env w g c a).1 (stepG env w g c a).2.1 := by
  show Inv off (step env w c a).1 ⟨g.acked ++ ackOf env a (step env w c a).2.reqs,
    g.accepted ++ accOf c (step env w c a).2.result⟩
  -- in every branch that flushes, `inv_flush` is the goal (accepted) or says nothing was acknowledged (refused)
  cases c with
  | cancel => exact inv_same h ⟨rfl, rfl, rfl⟩ rfl rfl
  | write buf =>
    simp only [step, write]
    split
    · have hfl := inv_flush h env buf [] a
      revert hfl
      cases flush env w buf [] a with
      | mk o rs => cases o with
        | error e => exact fun hfl => inv_same h ⟨rfl, rfl, rfl⟩ hfl rfl
        | ok w1 => exact id
    · obtain ⟨h1, h2, h3⟩ := h
      refine ⟨?_, ?_, ?_⟩
      · show g.acked ++ [] ++ (w.chunk ++ buf) = g.accepted ++ buf
        rw [List.append_nil, ← List.append_assoc, h1]
      · show w.flushed = off + ((g.acked ++ []).length : Int)
        rw [List.append_nil, h2]
      · show w.size + (buf.length : Int) = off + ((g.accepted ++ buf).length : Int)
        rw [h3, List.length_append, Int.natCast_add, Int.add_assoc]
  | commit d =>
    simp only [step, commit]
    split
    · exact inv_same h ⟨rfl, rfl, rfl⟩ rfl rfl
    · have hfl := inv_flush h env [] d a
      revert hfl
      cases flush env w [] d a with
      | mk o rs => cases o with
        | error e => exact fun hfl => inv_same h ⟨rfl, rfl, rfl⟩ hfl rfl
        | ok w1 => exact fun hfl => ⟨hfl.1, hfl.2.1, (Int.add_zero _).symm.trans hfl.2.2⟩
  | close =>
    simp only [step, close]
    split
    · exact inv_same h ⟨rfl, rfl, rfl⟩ rfl rfl
    · have hfl := inv_flush h env [] [] a
      revert hfl
      cases flush env w [] [] a with
      | mk o rs => cases o with
        | error e => exact fun hfl => inv_same h ⟨rfl, rfl, rfl⟩ hfl rfl
        | ok w1 => exact fun hfl => ⟨hfl.1, hfl.2.1, (Int.add_zero _).symm.trans hfl.2.2⟩

/-- **Retry safety** (all scripts): for every sequence of calls — any partition into writes,
closes, commits, retries — and every sequence of answers. -/
theorem inv_run (env : UrlEnv) (off : Int) (script : List (Call × Answer)) (w : W) (g : Ghost)
    (h : ClientWriter.Inv off w g) : ClientWriter.Inv off (runG env w g script).1 (runG env w g script).2.1 := by
  induction script generalizing w g with
  | nil => simpa [runG] using h
  | cons ca rest ih =>
    obtain ⟨c, a⟩ := ca
    have h1 := inv_step env off w g c a h
    have := ih (stepG env w g c a).1 (stepG env w g c a).2.1 h1
    simpa [runG] using this

/-- Every request a call makes carries exactly the next unacknowledged bytes, at exactly the
offset of the acknowledged ones: `acknowledged ++ body = accepted ++ (this Write's bytes)` and
`Content-Range` is `RangeString(off + |acknowledged|, off + |acknowledged| + |body|)`. -/
theorem request_exact (env : UrlEnv) (off : Int) (w : W) (g : Ghost) (c : Call) (a : Answer)
    (h : ClientWriter.Inv off w g) (r : Req) (hr : r ∈ (step env w c a).2.reqs) :
    g.acked ++ r.body = g.accepted ++ argBytes c ∧
    r.contentRange = some (rangeString (off + (g.acked.length : Int))
      (off + (g.acked.length : Int) + (r.body.length : Int))) := by
  rw [step_reqs] at hr
  cases hs : stepReq env w c with
  | none => rw [hs] at hr; cases hr
  | some r' =>
    rw [hs] at hr
    simp only [Option.toList_some, List.mem_singleton] at hr
    subst hr
    obtain ⟨d, hd⟩ := stepReq_flush env w c r hs
    obtain ⟨-, rfl⟩ := flushReq_some hd
    obtain ⟨h1, h2, -⟩ := h
    exact ⟨by rw [← h1, List.append_assoc], by rw [h2]⟩

/-- `Size()` is the offset the writer started at plus the bytes of the Writes that returned
success — after any script, under any answers. -/
theorem size_is_accepted (env : UrlEnv) (off : Int) (script : List (Call × Answer)) (w : W) (g : Ghost)
    (h : ClientWriter.Inv off w g) :
    (runG env w g script).1.size = off + ((runG env w g script).2.1.accepted.length : Int) :=
  (inv_run env off script w g h).2.2

/-- A `Commit` that succeeds has delivered everything: all accepted bytes are acknowledged, the
chunk is empty, and the descriptor's size is `Size()`. -/
theorem commit_ok_delivers_all (env : UrlEnv) (off : Int) (w : W) (g : Ghost) (d : Bytes) (a : Answer)
    (n : Int) (h : ClientWriter.Inv off w g) (hok : (stepG env w g (.commit d) a).2.2.result = .ok n) :
    (stepG env w g (.commit d) a).2.1.acked = (stepG env w g (.commit d) a).2.1.accepted ∧
    (stepG env w g (.commit d) a).1.chunk = [] ∧
    n = off + ((stepG env w g (.commit d) a).2.1.accepted.length : Int) := by
  obtain ⟨h1, -, h3⟩ := inv_step env off w g (.commit d) a h
  have key : (commit env w d a).w.chunk = [] ∧ n = (commit env w d a).w.size := by
    revert hok
    show (commit env w d a).out = .ok n → _
    fun_cases commit env w d a
    · exact nofun
    · exact nofun
    · next w1 rs hf => exact fun hok => ⟨flush_ok_chunk hf, (Except.ok.inj hok).symm⟩
  rw [show (stepG env w g (.commit d) a).1 = (commit env w d a).w from rfl] at h1 h3 ⊢
  rw [key.1, List.append_nil] at h1
  exact ⟨h1, key.1, by rw [key.2, h3]⟩

/-! ### After `Close` -/

/-- After a `Close` that failed, every later `Close` returns that same error without sending
anything, whatever the transport would have answered: **`Close` is not retryable.** -/
theorem close_error_sticky (env : UrlEnv) (w : W) (a a' : Answer) (e : WErr)
    (hc : w.closed = false) (h : (close env w a).out = .error e) :
    (close env (close env w a).w a').out = .error e ∧ (close env (close env w a).w a').reqs = [] ∧
    (close env (close env w a).w a').w = (close env w a).w := by
  rw [close_refused_keeps_data env w a e hc h]
  simp [close, closedResult]

/-- After a `Close` that succeeded, later `Close`s return success and send nothing. -/
theorem close_ok_sticky (env : UrlEnv) (w : W) (a a' : Answer)
    (h : (close env w a).out = .ok ()) :
    (close env (close env w a).w a').out = .ok () ∧ (close env (close env w a).w a').reqs = [] := by
  revert h
  fun_cases close env w a <;> simp_all [close, closedResult]

/-- Surprising but so in the code: `Write` does not look at `closed` — a closed writer (closed
with or without error) accepts and sends data exactly like an open one. -/
theorem write_ignores_closed (env : UrlEnv) (w : W) (buf : Bytes) (a : Answer) (cl : Bool) (ce : Option WErr) :
    (write env (setClosed w cl ce) buf a).out = (write env w buf a).out ∧
    (write env (setClosed w cl ce) buf a).reqs = (write env w buf a).reqs ∧
    (write env (setClosed w cl ce) buf a).w = setClosed (write env w buf a).w cl ce := by
  unfold write
  by_cases hcond : ((w.chunk.length + buf.length : Nat) : Int) > w.chunkSize
  · have hcond' : (((setClosed w cl ce).chunk.length + buf.length : Nat) : Int) > (setClosed w cl ce).chunkSize := hcond
    rw [if_pos hcond, if_pos hcond', flush_setClosed]
    cases flush env w buf [] a with
    | mk o rs => cases o <;> exact ⟨rfl, rfl, rfl⟩
  · have hcond' : ¬ (((setClosed w cl ce).chunk.length + buf.length : Nat) : Int) > (setClosed w cl ce).chunkSize := hcond
    rw [if_neg hcond, if_neg hcond']
    exact ⟨rfl, rfl, rfl⟩

/-- `Commit` does not look at `closed` either: after a failed `Close` the bytes it could not deliver are still in
the chunk, and a `Commit` sends exactly the body and `Content-Range` the `Close` had sent. -/
theorem commit_after_failed_close_resends (env : UrlEnv) (w : W) (a a' : Answer) (e : WErr) (d : Bytes)
    (hc : w.closed = false) (hd : d ≠ []) (h : (close env w a).out = .error e) :
    ∃ r r', (close env w a).reqs = [r] ∧ (commit env (close env w a).w d a').reqs = [r'] ∧
      r'.body = r.body ∧ r'.contentRange = r.contentRange := by
  rw [close_refused_keeps_data env w a e hc h]
  have h1 := step_reqs env w .close a
  have h2 := step_reqs env { w with closed := true, closeErr := some e } (.commit d) a'
  simp only [step, stepReq, hc, hd, Bool.false_eq_true, if_false] at h1 h2
  -- both requests are flushes of the same chunk from the same offset
  cases hr : flushReq env w [] [] with
  | none => simp [close, hc, flush, hr] at h
  | some r =>
    cases hr' : flushReq env { w with closed := true, closeErr := some e } [] d with
    | none => exact absurd (flushReq_none_empty hr').1 hd
    | some r' =>
      have e1 := (flushReq_some hr).2
      have e2 := (flushReq_some hr').2
      exact ⟨r, r', by rw [h1, hr]; rfl, by rw [h2, hr']; rfl, by rw [e1, e2], by rw [e1, e2]⟩

/-! ### Allocation is bounded by the caller, never by the registry -/

/-- `Write` allocates at most once, and never more than `defaultChunkSize` (64 KiB), however
large a chunk size the registry dictated. -/
theorem write_alloc_bounded (env : UrlEnv) (w : W) (buf : Bytes) (a : Answer) :
    ∀ n ∈ (write env w buf a).allocs, n ≤ defaultChunkSize ∧ n ≤ w.chunkSize := by
  fun_cases write env w buf a
  · exact nofun
  · exact nofun
  · intro n hn
    change n ∈ (if w.allocated then [] else [min w.chunkSize defaultChunkSize]) at hn
    split at hn
    · cases hn
    · rw [List.mem_singleton.mp hn]
      exact ⟨Int.min_le_right _ _, Int.min_le_left _ _⟩

/-- `PushBlobChunked` allocates the caller's chunk size (or the default), but never more than the default (F38: the
hint is only a hint, so a hint of `math.MaxInt` cannot make `makeslice` panic); the `OCI-Chunk-Min-Length` of the
answer has no influence. -/
theorem start_alloc_is_callers (env : UrlEnv) (u : Loc) (hint : Int) (a : Answer) :
    ∀ n ∈ (start env u hint a).2.2, n = min (if hint ≤ 0 then defaultChunkSize else hint) defaultChunkSize := by
  fun_cases start env u hint a <;> simp
  rfl

/-- **Every allocation of the writer is bounded by the default chunk size**, whatever hint the caller passes and
whatever the registry answers (F18 for the resumed writer, F38 for the fresh one). -/
theorem start_alloc_bounded (env : UrlEnv) (u : Loc) (hint : Int) (a : Answer) :
    ∀ n ∈ (start env u hint a).2.2, n ≤ defaultChunkSize := by
  intro n hn
  rw [start_alloc_is_callers env u hint a n hn]
  exact Int.min_le_right _ _

/-- No other call allocates. -/
theorem other_calls_do_not_allocate (env : UrlEnv) (w : W) (c : Call) (a : Answer)
    (hc : ∀ buf, c ≠ .write buf) : (step env w c a).2.allocs = [] := by
  cases c with
  | write buf => exact absurd rfl (hc buf)
  | cancel => rfl
  | commit d =>
    simp only [step]
    fun_cases commit env w d a <;> rfl
  | close =>
    simp only [step]
    fun_cases close env w a <;> rfl

/-- The chunk size of a new writer is positive and at least what the caller asked for. -/
theorem chunkSize_at_least_hint (a : Answer) (hint : Int) :
    (if hint ≤ 0 then defaultChunkSize else hint) ≤
      chunkSizeFromResponse a (if hint ≤ 0 then defaultChunkSize else hint) ∧
    0 < chunkSizeFromResponse a (if hint ≤ 0 then defaultChunkSize else hint) := by
  refine ⟨chunkSizeFromResponse_ge a _, Int.lt_of_lt_of_le ?_ (chunkSizeFromResponse_ge a _)⟩
  split
  · decide
  · omega

/-! ### With a server that accepts everything the model refines `Upload.lean`'s writer -/

open OciModel.Upload in
/-- `flush`: composed with the idealised server of `Upload.lean`, the request this model sends
(`Content-Range`, body) and the client state it reaches are exactly those of `Upload.flush`. -/
theorem flush_refines_upload (H : Bytes → Bytes) (env : UrlEnv) (w : W) (sv : Srv) (buf c : Bytes) (a : Answer)
    (hf : 0 ≤ w.flushed) (ha : Accepting env (if c = [] then 202 else 201) a) :
    Upload.flush H (toCW w) sv buf (optDigest c) =
      viaIdeal H sv (optDigest c) (flush env w buf c a).2
        (match (flush env w buf c a).1 with
         | .ok w1 => toCW w1
         | .error _ => toCW w) := by
  obtain ⟨w1, hfl, -, -, hr⟩ := flush_refines H env w sv buf c a hf ha
  rw [hfl]; exact hr

open OciModel.Upload in
/-- `Write`, composed with the idealised server, is `Upload.write`. -/
theorem write_refines_upload (H : Bytes → Bytes) (env : UrlEnv) (w : W) (sv : Srv) (data : Bytes) (a : Answer)
    (hf : 0 ≤ w.flushed) (hs : 0 ≤ w.size) (hcs : 0 ≤ w.chunkSize) (ha : Accepting env 202 a) :
    Upload.write H (toCW w) sv data =
      viaIdeal H sv none (write env w data a).reqs (toCW (write env w data a).w) := by
  have hcond : (toCW w).chunk.length + data.length > (toCW w).chunkSize ↔
      ((w.chunk.length + data.length : Nat) : Int) > w.chunkSize := by
    show w.chunk.length + data.length > w.chunkSize.toNat ↔ _
    omega
  unfold Upload.write ClientWriter.write
  by_cases hc : ((w.chunk.length + data.length : Nat) : Int) > w.chunkSize
  · obtain ⟨w1, hfl, hsz, -, hr⟩ := flush_refines H env w sv data [] a hf ha
    rw [show optDigest [] = none from rfl] at hr
    rw [if_pos (hcond.mpr hc), hr, if_pos hc, hfl]
    rcases viaIdeal_cw H sv none (flushReq env w data []).toList with ⟨e, he⟩ | ⟨sv1, log, hok⟩
    · rw [he, he]
    · rw [hok, hok]
      simp only [toCW, Int.toNat_add_nat (hsz ▸ hs)]
  · rw [if_neg (fun h => hc (hcond.mp h)), if_neg hc]
    simp only [viaIdeal, toCW, Int.toNat_add_nat hs]

open OciModel.Upload in
/-- `Commit`, composed with the idealised server, is `Upload.commit`. -/
theorem commit_refines_upload (H : Bytes → Bytes) (env : UrlEnv) (w : W) (sv : Srv) (d : Bytes) (a : Answer)
    (hf : 0 ≤ w.flushed) (hd : d ≠ []) (ha : Accepting env 201 a) :
    Upload.commit H (toCW w) sv d =
      match viaIdeal H sv (some d) (commit env w d a).reqs (toCW (commit env w d a).w) with
      | .error e => .error e
      | .ok (_, sv1, log) => .ok (sv1, log) := by
  obtain ⟨w1, hfl, -, -, hr⟩ := flush_refines H env w sv [] d a hf (by rwa [if_neg hd])
  rw [show optDigest d = some d from if_neg hd] at hr
  unfold Upload.commit ClientWriter.commit
  rw [hr, if_neg hd, hfl]
  rfl

open OciModel.Upload in
/-- `Close`, then `PushBlobChunkedResume(ID(), Size(), ChunkSize())`: `Upload.lean`'s
`closeResumeExplicit`. (When the offset is asked of the registry instead, the new writer adopts
what the `Range` answer says — `resume_inv`; that this is the registry's true offset except after
exactly one byte is C04's `askedOffset_eq` / `askedOffset_one`.) -/
theorem close_resume_refines_upload (H : Bytes → Bytes) (env : UrlEnv) (w : W) (sv : Srv) (a a' : Answer)
    (id : Bytes) (u : Loc)
    (hc : w.closed = false) (hf : 0 ≤ w.flushed) (hs : 0 ≤ w.size) (hcs : 0 < w.chunkSize)
    (ha : Accepting env 202 a) (hid : id ≠ []) (hp : env.parseID id = some (u, true)) :
    ∃ w2, resume env id (close env w a).w.size w.chunkSize a' = (.ok w2, []) ∧
      Upload.step H (toCW w) sv .closeResumeExplicit =
        viaIdeal H sv none (close env w a).reqs (toCW w2) := by
  obtain ⟨w1, hfl, hsz, hcsz, hr⟩ := flush_refines H env w sv [] [] a hf ha
  simp only [close, hc, hfl, Bool.false_eq_true, if_false]
  refine ⟨_, resume_explicit hid (hsz ▸ hs) hp, ?_⟩
  rw [show optDigest [] = none from rfl] at hr
  unfold Upload.step
  rw [hr, if_neg (Int.not_le.mpr hcs)]
  rcases viaIdeal_cw H sv none (flushReq env w [] []).toList with ⟨e, he⟩ | ⟨sv1, log, hok⟩
  · simp only [he]
  · simp only [hok, toCW, hcsz]

/-- Non-vacuity of `close_resume_refines_upload`: an ID that parses to an absolute path. -/
example : toyEnv.parseID (strBytes "/u/1") = some ({ path := strBytes "/u/1" }, true) := rfl

/-- The hypotheses of the refinement theorems are satisfiable: a concrete accepting answer. -/
example : Accepting toyEnv 202 { status := 202, location := strBytes "/u/1" } := by
  refine ⟨rfl, by decide, fun _ => rfl⟩

/-! ### Facts extracted from writer.go (regenerated on every run) -/

open OciModel.Generated.WriterFacts in
/-- The F18 class: no `make` (or `Grow`) in writer.go sizes its result by a value that came from
the registry (`OCI-Chunk-Min-Length` through `chunkSizeFromResponse`, the `chunkSize` field) or by
a value of unknown origin: only constants, the caller's arguments, and `min(…)` of something
that is one of those. -/
theorem generated_allocs_bounded :
    shapeKnown = true ∧
    allocs.all (fun s => (s.lenProv == .const || s.lenProv == .caller) &&
                         (s.capProv == .const || s.capProv == .caller)) = true := by decide +kernel

open OciModel.Generated.WriterFacts in
/-- The taint analysis is not vacuous: it does see the registry's value arrive in the writer. -/
theorem generated_chunkSize_is_servers : chunkSizeFieldProv = .server := by decide +kernel

open OciModel.Generated.WriterFacts in
/-- `flush` touches the writer only after the request has succeeded and its `Location` has been
read: every assignment to a field of the receiver comes after the last error return. -/
theorem generated_flush_assigns_after_success :
    flushDoFound = true ∧ flushAssigns ≠ [] ∧ flushAssigns.all (·.afterLastGuard) = true ∧
    "flushed" ∈ flushAssigns.map (·.field) ∧ "chunk" ∈ flushAssigns.map (·.field) := by decide +kernel

open OciModel.Generated.WriterFacts in
/-- `Write` adds to `size` only after `flush` has been checked, and the chunk never aliases the
caller's slice: it is only ever made, re-sliced from itself, or appended to. -/
theorem generated_write_copies :
    writeSizeAfterFlushCheck = true ∧ chunkAssigns ≠ [] ∧ chunkAssigns.all (fun s => !s.aliasesParam) = true := by
  decide +kernel

open OciModel.Generated.WriterFacts in
/-- `flush` sends the buffered chunk before the new bytes: `concatBody(w.chunk, buf)`, and
`concatBody` reads its first argument first. -/
theorem generated_body_order :
    flushBodyArgs = ["recv.chunk", "param:0"] ∧ multiReaderParamOrder = [0, 1] ∧
    concatSingles = [(0, 1), (1, 0)] := by decide +kernel

/-! ### Concrete scripts (toy `net/url`) -/

/-- chunk size 4: `[1, 2, 3]` is buffered; `[4, 5]` overflows and is refused twice (500, then no response):
the same five bytes go out each time; the third attempt is acknowledged; `Size()` follows the
accepted Writes only. -/
example :
    let w0 : W := { chunkSize := 4, allocated := true, location := { path := strBytes "/u/0" } }
    let ok : Answer := { status := 202, location := strBytes "/u/1" }
    let r := runG toyEnv w0 {} [(.write [1, 2, 3], ok), (.write [4, 5], ⟨500, [], [], []⟩),
      (.write [4, 5], ⟨0, [], [], []⟩), (.write [4, 5], ok)]
    r.1.size = 5 ∧ r.1.flushed = 5 ∧ r.1.chunk = [] ∧ r.2.1 = ⟨[1, 2, 3, 4, 5], [1, 2, 3, 4, 5]⟩ ∧
    r.2.2.map (fun o => o.reqs.map (·.body)) = [[], [[1, 2, 3, 4, 5]], [[1, 2, 3, 4, 5]], [[1, 2, 3, 4, 5]]] := by
  decide +kernel

/-- Non-vacuity of the theorems about refused calls and about `Close`: a `Close` with bytes in the chunk that is answered 500 fails, keeps the
bytes, and records the error; a `Write` that overflows and is answered 429 fails. -/
example :
    let w0 : W := { chunkSize := 4, chunk := [1, 2], size := 2, location := { path := strBytes "/u/0" } }
    (close toyEnv w0 ⟨500, [], [], []⟩).w = { w0 with closed := true, closeErr := some (.http 500) } ∧
    (close toyEnv w0 ⟨500, [], [], []⟩).reqs.map (·.body) = [[1, 2]] ∧
    (write toyEnv w0 [3, 4, 5] ⟨429, [], [], []⟩).w = w0 ∧
    (write toyEnv w0 [3, 4, 5] ⟨429, [], [], []⟩).reqs.map (·.body) = [[1, 2, 3, 4, 5]] := by decide +kernel

/-- Non-vacuity of `start_inv` / `resume_inv`: both ways of opening a writer can succeed. -/
example :
    ((start toyEnv { path := strBytes "/s" } 0 { status := 202, location := strBytes "/u/1" }).1.toOption.map
      fun w => (w.chunkSize, w.size, w.flushed)) = some (65536, 0, 0) ∧
    ((resume toyEnv (strBytes "/u/1") 7 3 ⟨0, [], [], []⟩).1.toOption.map
      fun w => (w.chunkSize, w.size, w.flushed)) = some (3, 7, 7) := by decide +kernel

/-- a 202 without `Location` is a refusal too: nothing moves -/
example :
    let w0 : W := { chunkSize := 2, chunk := [7], size := 1, location := { path := strBytes "/u/0" } }
    (write toyEnv w0 [8, 9] { status := 202 }).w = w0 := by decide +kernel

/-- a huge `OCI-Chunk-Min-Length` is adopted as chunk size, but the first `Write` of a resumed
writer still allocates 64 KiB at most -/
example :
    ((resume toyEnv (strBytes "/u/0") (-1) 4
        { status := 204, location := strBytes "/u/1", range := strBytes "0-9",
          chunkMin := strBytes "9223372036854775807" }).1.toOption.map
      fun w => (w.chunkSize, w.size, (write toyEnv w [1] ⟨0, [], [], []⟩).allocs))
    = some (9223372036854775807, 10, [65536]) := by decide +kernel

end OciModel.Props.C04W
