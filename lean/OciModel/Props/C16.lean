/-
C16 (PARTIAL) — concurrent unified reads are leak-free for every answer order
and cancellation.

Partial in this sense: goroutine scheduling, channels, `select` and `context`
are the primitives of `OciModel.UnifyConc` (trusted); what is proved is that the
protocol `runReadConcurrent` / `runRead` / `runReadBlobReader` / `blobReader.Close`
builds from them has the stated properties on EVERY schedule (every path of the
transition system), for all 2 × 2 outcomes, both answer orders, caller
cancellation and reader close at any point, reader-style and resolve-style entry
points. The state space is finite by nature, so evaluating the whole system in
the kernel IS the proof; the result is then lifted to all paths by induction
(termination alone needs no evaluation: `rank_decreases` holds from any state).
Order of the file: what is checked at each state for progress; the one evaluation; safety and settlement,
clause by clause; progress (main can return as soon as a success is on offer or the caller has cancelled, no
reachable state short of the end is stuck, every maximal run ends terminal) with its witnesses; the witnesses
for safety; the obligations on the Go text.
That the Go text is the text the model mirrors is the obligation
`generated_protocol_pinned`.
-/
import OciModel.UnifyConc
import OciModel.UnifyConcLemmas
import OciModel.Generated.Unify
import OciModel.Unify

namespace OciModel.Props.C16
open OciModel.UnifyConc

theorem allCfgs_complete (cfg : Cfg) : cfg ∈ allCfgs := by
  obtain ⟨a, b, c⟩ := cfg
  cases a <;> cases b <;> cases c <;> decide

/-- How far main and the two senders are from their ends: 6 at the start, 0 when main has returned and
both senders have finished. -/
def rank (s : St) : Nat :=
  (match s.main with | .sel1 => 2 | .sel2 => 1 | .returned => 0) +
  (match s.s0 with | .running => 2 | .offering => 1 | _ => 0) +
  (match s.s1 with | .running => 2 | .offering => 1 | _ => 0)

/-- Every step of the code moves main or one sender forward and leaves the other two where they are, so the rank
decreases from ANY state, reachable or not. The seven kinds of step in the order of `sysStep`: a member returns (2),
main takes an answer (2), a sender is released (2), main takes `<-ctx.Done()`. -/
theorem rank_decreases (cfg : Cfg) (s s' : St) (hs : s' ∈ sysStep cfg s) : rank s' < rank s := by
  obtain ⟨m, rt, a, b, c0, c1, k0, k1, cc, rc⟩ := s
  simp only [sysStep, List.mem_append] at hs
  rcases hs with ((((((h | h) | h) | h) | h) | h) | h)
  all_goals
    -- `s'` spelt out, one goal per branch of the step
    simp only [memberReturn, deliver, release, mainCtxDone, St.sender, St.setSender, St.setCancel, St.setClosed,
      Bool.false_eq_true, if_false, if_true] at h
    repeat' split at h
    all_goals simp_all [rank]
    -- what is left depends on where main stood
    all_goals try cases m
    all_goals try simp_all
    all_goals omega

/-! ### Progress: what is checked at each state

Safety (`safe`, `settled`) says what a state may look like; the definitions below say that the
code can always MOVE, and which goroutine can: main can return as soon as one
successful answer is on offer (the other member may still be inside its call),
main can return as soon as the caller's context is cancelled, and no reachable
state short of the end is stuck. -/

/-- The steps of MAIN alone: take sender 0's result, take sender 1's, or take `<-ctx.Done()`. -/
def mainSteps (cfg : Cfg) (s : St) : List St := deliver cfg s false ++ deliver cfg s true ++ mainCtxDone s

/-- The steps of ociunify's own goroutines (main and the two senders once `f` has
returned): `sysStep` without the members' calls returning. -/
def codeSteps (cfg : Cfg) (s : St) : List St := mainSteps cfg s ++ release cfg s false ++ release cfg s true

/-- The sender goroutine has exited. -/
def finished (x : Sender) : Bool := x == .delivered || x == .released

/-- The end of a call: main has returned and both sender goroutines have exited. -/
def terminal (s : St) : Bool := s.main == .returned && finished s.s0 && finished s.s1

/-- Member `i`'s successful answer is on offer: its sender stands at `c <- result{…}`. -/
def onOffer (cfg : Cfg) (s : St) (i : Bool) : Bool := s.sender i == .offering && cfg.ok i

/-- Main has not returned and `i`'s success is on offer ⇒ taking it is an enabled step of the
system, a step of main, and main returns `i`'s answer by it; and whichever step main takes
(Go's `select` may prefer the other ready case) it has returned after at most two steps OF ITS
OWN — no step of a member or a sender is needed in between. -/
def succEnablesAt (cfg : Cfg) (s : St) (i : Bool) : Bool :=
  imp (s.main != .returned && onOffer cfg s i)
    (((deliver cfg s i).any fun s' =>
        (step cfg s).contains s' && (mainSteps cfg s).contains s' && s'.main == .returned && s'.ret == resOf i) &&
     ((mainSteps cfg s).all fun s' =>
        s'.main == .returned ||
        (!(mainSteps cfg s').isEmpty && (mainSteps cfg s').all fun s'' => s''.main == .returned)))

/-- The caller has cancelled and main has not returned ⇒ `<-ctx.Done()` is an enabled step. -/
def cancelEnablesAt (cfg : Cfg) (s : St) : Bool :=
  imp (s.callerCancelled && s.main != .returned)
    ((mainCtxDone s).any fun s' =>
      (step cfg s).contains s' && (mainSteps cfg s).contains s' && s'.main == .returned && s'.ret == .ctxErr)

/-- Not at the end ⇒ some step of the code under analysis is enabled; and if none of ociunify's
own goroutines can move, then main is waiting, nobody has cancelled, nothing is on offer and a
member is still inside its call: the only thing waited for is a member. -/
def noDeadlockAt (cfg : Cfg) (s : St) : Bool :=
  imp (!terminal s) (!(sysStep cfg s).isEmpty) &&
  imp (!terminal s && (codeSteps cfg s).isEmpty)
    ((s.s0 == .running || s.s1 == .running) && s.s0 != .offering && s.s1 != .offering &&
     imp (s.main != .returned) (!s.callerCancelled))

def progressAt (cfg : Cfg) (s : St) : Bool :=
  succEnablesAt cfg s false && succEnablesAt cfg s true && cancelEnablesAt cfg s && noDeadlockAt cfg s

/-! ### The one evaluation -/

/-- (i) the computed set contains the initial state and is closed under every
transition, (ii) every state in it is safe, (iii) every state in it where the
code can take no further step is settled, (iv) `progressAt` holds at every state in it — for all eight scenarios.
Checked by kernel evaluation of the whole system; everything below is read off this theorem. -/
theorem reachable_checked : ∀ cfg ∈ allCfgs,
    (checkAll cfg (reachable cfg) && (reachable cfg).all (progressAt cfg)) = true := by
  decide +kernel

theorem system_checked : ∀ cfg ∈ allCfgs, checkAll cfg (reachable cfg) = true :=
  fun cfg h => (Bool.and_eq_true_iff.1 (reachable_checked cfg h)).1

theorem system_terminates_checked :
    ∀ cfg ∈ allCfgs, (reachable cfg).all (fun s => (sysStep cfg s).all fun s' => rank s' < rank s) = true :=
  fun cfg _ => List.all_eq_true.2 fun s _ => List.all_eq_true.2 fun s' hs' => decide_eq_true (rank_decreases cfg s s' hs')

theorem progress_checked : ∀ cfg ∈ allCfgs, (reachable cfg).all (progressAt cfg) = true :=
  fun cfg h => (Bool.and_eq_true_iff.1 (reachable_checked cfg h)).2

theorem contains_iff {s : St} {R : List St} : R.contains s = true ↔ s ∈ R := by
  simp

/-- Every state of every schedule lies in the computed set. -/
theorem reach_in_reachable (cfg : Cfg) (s : St) (h : Reach cfg s) : s ∈ reachable cfg := by
  have hc := system_checked cfg (allCfgs_complete cfg)
  simp only [checkAll, closedUnder, Bool.and_eq_true, List.all_eq_true] at hc
  obtain ⟨⟨hinit, hclosed⟩, _⟩ := hc
  induction h with
  | init => exact contains_iff.1 hinit
  | step _ hs' ih => exact contains_iff.1 (hclosed _ ih _ hs')

/-- Safety on all paths: whatever the order in which the members answer, the
caller cancels, and the caller closes the reader. -/
theorem all_paths_safe (cfg : Cfg) (s : St) (h : Reach cfg s) : safe cfg s = true := by
  have hc := system_checked cfg (allCfgs_complete cfg)
  simp only [checkAll, Bool.and_eq_true, List.all_eq_true] at hc
  exact (hc.2 s (reach_in_reachable cfg s h)).1

/-- Safety for member `i` on all paths. -/
theorem all_paths_safeAt (cfg : Cfg) (s : St) (h : Reach cfg s) (i : Bool) : safeAt cfg s i = true := by
  have hs := all_paths_safe cfg s h
  simp only [safe, Bool.and_eq_true] at hs
  obtain ⟨⟨_, at0⟩, at1⟩ := hs
  cases i
  · exact at0
  · exact at1

/-- On all paths: a state in which the code can take no further step is settled. -/
theorem all_paths_settle (cfg : Cfg) (s : St) (h : Reach cfg s) (hq : quiescent cfg s = true) :
    settled cfg s = true := by
  have hc := system_checked cfg (allCfgs_complete cfg)
  simp only [checkAll, Bool.and_eq_true, List.all_eq_true] at hc
  have := (hc.2 s (reach_in_reachable cfg s h)).2
  simpa [imp, hq] using this

theorem all_paths_settledAt (cfg : Cfg) (s : St) (h : Reach cfg s) (hq : quiescent cfg s = true) (i : Bool) :
    settledAt cfg s i = true := by
  have hs := all_paths_settle cfg s h hq
  simp only [settled, Bool.and_eq_true] at hs
  obtain ⟨⟨⟨_, at0⟩, at1⟩, _⟩ := hs
  cases i
  · exact at0
  · exact at1

/-- On all paths the code's steps decrease `rank`: no schedule lets the code run
for ever, so once both members' calls have returned a settled state is reached. -/
theorem all_paths_terminate (cfg : Cfg) (s s' : St) (h : Reach cfg s) (hs : s' ∈ sysStep cfg s) :
    rank s' < rank s := by
  exact rank_decreases cfg s s' hs

/-! ### The statement of the property, clause by clause

In the proofs `c1 … c6` are the clauses (1)–(6) of `UnifyConc.safeAt`. -/

/-- The call returns an error only when both members failed or the caller
cancelled; it never returns a member's failure while the other member succeeded. -/
theorem error_only_when_justified (cfg : Cfg) (s : St) (h : Reach cfg s) :
    (s.ret = .ctxErr → s.callerCancelled = true) ∧
    (∀ i, s.ret = resOf i → cfg.ok i = false → cfg.ok0 = false ∧ cfg.ok1 = false) := by
  refine ⟨fun hr => ?_, fun i hr hok => ?_⟩
  · have hs := all_paths_safe cfg s h
    simp only [safe, imp, Bool.and_eq_true] at hs
    obtain ⟨⟨⟨⟨c0, _⟩, _⟩, _⟩, _⟩ := hs
    simpa [hr] using c0
  · have hs := all_paths_safeAt cfg s h i
    simp only [safeAt, imp, Bool.and_eq_true] at hs
    obtain ⟨⟨⟨⟨⟨c1, c2⟩, c3⟩, c4⟩, c5⟩, c6⟩ := hs
    simpa [hr, hok] using c3

/-- A returned success is the first successful answer main received: the other
member's answer was not taken before it, unless it was a failure. -/
theorem returns_first_success (cfg : Cfg) (s : St) (h : Reach cfg s) (i : Bool)
    (hr : s.ret = resOf i) (hok : cfg.ok i = true) :
    ¬ (s.sender (other i) = .delivered ∧ cfg.ok (other i) = true) := by
  have hs := all_paths_safeAt cfg s h i
  simp only [safeAt, imp, Bool.and_eq_true] at hs
  obtain ⟨⟨⟨⟨⟨c1, c2⟩, c3⟩, c4⟩, c5⟩, c6⟩ := hs
  simp [hr, hok] at c4
  rintro ⟨hd, ho⟩
  rcases c4 with c4 | c4
  · exact c4 hd
  · simp [ho] at c4

/-- Without cancellation by the caller, a settled call has returned a success
whenever some member succeeded (the union view of C15 under the concurrent policy). -/
theorem no_cancel_first_success (cfg : Cfg) (s : St) (h : Reach cfg s) (hq : quiescent cfg s = true)
    (hc : s.callerCancelled = false) :
    (s.ret = .res0 ∧ (cfg.ok0 = true ∨ cfg.ok1 = false)) ∨ (s.ret = .res1 ∧ (cfg.ok1 = true ∨ cfg.ok0 = false)) := by
  have hs := all_paths_settle cfg s h hq
  simp only [settled, imp, Bool.and_eq_true] at hs
  have := hs.2
  simpa [hc] using this

/-- Link to C15: without cancellation the value a settled concurrent read returned
is one of the results `Unify.readAllowed .concurrent` lists (the first success
for one of the two answer orders). -/
theorem conc_result_in_readAllowed {α} (cfg : Cfg) (s : St) (h : Reach cfg s) (hq : quiescent cfg s = true)
    (hc : s.callerCancelled = false) (a0 a1 : Unify.Res α) (h0 : a0.isOk = cfg.ok0) (h1 : a1.isOk = cfg.ok1) :
    (s.ret = .res0 ∧ a0 ∈ Unify.readAllowed .concurrent a0 a1) ∨
    (s.ret = .res1 ∧ a1 ∈ Unify.readAllowed .concurrent a0 a1) := by
  rcases no_cancel_first_success cfg s h hq hc with ⟨hr, hk⟩ | ⟨hr, hk⟩
  · refine Or.inl ⟨hr, ?_⟩
    cases a0 <;> cases a1 <;> simp_all [Unify.readAllowed, Unify.readFirst, Unify.Res.isOk]
  · refine Or.inr ⟨hr, ?_⟩
    cases a0 <;> cases a1 <;> simp_all [Unify.readAllowed, Unify.readFirst, Unify.Res.isOk]

/-- The context given to the chosen member stays live, and its reader open,
until the caller closes the returned reader. -/
theorem winner_ctx_live_until_close (cfg : Cfg) (s : St) (h : Reach cfg s) (i : Bool)
    (hm : s.main = .returned) (hr : s.ret = resOf i) (hok : cfg.ok i = true) (hst : cfg.resolveStyle = false)
    (hopen : s.retClosed = false) :
    s.cancel i = false ∧ s.closed i = false := by
  have hs := all_paths_safeAt cfg s h i
  simp only [safeAt, imp, Bool.and_eq_true] at hs
  obtain ⟨⟨⟨⟨⟨c1, c2⟩, c3⟩, c4⟩, c5⟩, c6⟩ := hs
  simpa [hm, hr, hok, hst, hopen] using c1

/-- Once the caller has closed the returned reader, the chosen member's reader is closed and its context cancelled. -/
theorem cancelled_after_close (cfg : Cfg) (s : St) (h : Reach cfg s) (i : Bool)
    (hr : s.ret = resOf i) (hclosed : s.retClosed = true) :
    s.closed i = true ∧ s.cancel i = true := by
  have hs := all_paths_safeAt cfg s h i
  simp only [safeAt, imp, Bool.and_eq_true] at hs
  obtain ⟨⟨⟨⟨⟨c1, c2⟩, c3⟩, c4⟩, c5⟩, c6⟩ := hs
  simpa [hr, hclosed] using c2

/-- Resolve-style calls and failed calls cancel the chosen member's context at once. -/
theorem resolve_cancels_at_once (cfg : Cfg) (s : St) (h : Reach cfg s) (i : Bool)
    (hr : s.ret = resOf i) (hst : cfg.resolveStyle = true ∨ cfg.ok i = false) :
    s.cancel i = true := by
  have hs := all_paths_safeAt cfg s h i
  simp only [safeAt, imp, Bool.and_eq_true] at hs
  obtain ⟨⟨⟨⟨⟨c1, c2⟩, c3⟩, c4⟩, c5⟩, c6⟩ := hs
  rcases hst with hst | hst <;> simpa [hr, hst] using c6

/-- Every reader opened on the member that was not chosen is closed, and every
context not handed to the caller is cancelled, once the code has nothing left to do. -/
theorem loser_reader_closed (cfg : Cfg) (s : St) (h : Reach cfg s) (hq : quiescent cfg s = true) (i : Bool)
    (hne : s.ret ≠ resOf i) :
    (cfg.ok i = true → cfg.resolveStyle = false → s.closed i = true) ∧ s.cancel i = true := by
  have hs := all_paths_settledAt cfg s h hq i
  simp only [settledAt, imp, Bool.and_eq_true] at hs
  obtain ⟨⟨_, closed⟩, cancelled⟩ := hs
  exact ⟨fun hok hst => by simpa [hok, hst, hne] using closed, by simpa [hne] using cancelled⟩

/-- No goroutine remains blocked: when the code can take no further step, main
has returned and both senders have finished (delivered or released). -/
theorem no_sender_blocked (cfg : Cfg) (s : St) (h : Reach cfg s) (hq : quiescent cfg s = true) :
    s.main = .returned ∧ ∀ i, s.sender i = .delivered ∨ s.sender i = .released := by
  refine ⟨?_, fun i => ?_⟩
  · have hs := all_paths_settle cfg s h hq
    simp only [settled, Bool.and_eq_true] at hs
    obtain ⟨⟨⟨returned, _⟩, _⟩, _⟩ := hs
    simpa using returned
  · have hs := all_paths_settledAt cfg s h hq i
    simp only [settledAt, Bool.and_eq_true] at hs
    obtain ⟨⟨finished, _⟩, _⟩ := hs
    simpa using finished

/-- A sender whose member has returned can always move. -/
theorem offering_can_move (cfg : Cfg) (s : St) (i : Bool) (ho : s.sender i = .offering) :
    deliver cfg s i ≠ [] ∨ release cfg s i ≠ [] := by
  cases hm : s.main <;> cases hok : cfg.ok i <;> cases hst : cfg.resolveStyle <;> simp [deliver, release, ho, hm, hok, hst]

/-! ### Progress on all paths -/

theorem all_paths_progress (cfg : Cfg) (s : St) (h : Reach cfg s) : progressAt cfg s = true := by
  have hc := progress_checked cfg (allCfgs_complete cfg)
  simp only [List.all_eq_true] at hc
  exact hc s (reach_in_reachable cfg s h)

theorem all_paths_succEnablesAt (cfg : Cfg) (s : St) (h : Reach cfg s) (i : Bool) : succEnablesAt cfg s i = true := by
  have hp := all_paths_progress cfg s h
  simp only [progressAt, Bool.and_eq_true] at hp
  obtain ⟨⟨⟨succ0, succ1⟩, _⟩, _⟩ := hp
  cases i
  · exact succ0
  · exact succ1

/-- RETURNS WITHOUT WAITING FOR THE SLOWER MEMBER. On every schedule, in every state
where main has not returned and member `i`'s successful answer is on offer, the step
"main takes `i`'s answer" is enabled, and by it the call returns `i`'s answer. Nothing
is assumed about the other member: its sender may still be `running` (the member is
still inside its call — see the example), `offering` (then Go's `select` may take
either; `success_return_within_two` covers that choice), or done. -/
theorem success_enables_return (cfg : Cfg) (s : St) (h : Reach cfg s) (i : Bool)
    (hm : s.main ≠ .returned) (ho : s.sender i = .offering) (hok : cfg.ok i = true) :
    ∃ s', s' ∈ deliver cfg s i ∧ s' ∈ mainSteps cfg s ∧ s' ∈ step cfg s ∧ s'.main = .returned ∧ s'.ret = resOf i := by
  have key := imp_eq_true.1 (all_paths_succEnablesAt cfg s h i) (by simp [onOffer, ho, hok, hm])
  simp only [Bool.and_eq_true, List.any_eq_true, contains_iff, beq_iff_eq] at key
  obtain ⟨⟨s', hs', hr⟩, _⟩ := key
  exact ⟨s', hs', hr.1.1.2, hr.1.1.1, hr.1.2, hr.2⟩

/-- Whichever ready case main's `select` takes in a state with a success on offer, main has returned
after at most two steps of its own: every step of main either returns, or leads to a
state where main can step again and every step of main returns. No step of the other
member, or of any sender goroutine, is needed. -/
theorem success_return_within_two (cfg : Cfg) (s : St) (h : Reach cfg s) (i : Bool)
    (hm : s.main ≠ .returned) (ho : s.sender i = .offering) (hok : cfg.ok i = true) :
    ∀ s' ∈ mainSteps cfg s, s'.main = .returned ∨
      (mainSteps cfg s' ≠ [] ∧ ∀ s'' ∈ mainSteps cfg s', s''.main = .returned) := by
  have key := imp_eq_true.1 (all_paths_succEnablesAt cfg s h i) (by simp [onOffer, ho, hok, hm])
  simp only [Bool.and_eq_true, List.all_eq_true] at key
  intro s' hs'
  simpa [List.isEmpty_iff] using key.2 s' hs'

/-- RETURNS AFTER CANCELLATION. On every schedule, in every state where the caller's
context is cancelled and main has not returned, main's `<-ctx.Done()` branch is an
enabled step and by it the call returns the context's error — whatever the members
do: nothing is assumed about either sender (both may be `running` for ever). -/
theorem cancel_enables_return (cfg : Cfg) (s : St) (h : Reach cfg s)
    (hc : s.callerCancelled = true) (hm : s.main ≠ .returned) :
    ∃ s', s' ∈ mainCtxDone s ∧ s' ∈ mainSteps cfg s ∧ s' ∈ step cfg s ∧ s'.main = .returned ∧ s'.ret = .ctxErr := by
  have hp := all_paths_progress cfg s h
  simp only [progressAt, Bool.and_eq_true] at hp
  obtain ⟨⟨_, key⟩, _⟩ := hp
  have key := imp_eq_true.1 key (by simp [hc, hm])
  simp only [Bool.and_eq_true, List.any_eq_true, contains_iff, beq_iff_eq] at key
  obtain ⟨s', hs', hr⟩ := key
  exact ⟨s', hs', hr.1.1.2, hr.1.1.1, hr.1.2, hr.2⟩

/-- NO DEADLOCK. On every schedule, every state that is not the end of the call (main
returned, both sender goroutines gone) has an enabled step of the code under analysis. -/
theorem no_deadlock (cfg : Cfg) (s : St) (h : Reach cfg s) (hn : terminal s = false) : sysStep cfg s ≠ [] := by
  have hp := all_paths_progress cfg s h
  simp only [progressAt, noDeadlockAt, Bool.and_eq_true] at hp
  obtain ⟨_, canStep, _⟩ := hp
  simpa [imp, hn, List.isEmpty_iff] using canStep

/-- When the enabled step of a non-terminal state is not one of ociunify's own goroutines, the only thing
waited for is a member that is still inside its call: no answer is on offer, and if
main is still waiting the caller has not cancelled. -/
theorem blocked_only_on_members (cfg : Cfg) (s : St) (h : Reach cfg s) (hn : terminal s = false)
    (hcode : codeSteps cfg s = []) :
    (s.s0 = .running ∨ s.s1 = .running) ∧ s.s0 ≠ .offering ∧ s.s1 ≠ .offering ∧
    (s.main ≠ .returned → s.callerCancelled = false) := by
  have hp := all_paths_progress cfg s h
  simp only [progressAt, noDeadlockAt, Bool.and_eq_true] at hp
  obtain ⟨_, _, key⟩ := hp
  simp [imp, hn, hcode, and_assoc] at key
  obtain ⟨a, b, c, d⟩ := key
  exact ⟨a, b, c, fun hm => d.resolve_left hm⟩

/-- A state with no enabled step of the code is the end of the call, and settled. -/
theorem stuck_is_terminal (cfg : Cfg) (s : St) (h : Reach cfg s) (hq : sysStep cfg s = []) :
    terminal s = true ∧ settled cfg s = true := by
  refine ⟨?_, all_paths_settle cfg s h (by simp [quiescent, hq])⟩
  cases ht : terminal s
  · exact absurd hq (no_deadlock cfg s h ht)
  · rfl

/-- A schedule of the code under analysis: `n` steps of `sysStep` from `s` to `s'`.
(The caller's own steps — cancelling, closing the reader — are not obligations of the
code; each can happen at most once and may be interleaved anywhere: `Reach` covers them.) -/
inductive SysRun (cfg : Cfg) : St → Nat → St → Prop where
  | nil (s : St) : SysRun cfg s 0 s
  | cons {s s' s'' : St} {n : Nat} : s' ∈ sysStep cfg s → SysRun cfg s' n s'' → SysRun cfg s (n + 1) s''

theorem sysRun_reach {cfg : Cfg} {s s' : St} {n : Nat} (h : Reach cfg s) (r : SysRun cfg s n s') : Reach cfg s' := by
  induction r with
  | nil => exact h
  | cons hs _ ih => exact ih (Reach.step h (List.mem_append_left _ hs))

theorem sysRun_rank {cfg : Cfg} {s s' : St} {n : Nat} (h : Reach cfg s) (r : SysRun cfg s n s') :
    n + rank s' ≤ rank s := by
  induction r with
  | nil => simp
  | cons hs _ ih =>
    have h1 := all_paths_terminate cfg _ _ h hs
    have h2 := ih (Reach.step h (List.mem_append_left _ hs))
    omega

theorem rank_le_six (s : St) : rank s ≤ 6 := by
  obtain ⟨m, _, a, b, _, _, _, _, _, _⟩ := s
  cases m <;> cases a <;> cases b <;> simp [rank]

/-- EVERY MAXIMAL SCHEDULE ENDS AT THE END OF THE CALL. From any state of any schedule,
a run of the code has at most `rank s ≤ 6` steps (`all_paths_terminate`), and a run that
cannot be extended (`no_deadlock`) stops in a terminal, settled state: main has
returned, both sender goroutines are gone, every loser's reader is closed. -/
theorem maximal_schedule_ends_terminal (cfg : Cfg) (s s' : St) (n : Nat) (h : Reach cfg s)
    (r : SysRun cfg s n s') (hmax : sysStep cfg s' = []) :
    n ≤ 6 ∧ terminal s' = true ∧ settled cfg s' = true := by
  have hb := sysRun_rank h r
  have h6 := rank_le_six s
  exact ⟨by omega, stuck_is_terminal cfg s' (sysRun_reach h r) hmax⟩

/-- A run has ended at the end of the call or can be extended by some step: there is no third case. -/
theorem schedule_extends_or_ends (cfg : Cfg) (s s' : St) (n : Nat) (h : Reach cfg s) (r : SysRun cfg s n s') :
    terminal s' = true ∨ ∃ s'', s'' ∈ sysStep cfg s' := by
  cases ht : terminal s'
  · right
    have := no_deadlock cfg s' (sysRun_reach h r) ht
    cases hl : sysStep cfg s' with
    | nil => exact absurd hl this
    | cons x _ => exact ⟨x, by simp⟩
  · exact Or.inl rfl

/-! #### Non-vacuity of the progress theorems, at concrete reachable states -/

/-- member 0 has answered, member 1 is still inside its call -/
def exFast : St := { init with s0 := .offering }
/-- both answers on offer at the same moment -/
def exBoth : St := { init with s0 := .offering, s1 := .offering }
/-- the caller has cancelled, both members still inside their calls -/
def exCancelled : St := { init with callerCancelled := true }

theorem exFast_reach (cfg : Cfg) : Reach cfg exFast := reach_follow Reach.init [0] rfl
theorem exBoth_reach (cfg : Cfg) : Reach cfg exBoth := reach_follow Reach.init [0, 0] rfl
theorem exCancelled_reach (cfg : Cfg) : Reach cfg exCancelled := reach_follow Reach.init [2] rfl

/-- A state with property `f` is in the computed set as soon as one schedule leads to one. -/
theorem any_reachable {cfg : Cfg} {f : St → Bool} (p : List Nat) (h : (follow cfg init p).any f = true) :
    (reachable cfg).any f = true := by
  obtain ⟨s, hs, hf⟩ := (Option.any_eq_true _ _).1 h
  exact List.any_eq_true.2 ⟨s, reach_in_reachable cfg s (reach_follow Reach.init p hs), hf⟩

/-- `success_enables_return` with the other sender still `running`: main returns member 0's answer. -/
example : exFast.s1 = .running ∧
    ∃ s', s' ∈ deliver ⟨true, true, false⟩ exFast false ∧ s' ∈ mainSteps ⟨true, true, false⟩ exFast ∧
      s' ∈ step ⟨true, true, false⟩ exFast ∧ s'.main = .returned ∧ s'.ret = .res0 :=
  ⟨rfl, success_enables_return ⟨true, true, false⟩ exFast (exFast_reach _) false (by decide) rfl rfl⟩

/-- both on offer, member 0 failed and member 1 succeeded: taking the failure first is a step of
main that does not return (so the first disjunct alone would be false), and main returns with its next step. -/
example : (∃ s' ∈ mainSteps ⟨false, true, false⟩ exBoth, s'.main ≠ .returned) ∧
    ∀ s' ∈ mainSteps ⟨false, true, false⟩ exBoth, s'.main = .returned ∨
      (mainSteps ⟨false, true, false⟩ s' ≠ [] ∧ ∀ s'' ∈ mainSteps ⟨false, true, false⟩ s', s''.main = .returned) :=
  ⟨by decide, success_return_within_two ⟨false, true, false⟩ exBoth (exBoth_reach _) true (by decide) rfl rfl⟩

/-- `cancel_enables_return` with both members still inside their calls. -/
example : exCancelled.s0 = .running ∧ exCancelled.s1 = .running ∧
    ∃ s', s' ∈ mainCtxDone exCancelled ∧ s' ∈ mainSteps ⟨true, true, false⟩ exCancelled ∧
      s' ∈ step ⟨true, true, false⟩ exCancelled ∧ s'.main = .returned ∧ s'.ret = .ctxErr :=
  ⟨rfl, rfl, cancel_enables_return ⟨true, true, false⟩ exCancelled (exCancelled_reach _) rfl (by decide)⟩

/-- `no_deadlock` / `blocked_only_on_members`: the initial state is not terminal, its only enabled
steps are the members' returns; `exFast` is not terminal and main can move. -/
example : terminal init = false ∧ sysStep ⟨true, true, false⟩ init ≠ [] ∧ codeSteps ⟨true, true, false⟩ init = [] ∧
    terminal exFast = false ∧ codeSteps ⟨true, true, false⟩ exFast ≠ [] :=
  ⟨rfl, no_deadlock _ init Reach.init rfl, by decide, rfl, by decide⟩

/-- `maximal_schedule_ends_terminal`: a maximal run of four steps from `init` (member 0 answers, main
returns it, member 1 answers and is released; the caller's Close is not a step of the code). -/
example : ∃ s', SysRun ⟨true, true, false⟩ init 4 s' ∧ sysStep ⟨true, true, false⟩ s' = [] ∧ terminal s' = true := by
  refine ⟨{ init with main := .returned, ret := .res0, s0 := .delivered, s1 := .released, closed1 := true, cancel1 := true }, ?_, by decide, by decide⟩
  refine .cons (s' := exFast) (by decide) (.cons (s' := { exFast with main := .returned, ret := .res0, s0 := .delivered }) (by decide)
    (.cons (s' := { exFast with main := .returned, ret := .res0, s0 := .delivered, s1 := .offering }) (by decide)
    (.cons (by decide) (.nil _))))

/-- The progress hypotheses are met all over the reachable sets: in every scenario with a successful
member there is a reachable state with that success on offer while the other member is still inside its
call; states with the caller cancelled before main returned, and non-terminal states where only a member
can move, exist in every scenario. -/
example : (allCfgs.all fun cfg => [false, true].all fun i => imp (cfg.ok i)
      ((reachable cfg).any fun s => s.main != .returned && onOffer cfg s i && s.sender (other i) == .running)) = true ∧
    (allCfgs.all fun cfg => (reachable cfg).any fun s => s.callerCancelled && s.main != .returned && s.s0 == .running && s.s1 == .running) = true ∧
    (allCfgs.all fun cfg => (reachable cfg).any fun s => !terminal s && (codeSteps cfg s).isEmpty && s.main == .returned) = true := by
  refine ⟨List.all_eq_true.2 fun cfg hc => List.all_eq_true.2 fun i hi => imp_eq_true.2 fun hok => any_reachable [cond i 1 0] ?_,
    List.all_eq_true.2 fun cfg hc => any_reachable [2] ?_, List.all_eq_true.2 fun cfg hc => any_reachable [2, 2] ?_⟩
  · -- member `i` returns
    revert cfg i; decide +kernel
  · -- the caller cancels
    revert cfg; decide +kernel
  · -- the caller cancels, main takes `<-ctx.Done()`
    revert cfg; decide +kernel

/-! ### Non-vacuity: the interesting states are reached -/

/-- Settled states exist for every scenario; states with the returned reader
open, with it closed, with a released loser whose reader was closed, with
the context error returned, and with member 1's answer returned after member 0's failure was taken
(resolve-style with member 1 succeeding, and reader-style with both failing) are all reachable. -/
example : (allCfgs.all fun cfg => (reachable cfg).any (quiescent cfg)) = true ∧
    ((reachable ⟨true, true, false⟩).any fun s => s.main == .returned && s.ret == .res0 && !s.retClosed && s.s1 == .running) = true ∧
    ((reachable ⟨true, true, false⟩).any fun s => s.retClosed && s.ret == .res1 && s.s0 == .released && s.closed0) = true ∧
    ((reachable ⟨true, false, false⟩).any fun s => s.ret == .ctxErr && s.s0 == .released && s.closed0) = true ∧
    ((reachable ⟨false, true, true⟩).any fun s => s.ret == .res1 && s.s0 == .delivered) = true ∧
    ((reachable ⟨false, false, false⟩).any fun s => s.ret == .res1 && s.s0 == .delivered) = true := by
  refine ⟨List.all_eq_true.2 fun cfg hc => any_reachable [2, 2, 0, 1, 0, 0] ?_,
    -- member 0 returns, main takes its answer
    any_reachable [0, 1] (by decide),
    -- both members return, main takes member 1's answer, sender 0 is released, the caller closes the reader
    any_reachable [0, 0, 1, 0, 1] (by decide),
    -- member 0 returns, the caller cancels, main takes `<-ctx.Done()`, sender 0 is released
    any_reachable [0, 2, 2, 1] (by decide),
    -- both members return, main takes member 0's failure and then member 1's answer
    any_reachable [0, 0, 0, 0] (by decide), any_reachable [0, 0, 0, 0] (by decide)⟩
  -- the caller cancels, main takes `<-ctx.Done()`, each member returns and its sender is released
  revert cfg; decide +kernel

/-! ### The Go text the model mirrors -/

/-- `runReadConcurrent`, `runRead`, `runReadWithCancel`, `runReadBlobReader`,
`blobReader.Close`, `t2.close` and `t2.error` have the text the model mirrors. -/
theorem generated_protocol_pinned :
    (["runReadConcurrent", "runRead", "runReadWithCancel", "runReadBlobReader", "blobReader.Close", "t2.close", "t2.error"].all
      fun n => Generated.Unify.helpers.lookup n == some true) = true := by decide +kernel

/-- The five read entry points go through that protocol: Get* through
`runReadBlobReader` (cancel on Close), Resolve* through `runRead` (cancel at once);
each calls the member with the context created for it. -/
theorem generated_entry_points :
    (([("GetBlob", "runReadBlobReader"), ("GetBlobRange", "runReadBlobReader"), ("GetManifest", "runReadBlobReader"),
       ("ResolveBlob", "runRead"), ("ResolveManifest", "runRead")] : List (String × String)).all fun p =>
      ((Generated.Unify.table.find? fun r => r.recv == "unifier" && r.method == p.1).map fun r =>
        r.callee == p.2 && r.member == p.1 && r.memberRecv == "member" && r.combine == "firstSuccess") == some true) = true := by
  decide +kernel

end OciModel.Props.C16
