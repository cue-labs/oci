/-
C14 (wrapper part) — read-only and immutable wrappers.

"Through the read-only wrapper no sequence of calls changes the underlying
registry and every mutating call fails as unsupported. Through the immutable
wrapper once a tag has been observed to resolve to a digest it resolves to that
digest and the same bytes forever; nothing is ever deleted through the immutable
wrapper."

Model: `OciModel/WrapRO.lean`, over an arbitrary deterministic backend
`B : S → Op → S × Out` and an arbitrary hash `H`. The facts about the source
(`ReadOnlyOk`: which embedded field supplies each method of `ReadOnly`'s struct;
`ImmutableOk`: which methods `immutable` overrides and with what) are regenerated
from readonly.go / immutable.go / interface.go / func.go on every run and checked
by the `generated_*` obligations; the general theorems take them as hypotheses.
-/
import OciModel.WrapROLemmas

namespace OciModel.Props.C14W
open OciModel OciModel.WrapRO OciModel.Generated OciModel.Generated.WrapRO
open OciModel.Mem (Op Out)

variable {S α : Type}

/-! ### Read-only wrapper -/

/-- Every mutating call (the 5 Writer and 3 Deleter methods) fails as
`<method>: unsupported`, makes no call on the wrapped registry and leaves its
state alone. -/
theorem readonly_mutators_unsupported (hok : ReadOnlyOk = true) (B : Backend S) (s : S) (op : Op) (m : String)
    (hm : methodOf op = some m) (hmut : isMutatorMethod m = true) :
    roStep B s op = (s, some (.err "UNSUPPORTED"), []) := by
  obtain ⟨hs, row, hrow, hrok⟩ := readOnlyOk_mut hok m hmut
  exact ro_nilFuncs B s op m hm hs row hrow hrok

/-- Every Reader and Lister call behaves exactly as on the wrapped registry. -/
theorem readonly_reads_transparent (hok : ReadOnlyOk = true) (B : Backend S) (s : S) (op : Op) (m : String)
    (hm : methodOf op = some m) (hread : isReadMethod m = true) :
    roStep B s op = ((B s op).1, some (B s op).2, [op]) := by
  simp [roStep, hm, readOnlyOk_read hok m hread]

/-- Each interface method is a read or a mutator (the 18 methods are the 7 Reader,
3 Lister, 5 Writer and 3 Deleter methods). -/
theorem generated_alphabet_ok (op : Op) (m : String) (hm : methodOf op = some m) :
    isReadMethod m = true ∨ isMutatorMethod m = true := by
  cases op <;> simp only [methodOf, Option.some.injEq, reduceCtorEq] at hm <;> subst hm <;> decide

/-- The wrapped registry only ever sees Reader and Lister calls. -/
theorem readonly_backend_sees_only_reads (hok : ReadOnlyOk = true) (B : Backend S) (s : S) (op : Op) :
    ∀ c ∈ (roStep B s op).2.2, isReadOp c = true := by
  cases hm : methodOf op with
  | none => simp [roStep, hm]
  | some m =>
    rcases generated_alphabet_ok op m hm with hr | hmut
    · rw [readonly_reads_transparent hok B s op m hm hr]
      simp [isReadOp, hm, hr]
    · rw [readonly_mutators_unsupported hok B s op m hm hmut]
      simp

/-- No sequence of calls through the wrapper changes the underlying registry,
for any backend whose Reader and Lister methods do not change its state. -/
theorem readonly_state_unchanged (hok : ReadOnlyOk = true) (B : Backend S)
    (hB : ∀ s op, isReadOp op = true → (B s op).1 = s) (ops : List Op) (s : S) :
    (roRun B s ops).1 = s := by
  induction ops generalizing s with
  | nil => rfl
  | cons op ops ih =>
    have h1 : (roStep B s op).1 = s := by
      cases hm : methodOf op with
      | none => simp [roStep, hm]
      | some m =>
        rcases generated_alphabet_ok op m hm with hr | hmut
        · rw [readonly_reads_transparent hok B s op m hm hr]
          exact hB s op (by simp [isReadOp, hm, hr])
        · rw [readonly_mutators_unsupported hok B s op m hm hmut]
    simp only [roRun, h1, ih]

/-- With no assumption on the backend at all, the calls it receives over
a whole history are Reader and Lister calls only. -/
theorem readonly_history_calls_are_reads (hok : ReadOnlyOk = true) (B : Backend S) (ops : List Op) (s : S) :
    ∀ c ∈ (roRun B s ops).2, isReadOp c = true := by
  induction ops generalizing s with
  | nil => simp [roRun]
  | cons op ops ih =>
    intro c hc
    simp only [roRun, List.mem_append] at hc
    rcases hc with hc | hc
    · exact readonly_backend_sees_only_reads hok B s op c hc
    · exact ih _ c hc

/-! ### Immutable wrapper -/

/-- The three delete methods return DENIED without touching the wrapped registry. -/
theorem immutable_deletes_denied (hok : ImmutableOk = true) (H : Bytes → Bytes) (B : Backend S) (s : S) (op : Op)
    (hd : isDeleteOp op = true) : immStep H B s op = (s, some (.err "DENIED"), []) := by
  obtain ⟨_, _, hden⟩ := immutableOk_unfold hok
  cases op <;> simp [isDeleteOp] at hd <;> simp [immStep, methodOf, hden]

/-- Every method other than `PushManifest` and the deletes goes straight to the
wrapped registry. -/
theorem immutable_others_transparent (hok : ImmutableOk = true) (H : Bytes → Bytes) (B : Backend S) (s : S) (op : Op)
    (h1 : isDeleteOp op = false) (h2 : methodOf op ≠ some "PushManifest") :
    immStep H B s op = ((B s op).1, some (B s op).2, [op]) := by
  obtain ⟨_, hovr, hden⟩ := immutableOk_unfold hok
  cases op <;> simp [isDeleteOp] at h1 <;> simp [methodOf] at h2 <;> simp [immStep, methodOf, hden, hovr]

/-- No call through the wrapper ever makes a Delete* call on the wrapped registry. -/
theorem immutable_never_deletes (hok : ImmutableOk = true) (H : Bytes → Bytes) (B : Backend S) (s : S) (op : Op) :
    ∀ c ∈ (immStep H B s op).2.2, isDeleteOp c = false := by
  by_cases hd : isDeleteOp op = true
  · rw [immutable_deletes_denied hok H B s op hd]; simp
  · have hd' : isDeleteOp op = false := by simpa using hd
    by_cases hp : methodOf op = some "PushManifest"
    · cases op <;> simp [methodOf] at hp
      case pushManifest r t data mt dec =>
        rw [immStep_pushManifest hok]
        split
        · simp [isDeleteOp]
        · intro c hc
          rcases immPush_calls H B s r t data mt dec c hc with rfl | rfl <;> rfl
    · rw [immutable_others_transparent hok H B s op hd' hp]
      intro c hc
      simp at hc; subst hc; exact hd'

theorem immutable_history_never_deletes (hok : ImmutableOk = true) (H : Bytes → Bytes) (B : Backend S)
    (ops : List Op) (s : S) : ∀ c ∈ (immRun H B s ops).2, isDeleteOp c = false := by
  induction ops generalizing s with
  | nil => simp [immRun]
  | cons op ops ih =>
    intro c hc
    simp only [immRun, List.mem_append] at hc
    rcases hc with hc | hc
    · exact immutable_never_deletes hok H B s op c hc
    · exact ih _ c hc

/-- Tag stability, in general form. Let `obs` be any observation of the backend
state that only a `PushManifest` of tag `t` in repository `r` can change (for
instance what `ResolveTag r t` answers, or the bytes `GetTag r t` returns), and
assume the same of the answer of `ResolveTag r t` itself. If `ResolveTag r t`
currently answers a descriptor `d`, then after any call through the wrapper —
any method, any arguments, in particular a `PushManifest r t` with different
content — `obs` is unchanged and `ResolveTag r t` still answers `d`. -/
theorem immutable_obs_stable (hok : ImmutableOk = true) (H : Bytes → Bytes) (B : Backend S)
    (r t : Bytes) (ht : t ≠ []) (obs : S → α)
    (hobs : ∀ s c, isPushTo r t c = false → obs (B s c).1 = obs s)
    (hans : ∀ s c, isPushTo r t c = false → (B (B s c).1 (.resolveTag r t)).2 = (B s (.resolveTag r t)).2)
    (s : S) (d : Mem.Desc) (hcur : (B s (.resolveTag r t)).2 = .okDesc d) (op : Op) :
    obs (immStep H B s op).1 = obs s ∧ (B (immStep H B s op).1 (.resolveTag r t)).2 = .okDesc d := by
  -- one backend call that is not a push to (r, t) preserves both facts
  have keep : ∀ s' c, isPushTo r t c = false → obs s' = obs s → (B s' (.resolveTag r t)).2 = .okDesc d →
      obs (B s' c).1 = obs s ∧ (B (B s' c).1 (.resolveTag r t)).2 = .okDesc d :=
    fun s' c hc h1 h2 => ⟨(hobs s' c hc).trans h1, (hans s' c hc).trans h2⟩
  by_cases hd : isDeleteOp op = true
  · rw [immutable_deletes_denied hok H B s op hd]; exact ⟨rfl, hcur⟩
  have hd' : isDeleteOp op = false := by simpa using hd
  by_cases hp : methodOf op = some "PushManifest"
  case neg =>
    rw [immutable_others_transparent hok H B s op hd' hp]
    have hne : isPushTo r t op = false := by
      cases op <;> simp [methodOf] at hp <;> rfl
    exact keep s op hne rfl hcur
  cases op <;> simp [methodOf] at hp
  case pushManifest r' t' data mt dec =>
    rw [immStep_pushManifest hok]
    by_cases ht' : t' = []
    · subst ht'
      have hne : isPushTo r t (.pushManifest r' [] data mt dec) = false := by
        simp only [isPushTo, Bool.and_eq_false_imp, beq_iff_eq, beq_eq_false_iff_ne]
        intro _ h; exact ht h.symm
      simp only [if_true]
      exact keep s _ hne rfl hcur
    · simp only [ht', if_false]
      have hrt : isPushTo r t (.resolveTag r' t') = false := rfl
      have k1 := keep s (.resolveTag r' t') hrt rfl hcur
      by_cases hsame : r' = r ∧ t' = t
      · -- the very tag: it resolves, so nothing is pushed
        obtain ⟨rfl, rfl⟩ := hsame
        simp only [immPush, hcur]
        split <;> exact k1
      · have hpush : isPushTo r t (.pushManifest r' t' data mt dec) = false := by
          simp only [isPushTo, Bool.and_eq_false_imp, beq_iff_eq, beq_eq_false_iff_ne]
          intro h1 h2; exact hsame ⟨h1, h2⟩
        have k2 := keep _ (.pushManifest r' t' data mt dec) hpush k1.1 k1.2
        have k3 := keep _ (.resolveTag r' t') hrt k2.1 k2.2
        simp only [immPush]
        split
        · split <;> exact k1
        · split
          · exact k2
          · split
            · split <;> exact k3
            · exact k3

/-- Once a tag resolves to a descriptor it resolves to that descriptor after any
history of calls through the wrapper, and any observation that only a push to
that tag can change (e.g. the bytes behind the tag) stays what it was. -/
theorem immutable_tag_stable (hok : ImmutableOk = true) (H : Bytes → Bytes) (B : Backend S)
    (r t : Bytes) (ht : t ≠ []) (obs : S → α)
    (hobs : ∀ s c, isPushTo r t c = false → obs (B s c).1 = obs s)
    (hans : ∀ s c, isPushTo r t c = false → (B (B s c).1 (.resolveTag r t)).2 = (B s (.resolveTag r t)).2)
    (d : Mem.Desc) (ops : List Op) (s : S) (hcur : (B s (.resolveTag r t)).2 = .okDesc d) :
    obs (immRun H B s ops).1 = obs s ∧ (B (immRun H B s ops).1 (.resolveTag r t)).2 = .okDesc d := by
  induction ops generalizing s with
  | nil => exact ⟨rfl, hcur⟩
  | cons op ops ih =>
    have h1 := immutable_obs_stable hok H B r t ht obs hobs hans s d hcur op
    have h2 := ih (immStep H B s op).1 h1.2
    exact ⟨h2.1.trans h1.1, h2.2⟩

/-- A `PushManifest` of different content to a tag that resolves is refused with
DENIED after one `ResolveTag` and no push. -/
theorem immutable_retag_denied (hok : ImmutableOk = true) (H : Bytes → Bytes) (B : Backend S)
    (s : S) (r t data mt : Bytes) (dec : Mem.Decoded) (ht : t ≠ []) (d : Mem.Desc)
    (hcur : (B s (.resolveTag r t)).2 = .okDesc d) (hdiff : d.digest ≠ H data) :
    immStep H B s (.pushManifest r t data mt dec) =
      ((B s (.resolveTag r t)).1, some (.err "DENIED"), [.resolveTag r t]) := by
  rw [immStep_pushManifest hok]
  simp [ht, immPush, hcur, hdiff]

/-- Whatever the backend does in between (another client may win the race for the tag):
when a tagged `PushManifest` through the wrapper reports success, the descriptor it returns
names the pushed content and is the answer of a `ResolveTag` made as the last step of the
call — a lost race is never reported as a success. -/
theorem immutable_push_ok_is_resolved (hok : ImmutableOk = true) (H : Bytes → Bytes) (B : Backend S)
    (s : S) (r t data mt : Bytes) (dec : Mem.Decoded) (ht : t ≠ []) (d : Mem.Desc)
    (h : (immStep H B s (.pushManifest r t data mt dec)).2.1 = some (.okDesc d)) :
    d.digest = H data ∧
    ∃ s', (B s' (.resolveTag r t)).2 = .okDesc d ∧
      (immStep H B s (.pushManifest r t data mt dec)).1 = (B s' (.resolveTag r t)).1 ∧
      (immStep H B s (.pushManifest r t data mt dec)).2.2.getLast? = some (.resolveTag r t) := by
  rw [immStep_pushManifest hok] at h ⊢
  simp only [ht, if_false] at h ⊢
  unfold immPush at h ⊢
  simp only at h ⊢
  split at h
  · rename_i d0 hd0
    split at h
    · rename_i hdig
      simp only [Option.some.injEq, Out.okDesc.injEq] at h
      subst h
      exact ⟨hdig, s, hd0, by simp [hdig], by simp [hdig]⟩
    · simp at h
  · split at h
    · simp at h
    · split at h
      · rename_i d1 hd1
        split at h
        · simp at h
        · rename_i hdig
          simp only [Option.some.injEq, Out.okDesc.injEq] at h
          subst h
          have hdig' : d1.digest = H data := by simpa using hdig
          exact ⟨hdig', (B (B s (.resolveTag r t)).1 (.pushManifest r t data mt dec)).1, hd1,
            by simp [hdig'], by simp [hdig']⟩
      · simp at h

/-! ### Obligations on the regenerated facts -/

/-- In `ReadOnly`'s struct all 7 Reader and 3 Lister methods resolve to the wrapped
registry (depth 1) and all 5 Writer and 3 Deleter methods to the nil `*Funcs`
(depth 2), whose rows in func.go are well-formed. -/
theorem generated_readonly_ok : ReadOnlyOk = true := by decide +kernel

theorem generated_readonly_covers : readOnlySource.map (·.1) = Iface.methodParams.map (·.1) ∧
    readOnlySource.length = 18 := by decide +kernel

/-- `immutable` embeds the registry, overrides exactly `PushManifest` (with the
modelled body) and the three deletes (each `return ociregistry.ErrDenied`). -/
theorem generated_immutable_ok : ImmutableOk = true := by decide +kernel

/-! ### Non-vacuity: a concrete backend meeting the hypotheses

A toy registry whose state is one tag table: `pushManifest r t data …` sets tag
`(r, t)` to the descriptor of `data`, `resolveTag` looks it up, every other call
changes nothing. -/

def toyB : Backend (Bytes × Bytes → Option Mem.Desc) := fun s op =>
  match op with
  | .pushManifest r t data mt _ =>
    let d : Mem.Desc := ⟨mt, data, data.length⟩
    ((fun k => if k = (r, t) then some d else s k), .okDesc d)
  | .resolveTag r t =>
    match s (r, t) with
    | some d => (s, .okDesc d)
    | none => (s, .err "MANIFEST_UNKNOWN")
  | _ => (s, .okUnit)

/-- Its Reader and Lister methods do not change its state (hypothesis of
`readonly_state_unchanged`). -/
theorem toyB_reads (s : Bytes × Bytes → Option Mem.Desc) (op : Op) (h : isReadOp op = true) : (toyB s op).1 = s := by
  cases op
  case pushManifest =>
    exact absurd h (by simp [isReadOp, methodOf, isReadMethod, Iface.readerMethods, Iface.listerMethods])
  case resolveTag r t => simp only [toyB]; split <;> rfl
  all_goals rfl

/-- The toy backend meets the hypothesis `hobs` of `immutable_tag_stable` with `obs` = the entry of tag
`(r, t)`: only a push to that tag changes it. -/
theorem toyB_lookup (r t : Bytes) (s : Bytes × Bytes → Option Mem.Desc) (c : Op) (hc : isPushTo r t c = false) :
    (toyB s c).1 (r, t) = s (r, t) := by
  cases c
  case pushManifest r' t' data mt dec =>
    have hne : (r, t) ≠ (r', t') := by
      simp only [isPushTo, Bool.and_eq_false_imp, beq_iff_eq, beq_eq_false_iff_ne] at hc
      intro h; cases h; exact hc rfl rfl
    simp [toyB, hne]
  case resolveTag r' t' => simp only [toyB]; split <;> rfl
  all_goals rfl

/-- The toy backend meets the hypothesis `hans` of `immutable_tag_stable`: a call that is not a push to
`(r, t)` leaves the answer of `ResolveTag r t` as it was. -/
theorem toyB_hans (r t : Bytes) (s : Bytes × Bytes → Option Mem.Desc) (c : Op) (hc : isPushTo r t c = false) :
    (toyB (toyB s c).1 (.resolveTag r t)).2 = (toyB s (.resolveTag r t)).2 := by
  have h := toyB_lookup r t s c hc
  generalize (toyB s c).1 = s' at h
  simp only [toyB, h]
  cases s (r, t) <;> rfl

/-- Through `Immutable(toyB)` a tag set to "v1" survives a history that tries
to move it to "v2" and to delete it: the second push is refused, while a new
tag can still be created. -/
theorem nonvacuous_immutable_toy :
    let s0 := (toyB (fun _ => none) (.pushManifest [97] [116] [118, 49] [] .opaque)).1
    let ops := [Op.pushManifest [97] [116] [118, 50] [] .opaque, .deleteTag [97] [116], .pushManifest [97] [117] [118, 50] [] .opaque]
    (toyB (immRun (fun b => b) toyB s0 ops).1 (.resolveTag [97] [116])).2 = .okDesc ⟨[], [118, 49], 2⟩ ∧
    (toyB (immRun (fun b => b) toyB s0 ops).1 (.resolveTag [97] [117])).2 = .okDesc ⟨[], [118, 50], 2⟩ ∧
    (immStep (fun b => b) toyB s0 (.pushManifest [97] [116] [118, 50] [] .opaque)).2.1 = some (.err "DENIED") := by
  decide +kernel

/-- The read-only wrapper over the toy backend: a push is refused and the state stays. -/
theorem nonvacuous_readonly_toy : (roStep toyB (fun _ => none) (.pushManifest [97] [116] [118] [] .opaque)).2.1 = some (.err "UNSUPPORTED") ∧
    (roStep toyB (fun _ => none) (.pushManifest [97] [116] [118] [] .opaque)).2.2.length = 0 := by
  decide +kernel

end OciModel.Props.C14W
