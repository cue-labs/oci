/-
C06S — structural facts of `ociserver`'s handlers (sub-check of C06).

C06 says, among other things: no request causes a backend call with a syntactically invalid
repository name, tag or digest; every reader or writer the server obtains from its backend has
been closed by the time the response is complete; successes carry the headers the distribution
protocol mandates. Here these clauses are tied to the source: the translator regenerates an
abstraction of every handler (`OciModel.Generated.SrvHandlers`, IR in `OciModel/SrvIR.lean`),
`OciModel/SrvHandlers.lean` gives it an execution model (`serve`: all runs of the handler of a
kind, under an oracle for the named conditions) and three Bool-valued checkers, and this file

  * proves what a passing checker means, for every table and every environment
    (`release_sound`, `args_sound`, `headers_sound`);
  * discharges the checkers on the regenerated table by evaluation
    (`generated_dispatch_ok`, `generated_shapes_known`, `generated_roles_known`, and, through
    `tableOk` of the lemma file, `generated_handlers_release_ok`,
    `generated_backend_args_validated_ok`, `generated_mandatory_headers_ok`);
  * combines both with the router's soundness (`parse_ok_shape` of C03) into statements about
    every request the router classifies (`server_handles_closed`, `server_backend_args_valid`,
    `server_success_headers`).

Only statements and short proofs live here; lemmas are in `OciModel/SrvHandlersLemmas.lean`.
-/
import OciModel.SrvHandlers
import OciModel.SrvHandlersLemmas
import OciModel.Props.C03

namespace OciModel.Props.C06S
open OciModel.SrvIR OciModel.SrvHandlers OciModel.ReqCodec OciModel.Generated.SrvHandlers

/-- parameters of every backend method and reader/writer method, regenerated from interface.go -/
def mt : List (String × List (String × String)) :=
  methodTable OciModel.Generated.Iface.methodParams resourceMethods

/-- the environment with no option set, for the examples -/
def plainEnv (tag : Bool) : Env := { tagSet := tag, opt := fun _ => false }

/-! ### What a passing checker means (any table, any environment) -/

/-- **Release.** If the table passes `releaseOk`, then whatever the options and the request, every
run of every kind's handler stays inside the abstracted code and closes every reader/writer it
obtained exactly once: at every moment `closes ≤ acquisitions ≤ closes + 1` per variable, with
equality at the end (deferred closes included). -/
theorem release_sound (tbl : List (String × Prog)) (disp : List (String × String))
    (h : releaseOk tbl disp = true) (env : Env) (k : Kind) :
    ∀ f ∈ serve tbl disp (envOracle env) k, f.1.bad = false ∧ ClosedExactlyOnce f.1.trace := by
  intro f hf
  have hf' := serve_mono tbl disp (envOracle env).le_open k f hf
  simp only [releaseOk, List.all_eq_true, Bool.and_eq_true, Bool.not_eq_true'] at h
  exact ⟨(h k (mem_allKinds k) f hf').1, balanced_sound _ (h k (mem_allKinds k) f hf').2⟩

/-- **Arguments.** If the table passes `argsOk`, then for every request `r` of the shape the
router produces, every backend call of every run of `r.kind`'s handler passes, in every position
that is a repository, tag, digest or upload ID, a field of `r` that is valid for that role. -/
theorem args_sound (mtab : List (String × List (String × String))) (tbl : List (String × Prog))
    (disp : List (String × String)) (h : argsOk mtab tbl disp = true)
    (unb64 : Bytes → Option Bytes) (validUTF8 : Bytes → Bool) (r : Request)
    (hp : ParsedReq unb64 validUTF8 r) (env : Env) (henv : env.tagSet = decide (r.tag ≠ [])) :
    ∀ f ∈ serve tbl disp (envOracle env) r.kind, f.1.bad = false ∧
      ∀ c ok, Ev.call c ok ∈ f.1.trace → CallValid validUTF8 mtab r c := by
  intro f hf
  have hf' := serve_mono tbl disp (envOracle_le_static env []) r.kind f hf
  simp only [argsOk, List.all_eq_true, Bool.and_eq_true, Bool.not_eq_true'] at h
  obtain ⟨hb, ht⟩ := h r.kind (mem_allKinds r.kind) env.tagSet (mem_both _) f hf'
  refine ⟨hb, fun c ok hc => callOk_sound unb64 validUTF8 hp c ?_⟩
  rw [← henv]
  exact traceArgsOk_mem _ ht c ok hc

/-- **Headers.** If the table passes `headersOk`, then whatever the options, every run that
returns nil with a 2xx status has one of the kind's success statuses and set every header the
protocol mandates for the kind before the status line went out. -/
theorem headers_sound (tbl : List (String × Prog)) (disp : List (String × String))
    (h : headersOk tbl disp = true) (env : Env) (k : Kind) :
    ∀ f ∈ serve tbl disp (envOracle env) k, f.1.bad = false ∧
      SuccessOk k env.tagSet (env.opt optOmitDigest) (env.opt optSinglePost) f := by
  intro f hf
  have hf' := serve_mono tbl disp (envOracle_le_static env [optOmitDigest, optSinglePost]) k f hf
  simp only [headersOk, List.all_eq_true, Bool.and_eq_true, Bool.not_eq_true'] at h
  obtain ⟨hb, hs⟩ := h k (mem_allKinds k) env.tagSet (mem_both _) (env.opt optOmitDigest) (mem_both _)
    (env.opt optSinglePost) (mem_both _) f hf'
  exact ⟨hb, successOk_sound hs⟩

/-! ### Obligations on the regenerated table -/

/-- The dispatch table covers exactly the 17 kinds of `ocirequest`, in order, each with a
translated handler; ServeHTTP/v2 classify and then dispatch; no handler modifies the classified
request; every function that touches the backend was translated. -/
theorem generated_dispatch_ok :
    dispatchOk kinds dispatch handlers dispatchShapeOk rreqImmutable backendUsers = true := by decide +kernel

/-- Every statement of every handler has a shape the translator accepts (when this fails, the
reasons are the `.unknownShape "…"` entries of `OciModel/Generated/SrvHandlers.lean`; the three
obligations below then fail as well, because a run through an unknown shape is `bad`). -/
theorem generated_shapes_known : unknownShapes handlers = [] := by decide +kernel

/-- Every string parameter of the backend interface has a name whose role is known. -/
theorem generated_roles_known : rolesKnown mt = true := by decide +kernel

/-- The three checkers at once, on the runs under the open oracle where that decides them (`allRuns`). -/
theorem generated_table_ok : tableOk mt handlers dispatch = true := by decide +kernel

/-- Every handler releases what it acquires on every path. -/
theorem generated_handlers_release_ok : releaseOk handlers dispatch = true :=
  (tableOk_sound generated_table_ok).1

/-- Every backend argument with a repository/tag/digest/upload-ID role is a validated field. -/
theorem generated_backend_args_validated_ok : argsOk mt handlers dispatch = true :=
  (tableOk_sound generated_table_ok).2.1

/-- Every 2xx success sets the mandatory headers and one of the kind's statuses. -/
theorem generated_mandatory_headers_ok : headersOk handlers dispatch = true :=
  (tableOk_sound generated_table_ok).2.2

/-! ### The clauses of C06 for the regenerated table -/

/-- **server_handles_closed.** For every kind, options and request, every run of the handler the
server dispatches to closes each reader/writer it obtained from the backend exactly once before it
returns (and the run never leaves the abstracted code). -/
theorem server_handles_closed (env : Env) (k : Kind) :
    ∀ f ∈ serve handlers dispatch (envOracle env) k, f.1.bad = false ∧ ClosedExactlyOnce f.1.trace :=
  release_sound handlers dispatch generated_handlers_release_ok env k

/-- **server_backend_args_valid.** Whatever method, path and query the router accepts, every
backend call the dispatched handler can make passes only syntactically valid repository names,
tags, digests (also inside a Descriptor, and to `BlobWriter.Commit`) and upload IDs. -/
theorem server_backend_args_valid (unb64 : Bytes → Option Bytes) (validUTF8 : Bytes → Bool)
    (m p : Bytes) (q : Bytes → Bytes) (r : Request)
    (h : parse unb64 validUTF8 m p q = .ok r) (env : Env) (henv : env.tagSet = decide (r.tag ≠ [])) :
    ∀ f ∈ serve handlers dispatch (envOracle env) r.kind,
      ∀ c ok, Ev.call c ok ∈ f.1.trace → CallValid validUTF8 mt r c :=
  fun f hf => (args_sound mt handlers dispatch generated_backend_args_validated_ok unb64 validUTF8 r
    (OciModel.Props.C03.parse_ok_shape unb64 validUTF8 m p q r h) env henv f hf).2

/-- **server_success_headers.** Every 2xx success of every kind carries the mandated headers
(Location, Docker-Content-Digest, Content-Length, Range, Content-Range as applicable) and status. -/
theorem server_success_headers (env : Env) (k : Kind) :
    ∀ f ∈ serve handlers dispatch (envOracle env) k,
      SuccessOk k env.tagSet (env.opt optOmitDigest) (env.opt optSinglePost) f :=
  fun f hf => (headers_sound handlers dispatch generated_mandatory_headers_ok env k f hf).2

/-! ### Non-vacuity

The examples about the *regenerated* table are deliberately weak (they survive any refactoring
that keeps the server using readers, writers and mandatory headers at all); the shapes themselves
are exercised on a fixed sample table, a snapshot of four handlers. -/

/-- some kind has a successful run that acquired (and therefore, by `server_handles_closed`, closed) a reader/writer -/
example : ∃ k ∈ allKinds, ∃ f ∈ serve handlers dispatch (envOracle (plainEnv false)) k,
    f.2 = false ∧ traceVars f.1.trace ≠ [] := by decide +kernel

/-- some run makes a backend call that has a repository, tag, digest or upload-ID argument -/
example : ∃ k ∈ allKinds, ∃ f ∈ serve handlers dispatch (envOracle (plainEnv false)) k,
    ∃ e ∈ f.1.trace, (match e with
      | .call c _ => (roles mt c.method).any (·.any (· != .free))
      | _ => false) = true := by decide +kernel

/-- some 2xx success has mandatory headers to carry -/
example : ∃ k ∈ allKinds, ∃ f ∈ serve handlers dispatch (envOracle (plainEnv false)) k,
    f.2 = false ∧ f.1.finalStatus < 300 ∧ mandatory k f.1.finalStatus false false false ≠ [] := by decide +kernel

/-- the hypothesis of `server_backend_args_valid` is satisfiable: the router classifies a mount -/
example : parse B64Url.decode B64Url.validUTF8 mPOST (strBytes "/v2/foo/blobs/uploads/")
      (qget [(qMount, OciModel.Props.C03.exDigest), (qFrom, strBytes "bar/baz")]) =
    .ok { kind := .blobMount, repo := strBytes "foo", digest := OciModel.Props.C03.exDigest, fromRepo := strBytes "bar/baz" } := by
  decide +kernel

/-- a fixed method table for the examples (the parameter names of interface.go) -/
def sampleMT : List (String × List (String × String)) := [
  ("GetBlob", [("repo", "string"), ("digest", "Digest")]),
  ("GetBlobRange", [("repo", "string"), ("digest", "Digest"), ("offset0", "int64"), ("offset1", "int64")]),
  ("GetTag", [("repo", "string"), ("tagName", "string")]),
  ("GetManifest", [("repo", "string"), ("digest", "Digest")]),
  ("MountBlob", [("fromRepo", "string"), ("toRepo", "string"), ("digest", "Digest")]),
  ("PushManifest", [("repo", "string"), ("tag", "string"), ("contents", "[]byte"), ("mediaType", "string")]),
  ("PushBlob", [("repo", "string"), ("desc", "Descriptor"), ("r", "io.Reader")]),
  ("PushBlobChunkedResume", [("repo", "string"), ("id", "string"), ("offset", "int64"), ("chunkSize", "int")]),
  ("DeleteTag", [("repo", "string"), ("name", "string")]),
  ("BlobWriter.Commit", [("digest", "Digest")])]

example : roles sampleMT "MountBlob" = some [.repo, .repo, .digest] := by decide +kernel
example : roles sampleMT "PushManifest" = some [.repo, .tagOpt, .free, .free] := by decide +kernel
example : roles sampleMT "PushBlob" = some [.repo, .descDigest, .free] := by decide +kernel
example : roles sampleMT "DeleteTag" = some [.repo, .tag] := by decide +kernel
example : roles sampleMT "BlobWriter.Commit" = some [.digest] := by decide +kernel

/-- the defer shape: a blob GET with one range -/
def sBlobGet : Prog :=
  .atom (.acquire "get.blob" ⟨"GetBlobRange", [.field "Repo", .field "Digest", .other "rng.start", .other "rng.end"], true⟩) <|
  .alt .errSet (.ret .errVar) .nil <|
  .atom (.deferClose "get.blob") <|
  .alt (.unknown "rng.start > desc.Size") (.ret .fail) .nil <|
  .atom (.header "Content-Length") <| .atom (.header "Docker-Content-Digest") <| .atom (.header "Content-Range") <|
  .atom (.status 206) <| .atom .body <| .ret .ok

/-- the explicit shape: a PATCH of an upload closes on the copy-error path and on the main path -/
def sChunk : Prog :=
  .atom (.acquire "patch.w" ⟨"PushBlobChunkedResume", [.field "Repo", .field "UploadID", .other "start", .other "n"], true⟩) <|
  .alt .errSet (.ret .errVar) .nil <|
  .atom .havocErr <|
  .alt .errSet (.atom (.close "patch.w" false) <| .ret .fail) .nil <|
  .atom (.close "patch.w" true) <|
  .alt .errSet (.ret .fail) .nil <|
  .atom (.header "Location") <| .atom (.header "Range") <| .atom (.status 202) <| .ret .ok

/-- acquisition in both arms of an if, one error check and one defer after it -/
def sManifestGet : Prog :=
  .alt .tagSet
    (.atom (.acquire "mget.mr" ⟨"GetTag", [.field "Repo", .field "Tag"], true⟩) .nil)
    (.atom (.acquire "mget.mr" ⟨"GetManifest", [.field "Repo", .field "Digest"], true⟩) .nil) <|
  .alt .errSet (.ret .errVar) .nil <|
  .atom (.deferClose "mget.mr") <|
  .alt (.not (.opt optOmitDigest)) (.atom (.header "Docker-Content-Digest") .nil) .nil <|
  .atom (.header "Content-Length") <| .atom (.status 200) <| .atom .body <| .ret .ok

def sMount : Prog :=
  .atom (.call ⟨"MountBlob", [.field "FromRepo", .field "Repo", .field "Digest"], true⟩ true) <|
  .alt .errSet (.ret .errVar) .nil <|
  .atom (.header "Location") <| .atom (.header "Docker-Content-Digest") <| .atom (.status 201) <| .ret .ok

def sampleTable : List (String × Prog) :=
  [("handleBlobGet", sBlobGet), ("handleBlobUploadChunk", sChunk), ("handleManifestGet", sManifestGet), ("handleBlobMount", sMount)]
def sampleDispatch : List (String × String) :=
  [("ReqBlobGet", "handleBlobGet"), ("ReqBlobUploadChunk", "handleBlobUploadChunk"), ("ReqManifestGet", "handleManifestGet"),
   ("ReqBlobMount", "handleBlobMount")]

/-- the runs of the sample blob GET: backend failure, early 416 after the defer, success -/
example : (serve sampleTable sampleDispatch (envOracle (plainEnv false)) .blobGet).map
      (fun f => (f.1.trace.map (fun e => match e with | .call _ ok => if ok then "call+" else "call-" | .acq _ => "acq" | .close _ => "close"), f.2)) =
    [(["call+", "acq", "close"], true), (["call+", "acq", "close"], false), (["call-"], true)] := by decide +kernel

/-- every run of the explicit shape closes exactly once, whichever way the copy and the Close go -/
example : (serve sampleTable sampleDispatch (envOracle (plainEnv false)) .blobUploadChunk).all
    (fun f => balanced f.1.trace && (f.1.trace.any (· == .acq "patch.w") == (closes "patch.w" f.1.trace == 1))) = true := by decide +kernel

/-- a tag GET of a manifest calls GetTag with the tag, never GetManifest with the empty digest -/
example : (serve sampleTable sampleDispatch (envOracle (plainEnv true)) .manifestGet).all
    (fun f => f.1.trace.all fun e => match e with
      | .call c _ => c.method == "GetTag"
      | _ => true) = true := by decide +kernel

/-- the four sample handlers pass the three checkers restricted to their kinds -/
example : [Kind.blobGet, .blobUploadChunk, .manifestGet, .blobMount].all (fun k => [true, false].all fun tag =>
    (serve sampleTable sampleDispatch (staticOracle [tag] [(optOmitDigest, false)]) k).all fun f =>
      !f.1.bad && balanced f.1.trace && traceArgsOk sampleMT k tag f.1.trace && successOk k tag false false f) = true := by decide +kernel

/-! The checkers do reject: two defective handlers as hand-written tables, two single calls and a
final state; and a header set after the status line is not recorded. -/

/-- a handler whose `defer blob.Close()` sits below an early return -/
def leaky : Prog :=
  .atom (.acquire "h.blob" ⟨"GetBlob", [.field "Repo", .field "Digest"], true⟩) <|
  .alt .errSet (.ret .errVar) .nil <|
  .alt (.unknown "rng.start > desc.Size") (.ret .fail) .nil <|
  .atom (.deferClose "h.blob") <|
  .atom (.status 200) <|
  .ret .ok

example : releaseOk [("h", leaky)] (allKinds.map fun k => (kindName k, "h")) = false := by decide +kernel

/-- closing a reader that may be nil (no error check between acquisition and defer) is rejected too -/
example : releaseOk [("h", .atom (.acquire "h.b" ⟨"GetBlob", [.field "Repo", .field "Digest"], true⟩) <|
    .atom (.deferClose "h.b") <| .alt .errSet (.ret .errVar) .nil <| .ret .ok)]
    (allKinds.map fun k => (kindName k, "h")) = false := by decide +kernel

/-- a mount that takes the source repository from the query instead of the classified request -/
example : callOk sampleMT .blobMount false
    ⟨"MountBlob", [.other "req.URL.Query().Get(\"from\")", .field "Repo", .field "Digest"], true⟩ = false := by decide +kernel

/-- the digest of a manifest request named by tag is empty: passing it where a digest is due is rejected -/
example : callOk sampleMT .manifestGet true ⟨"GetManifest", [.field "Repo", .field "Digest"], true⟩ = false := by decide +kernel

/-- a blob HEAD that forgets Docker-Content-Digest -/
example : successOk .blobHead false false false
    ({ hdrs := [hLength], status := some 200 }, false) = false := by decide +kernel

/-- a header set after the status line does not count -/
example : (runF [("h", .atom (.status 200) <| .atom (.header "Docker-Content-Digest") <| .ret .ok)]
    (envOracle (plainEnv false)) 1 "h" {}).map (fun f => f.1.hdrs) = [[]] := by decide +kernel

end OciModel.Props.C06S
