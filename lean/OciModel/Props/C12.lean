/-
C12 — Access-checking/selecting wrappers never let a rejected repository through.

The model of `*accessCheckerRegistry` is the table regenerated from
`ocifilter/select.go` on every run (`OciModel.Generated.Select.table`); its
semantics is `OciModel.Select.call` / `repositories`. The general theorems hold for
every row satisfying the decidable predicate `RowOk`, for every policy
`check : Bytes → Kind → Option ε` (a pure function of name and access kind),
every backend and every argument values; the `generated_*` obligations check the
regenerated table against `RowOk` and against the 18 methods of
`ociregistry.Interface`.
-/
import OciModel.SelectLemmas

namespace OciModel.Props.C12
open OciModel OciModel.Select OciModel.Generated.Select OciModel.Generated

variable {ε ρ σ : Type}

/-- If the policy rejects any of the repositories a method involves (for the
access kind the method needs), the wrapped registry is not called at all and the
result is the policy's own error for one of the rejected repositories. -/
theorem denied_no_backend_call (r : Row) (h : RowOk r = true) (hm : r.method ≠ "Repositories")
    (check : Policy ε) (backend : Call → ρ) (env : Env)
    (ips : List String) (hips : ifaceParamNames r.method = some ips)
    (gs : List RGuard) (hgs : specGuards r.method ips r.params = some gs)
    (hdeny : ∃ g ∈ gs, (check (g.val env) g.kind).isSome = true) :
    ∃ e, call check backend env r = ⟨.rejected e, []⟩ ∧ ∃ g ∈ gs, check (g.val env) g.kind = some e := by
  rw [call_of_rowOk r h hm check backend env ips hips gs hgs]
  cases hff : firstFail check env gs with
  | none =>
    obtain ⟨g, hm, hg⟩ := hdeny
    rw [(firstFail_none_iff check env gs).mp hff g hm] at hg
    cases hg
  | some e => exact ⟨e, rfl, firstFail_some check env gs e hff⟩

/-- If the policy allows every repository involved, the wrapper makes exactly one
call on the wrapped registry — the same method with the caller's arguments in
order — and returns its result unchanged. -/
theorem allowed_transparent (r : Row) (h : RowOk r = true) (hm : r.method ≠ "Repositories")
    (check : Policy ε) (backend : Call → ρ) (env : Env)
    (ips : List String) (hips : ifaceParamNames r.method = some ips)
    (gs : List RGuard) (hgs : specGuards r.method ips r.params = some gs)
    (hallow : ∀ g ∈ gs, check (g.val env) g.kind = none) :
    call check backend env r =
      ⟨.returned (backend ⟨r.method, r.params.map env⟩), [⟨r.method, r.params.map env⟩]⟩ := by
  rw [call_of_rowOk r h hm check backend env ips hips gs hgs, (firstFail_none_iff check env gs).mpr hallow]

/-- The outcome of a call depends on the policy only through the repositories
the method involves: two policies that agree on the specified guards give the
same outcome. -/
theorem only_involved_repositories_matter (r : Row) (h : RowOk r = true) (hm : r.method ≠ "Repositories")
    (c1 c2 : Policy ε) (backend : Call → ρ) (env : Env)
    (ips : List String) (hips : ifaceParamNames r.method = some ips)
    (gs : List RGuard) (hgs : specGuards r.method ips r.params = some gs)
    (hagree : ∀ g ∈ gs, c1 (g.val env) g.kind = c2 (g.val env) g.kind) :
    call c1 backend env r = call c2 backend env r := by
  rw [call_of_rowOk r h hm c1 backend env ips hips gs hgs, call_of_rowOk r h hm c2 backend env ips hips gs hgs,
    firstFail_congr hagree]

/-! ### Repository listings -/

/-- When the policy rejects listing (`check "*" List`), the iterator delivers
that error as its only event and the wrapped registry is not called. -/
theorem listing_rejected (r : Row) (h : RowOk r = true) (hm : r.method = "Repositories")
    (check : Policy ε) (backend : Call → List (Ev ε)) (env : Env)
    (cb : σ → Ev ε → σ × Bool) (s : σ) (e : ε) (hdeny : check (strBytes "*") .list = some e) :
    repositories check backend env r cb s = some ((cb s (.error e)).1, [], 0) := by
  rw [repositories_of_rowOk r h hm, hdeny]

/-- When listing is allowed, a consumer of the wrapper's iterator sees exactly the
visible part of the backend's listing from the same start point: the items the
policy allows for reading, in the backend's order, up to and including the first
backend error; it stops as soon as the consumer declines; one backend call. -/
theorem listing_filtered (r : Row) (h : RowOk r = true) (hm : r.method = "Repositories")
    (check : Policy ε) (backend : Call → List (Ev ε)) (env : Env)
    (cb : σ → Ev ε → σ × Bool) (s : σ) (hallow : check (strBytes "*") .list = none) :
    ∃ n, repositories check backend env r cb s =
        some ((feed cb (visible check .read (backend ⟨"Repositories", r.params.map env⟩)) s).1,
              [⟨"Repositories", r.params.map env⟩], n) ∧
      n ≤ (backend ⟨"Repositories", r.params.map env⟩).length := by
  exact ⟨_, by rw [repositories_of_rowOk r h hm, hallow, feed_filterCb], feed_count_le _ _ _⟩

/-- The visible part of an error-free backend listing is its allowed names, in order. -/
theorem visible_is_filter (check : Policy ε) (names : List Bytes) :
    visible check .read (names.map .item) = (names.filter fun n => (check n .read).isNone).map .item := by
  induction names with
  | nil => simp [visible]
  | cons n ns ih =>
    simp only [List.map_cons, visible, List.filter_cons]
    cases h : check n .read <;> simp [ih]

/-- A backend error ends the listing and is forwarded as the last event. -/
theorem visible_stops_at_error (check : Policy ε) (names : List Bytes) (e : ε) (rest : List (Ev ε)) :
    visible check .read (names.map .item ++ .error e :: rest) =
      (names.filter fun n => (check n .read).isNone).map .item ++ [.error e] := by
  induction names with
  | nil => simp [visible]
  | cons n ns ih =>
    simp only [List.map_cons, List.cons_append, visible, List.filter_cons]
    cases h : check n .read <;> simp [ih]

/-- A consumer that declines on its `k`-th event receives exactly the first `k`
visible events (all of them for a consumer that never declines). -/
theorem listing_collect (check : Policy ε) (k : Nat) (evs : List (Ev ε)) :
    (feed (filterCb check .read (collectCb k)) evs []).1 =
      if k = 0 then visible check .read evs else (visible check .read evs).take k := by
  rw [feed_filterCb]
  by_cases hk : k = 0
  · subst hk; simp [feed_collect_all]
  · simp [hk, feed_collect k _ [] (by simp; omega)]

/-! ### The selecting wrapper -/

/-- The policy `Select(r, allow)` installs: allowed names pass; a disallowed name
is refused with DENIED for writing and NAME_UNKNOWN for reading, deleting and
listing — except that the pseudo-name "*" (used to guard `Repositories`, never a
valid repository name) is always allowed to be listed. -/
theorem select_error_kinds (allow : Bytes → Bool) (name : Bytes) (k : Kind) :
    selectPolicy allow name k =
      if allow name then none
      else if k = .write then some "DENIED"
      else if k = .list ∧ name = [42] then none
      else some "NAME_UNKNOWN" := by
  simp only [selectPolicy, selectRules, evalRules, evalCond]
  cases allow name
  · -- not allowed: the kind decides, and for `list` whether the name is "*"
    cases k
    case read => rfl
    case write => rfl
    case delete => rfl
    case list =>
      by_cases hn : name = [42]
      · subst hn; rfl
      · simp [evalResult, hn, beq_eq_false_iff_ne.mpr hn, show (Kind.list == Kind.write) = false from rfl]
  · rfl

/-! ### Obligations on the regenerated table -/

/-- Every row extracted from `select.go` delegates to its own method
with its own arguments and has exactly the specified guards (Reader methods → read,
Writer → write with the source of a mount read, Deleter → delete, Lister → list
with "*" for `Repositories`). -/
theorem generated_table_ok : TableOk table = true := by decide +kernel

/-- The table has exactly one row per method of `ociregistry.Interface`. -/
theorem generated_covers_interface :
    (table.map (·.method)).Nodup ∧
    (∀ m ∈ Iface.methodParams.map (·.1), m ∈ table.map (·.method)) ∧
    (∀ m ∈ table.map (·.method), m ∈ Iface.methodParams.map (·.1)) ∧
    Iface.methodParams.length = 18 := by decide +kernel

/-- `AccessChecker(r, check)` stores `check` and `r` unchanged, and `Select`'s
policy has the four-rule shape the model interprets. -/
theorem generated_constructors_ok : constructorKnown = true ∧ selectRulesKnown = true ∧
    (∀ c ∈ selectRules, (evalCond (fun _ => true) [] .read c.1).isSome ∧ (evalResult c.2).isSome) := by decide +kernel

/-- The `MountBlob` row of the regenerated table with what the specification says of it: the source is
checked for reading, then the target for writing. -/
theorem mount_row : ∃ r ∈ table, r.method = "MountBlob" ∧ RowOk r = true ∧ r.method ≠ "Repositories" ∧
    ifaceParamNames r.method = some ["fromRepo", "toRepo", "digest"] ∧
    specGuards r.method ["fromRepo", "toRepo", "digest"] r.params =
      some [⟨"fromRepo", false, .read⟩, ⟨"toRepo", false, .write⟩] := by decide +kernel

/-- Both repositories of a mount are checked: the source for reading, the target
for writing; either rejection keeps the wrapped registry untouched. -/
theorem mount_checks_both (check : Policy ε) (backend : Call → ρ) (env : Env)
    (hdeny : (check (env "fromRepo") .read).isSome = true ∨ (check (env "toRepo") .write).isSome = true) :
    ∃ r ∈ table, r.method = "MountBlob" ∧ ∃ e, call check backend env r = ⟨.rejected e, []⟩ := by
  obtain ⟨r, hr, hm, hok, hne, hips, hgs⟩ := mount_row
  obtain ⟨e, he, _⟩ := denied_no_backend_call r hok hne check backend env _ hips _ hgs (by
    rcases hdeny with hd | hd
    · exact ⟨⟨"fromRepo", false, .read⟩, by simp, by simpa [RGuard.val] using hd⟩
    · exact ⟨⟨"toRepo", false, .write⟩, by simp, by simpa [RGuard.val] using hd⟩)
  exact ⟨r, hr, hm, e, he⟩

/-- The property on the regenerated table: every row of it is
well-formed, so the general theorems apply to every method of the interface. -/
theorem C12_holds (r : Row) (hr : r ∈ table) : RowOk r = true := by
  have := generated_table_ok
  simp [TableOk, List.all_eq_true] at this
  exact this r hr

/-! ### The selecting wrapper, at the level of the wrapper -/

/-- `select_error_kinds` at the level of the WRAPPER `Select(r, allow)`, i.e. of
`call (selectPolicy allow)`: the guards of a method are evaluated in source order
(`gs = pre ++ g :: post`); if `allow` admits the repositories of all guards before
`g` and refuses the repository of `g`, the call is answered by a rejection with an
EMPTY log of calls on the wrapped registry, and the error is DENIED when `g` asks
for write access and NAME_UNKNOWN when it asks for read, delete or list access.
The one exception the policy makes is spelled out as a hypothesis: listing the
pseudo-name "*" is never refused, so for a list guard (`Tags`, `Referrers`) the
argument must not be "*". -/
theorem select_wrapper_error_kinds (r : Row) (h : RowOk r = true) (hm : r.method ≠ "Repositories")
    (allow : Bytes → Bool) (backend : Call → ρ) (env : Env)
    (ips : List String) (hips : ifaceParamNames r.method = some ips)
    (gs : List RGuard) (hgs : specGuards r.method ips r.params = some gs)
    (pre post : List RGuard) (g : RGuard) (hsplit : gs = pre ++ g :: post)
    (hpre : ∀ g' ∈ pre, allow (g'.val env) = true)
    (hg : allow (g.val env) = false)
    (hstar : g.kind = .list → g.val env ≠ strBytes "*") :
    call (selectPolicy allow) backend env r =
      ⟨.rejected (if g.kind = .write then "DENIED" else "NAME_UNKNOWN"), []⟩ := by
  have hstar' : ¬ (g.kind = .list ∧ g.val env = [42]) := fun ⟨h1, h2⟩ => hstar h1 (by rw [h2]; decide)
  rw [call_of_rowOk r h hm _ backend env ips hips gs hgs, hsplit, firstFail_append_of_pass _ _ _ _ (fun g' hg' => by
    rw [select_error_kinds, hpre g' hg']; rfl)]
  simp only [firstFail]
  rw [select_error_kinds, hg]
  by_cases hw : g.kind = .write
  · simp [hw]
  · simp [hw, hstar']

/-- The single-repository methods of the regenerated table (all but `MountBlob`
and `Repositories`): the only check is on `repo`, with the kind of the method's
interface group. -/
theorem generated_single_guard : ∀ r ∈ table, r.method ≠ "Repositories" → r.method ≠ "MountBlob" →
    ∃ k ips, groupKind r.method = some k ∧ ifaceParamNames r.method = some ips ∧
      specGuards r.method ips r.params = some [⟨"repo", false, k⟩] := by
  have hdec : ∀ r ∈ table, r.method ≠ "Repositories" → r.method ≠ "MountBlob" →
      (groupKind r.method).isSome = true ∧ (ifaceParamNames r.method).isSome = true ∧
      specGuards r.method ((ifaceParamNames r.method).getD []) r.params =
        some [⟨"repo", false, (groupKind r.method).getD .read⟩] := by decide +kernel
  intro r hr h1 h2
  obtain ⟨a, b, c⟩ := hdec r hr h1 h2
  cases hk : groupKind r.method with
  | none => simp [hk] at a
  | some k =>
    cases hi : ifaceParamNames r.method with
    | none => simp [hi] at b
    | some ips => exact ⟨k, ips, rfl, rfl, by simpa [hk, hi] using c⟩

/-- `Select(r, allow)` on the 16 single-repository methods of the regenerated table: a
refused `repo` is answered, without any call on the wrapped registry, by DENIED
for the Writer methods and NAME_UNKNOWN for the Reader, Deleter and Lister methods
(`Tags`, `Referrers` of a repository not named "*"). -/
theorem select_wrapper_single (r : Row) (hr : r ∈ table)
    (hm : r.method ≠ "Repositories") (hmb : r.method ≠ "MountBlob")
    (allow : Bytes → Bool) (backend : Call → ρ) (env : Env)
    (hg : allow (env "repo") = false)
    (hstar : groupKind r.method = some .list → env "repo" ≠ strBytes "*") :
    call (selectPolicy allow) backend env r =
      ⟨.rejected (if groupKind r.method = some .write then "DENIED" else "NAME_UNKNOWN"), []⟩ := by
  obtain ⟨k, ips, hgk, hips, hgs⟩ := generated_single_guard r hr hm hmb
  have hok : RowOk r = true := C12_holds r hr
  have := select_wrapper_error_kinds r hok hm allow backend env ips hips _ hgs [] [] ⟨"repo", false, k⟩ rfl
    (by simp) (by simpa [RGuard.val] using hg)
    (by intro hk; simp only at hk; subst hk; simpa [RGuard.val] using hstar hgk)
  simpa [hgk] using this

/-- `Select(r, allow)` on `MountBlob`: the SOURCE repository is checked first (for
reading), the target second (for writing). Hence a refused source is answered by
NAME_UNKNOWN whatever `allow` says of the target — also when both are refused —
and DENIED is the answer exactly when the source is admitted and the target
refused. In both cases the wrapped registry is not called. -/
theorem select_wrapper_mount (allow : Bytes → Bool) (backend : Call → ρ) (env : Env) :
    ∃ r ∈ table, r.method = "MountBlob" ∧
      (allow (env "fromRepo") = false →
        call (selectPolicy allow) backend env r = ⟨.rejected "NAME_UNKNOWN", []⟩) ∧
      (allow (env "fromRepo") = true → allow (env "toRepo") = false →
        call (selectPolicy allow) backend env r = ⟨.rejected "DENIED", []⟩) := by
  obtain ⟨r, hr, hm, hok, hne, hips, hgs⟩ := mount_row
  refine ⟨r, hr, hm, ?_, ?_⟩
  · intro hf
    have := select_wrapper_error_kinds r hok hne allow backend env _ hips _ hgs
      [] [⟨"toRepo", false, .write⟩] ⟨"fromRepo", false, .read⟩ rfl (by simp)
      (by simpa [RGuard.val] using hf) (by simp)
    simpa using this
  · intro hf ht
    have := select_wrapper_error_kinds r hok hne allow backend env _ hips _ hgs
      [⟨"fromRepo", false, .read⟩] [] ⟨"toRepo", false, .write⟩ rfl
      (by simpa [RGuard.val] using hf) (by simpa [RGuard.val] using ht) (by simp)
    simpa using this

/-- Why `select_wrapper_error_kinds` excludes "*" for list guards: `Select` never
refuses `Tags` of the pseudo-name "*", even when `allow` admits nothing — the call
reaches the wrapped registry. -/
theorem select_wrapper_star_listed (backend : Call → ρ) (env : Env) (henv : env "repo" = strBytes "*") :
    ∃ r ∈ table, r.method = "Tags" ∧
      call (selectPolicy fun _ => false) backend env r =
        ⟨.returned (backend ⟨"Tags", r.params.map env⟩), [⟨"Tags", r.params.map env⟩]⟩ := by
  have hfind : ∃ r ∈ table, r.method = "Tags" ∧ RowOk r = true ∧ r.method ≠ "Repositories" ∧
      ifaceParamNames r.method = some ["repo", "startAfter"] ∧
      specGuards r.method ["repo", "startAfter"] r.params = some [⟨"repo", false, .list⟩] := by decide +kernel
  obtain ⟨r, hr, hm, hok, hne, hips, hgs⟩ := hfind
  refine ⟨r, hr, hm, ?_⟩
  have := allowed_transparent r hok hne (selectPolicy fun _ => false) backend env _ hips _ hgs (by
    intro g hg
    simp only [List.mem_singleton] at hg
    subst hg
    rw [select_error_kinds]
    have : strBytes "*" = [42] := by decide
    simp [RGuard.val, henv, this])
  rw [hm] at this
  exact this

/-- The hypotheses of `select_wrapper_error_kinds` on a concrete instance: the
`MountBlob` guards split at the target, `allow` admits only "a", the mount is from
"a" to "b". -/
example :
    let allow : Bytes → Bool := fun n => n == [97]
    let env : Env := fun p => if p = "fromRepo" then [97] else [98]
    let pre : List RGuard := [⟨"fromRepo", false, .read⟩]
    let g : RGuard := ⟨"toRepo", false, .write⟩
    (∃ r ∈ table, RowOk r = true ∧ r.method ≠ "Repositories" ∧
      ifaceParamNames r.method = some ["fromRepo", "toRepo", "digest"] ∧
      specGuards r.method ["fromRepo", "toRepo", "digest"] r.params = some (pre ++ g :: [])) ∧
    (∀ g' ∈ pre, allow (g'.val env) = true) ∧ allow (g.val env) = false ∧
    (g.kind = .list → g.val env ≠ strBytes "*") := by decide +kernel

/-- The hypotheses of `select_wrapper_single` (a `Tags` row, a refused repository "b"),
with the outcomes of the three wrapper theorems evaluated on the table. -/
example :
    let allow : Bytes → Bool := fun n => n == [97]
    let env : Env := fun p => if p = "fromRepo" then [97] else [98]
    let backend : Call → Nat := fun _ => 0
    (∃ r ∈ table, r.method = "Tags" ∧ allow (env "repo") = false ∧
      (groupKind r.method = some .list → env "repo" ≠ strBytes "*") ∧
      call (selectPolicy allow) backend env r = ⟨.rejected "NAME_UNKNOWN", []⟩) ∧
    (∃ r ∈ table, r.method = "PushBlob" ∧
      call (selectPolicy allow) backend env r = ⟨.rejected "DENIED", []⟩) ∧
    (∃ r ∈ table, r.method = "MountBlob" ∧
      call (selectPolicy allow) backend env r = ⟨.rejected "DENIED", []⟩ ∧
      call (selectPolicy allow) backend (fun _ => [98]) r = ⟨.rejected "NAME_UNKNOWN", []⟩) := by decide +kernel

/-! ### Non-vacuity -/

/-- A concrete row, policy and arguments meeting the hypotheses of
`denied_no_backend_call` (a policy that refuses reading "b" with error 7). -/
theorem nonvacuous_row : ∃ r ∈ table, r.method = "GetBlob" ∧ RowOk r = true ∧
    ifaceParamNames r.method = some ["repo", "digest"] ∧
    specGuards r.method ["repo", "digest"] r.params = some [⟨"repo", false, .read⟩] := by decide +kernel

example :
    let check : Policy Nat := fun n k => if n = [98] ∧ k = .read then some 7 else none
    let env : Env := fun p => if p = "repo" then [98] else [1]
    (∃ g ∈ [(⟨"repo", false, .read⟩ : RGuard)], (check (g.val env) g.kind).isSome = true) ∧
    (∀ g ∈ [(⟨"repo", false, .write⟩ : RGuard)], check (g.val env) g.kind = none) := by decide +kernel

/-- A listing with a refused name and a backend error, consumed by a consumer that
declines on its second event. -/
example :
    let check : Policy Nat := fun n k => if n = [98] ∧ k = .read then some 7 else none
    (feed (filterCb check .read (collectCb 2)) [.item [97], .item [98], .item [99], .error 5, .item [100]] []).1
      = [.item [97], .item [99]] ∧
    visible check .read [.item [97], .item [98], .item [99], .error 5, .item [100]]
      = [.item [97], .item [99], .error 5] := by decide +kernel

end OciModel.Props.C12
