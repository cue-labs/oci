/-
C01 — content integrity of the in-memory registry model (`OciModel/Mem.lean`).

`H : Bytes → Bytes` (the digest of some bytes, as text) is a parameter; nothing
is assumed about it.  All proofs assemble lemmas from `OciModel/MemLemmas.lean`.
-/
import OciModel.MemLemmas

namespace OciModel.Props.C01
open OciModel OciModel.Mem

variable (H : Bytes → Bytes)

/-! ### The digest invariant -/

/-- Every stored blob and manifest is stored under the hash of its bytes. -/
def Inv (s : State) : Prop := ∀ r rp, getRepo s r = some rp →
  (∀ d b, alookup d rp.blobs = some b → H b.data = d) ∧
  (∀ d b, alookup d rp.manifests = some b → H b.data = d)

/-- The helper file's `Mem.Inv` is this invariant. -/
theorem inv_iff (s : State) : Inv H s ↔ Mem.Inv H s := Iff.rfl

theorem inv_init (imm : Bool) : Inv H (init imm) := Mem.inv_init H imm

theorem inv_step (s : State) (op : Op) : Inv H s → Inv H (step H s op).1 := Mem.inv_step H s op

theorem inv_run (s : State) (ops : List Op) : Inv H s → Inv H (run H s ops).1 := Mem.inv_run H s ops

/-! ### Reads return exactly the content named by the digest -/

theorem get_exact_blob {s s' : State} {r d : Bytes} {desc : Desc} {data : Bytes} (hs : Inv H s)
    (h : step H s (.getBlob r d) = (s', .okRead desc data)) :
    s' = s ∧ desc.digest = d ∧ H data = d ∧ desc.size = data.length := by
  obtain ⟨h1, b, hb, rfl, rfl⟩ := step_getBlob_okRead H h
  exact ⟨h1, inv_blobFor H hs hb, inv_blobFor H hs hb, rfl⟩

theorem get_exact_manifest {s s' : State} {r d : Bytes} {desc : Desc} {data : Bytes} (hs : Inv H s)
    (h : step H s (.getManifest r d) = (s', .okRead desc data)) :
    s' = s ∧ desc.digest = d ∧ H data = d ∧ desc.size = data.length := by
  obtain ⟨h1, b, hb, rfl, rfl⟩ := step_getManifest_okRead H h
  exact ⟨h1, inv_manifestFor H hs hb, inv_manifestFor H hs hb, rfl⟩

theorem get_exact_tag {s s' : State} {r t : Bytes} {desc : Desc} {data : Bytes} (hs : Inv H s)
    (h : step H s (.getTag r t) = (s', .okRead desc data)) :
    s' = s ∧ H data = desc.digest ∧ desc.size = data.length ∧
      ∃ rp td, getRepo s r = some rp ∧ alookup t rp.tags = some td ∧ td.digest = desc.digest := by
  obtain ⟨h1, rp, td, b, hg, ht, hb, rfl, rfl⟩ := step_getTag_okRead H h
  exact ⟨h1, rfl, rfl, rp, td, hg, ht, ((hs r rp hg).2 _ b hb).symm⟩

theorem resolve_exact_blob {s s' : State} {r d : Bytes} {desc : Desc} (hs : Inv H s)
    (h : step H s (.resolveBlob r d) = (s', .okDesc desc)) :
    s' = s ∧ desc.digest = d ∧ ∃ b, blobFor s r d = .ok b ∧ desc.size = b.data.length := by
  obtain ⟨h1, b, hb, rfl⟩ := step_resolveBlob_okDesc H h
  exact ⟨h1, inv_blobFor H hs hb, b, hb, rfl⟩

theorem resolve_exact_manifest {s s' : State} {r d : Bytes} {desc : Desc} (hs : Inv H s)
    (h : step H s (.resolveManifest r d) = (s', .okDesc desc)) :
    s' = s ∧ desc.digest = d ∧ ∃ b, manifestFor s r d = .ok b ∧ desc.size = b.data.length := by
  obtain ⟨h1, b, hb, rfl⟩ := step_resolveManifest_okDesc H h
  exact ⟨h1, inv_manifestFor H hs hb, b, hb, rfl⟩

/-! ### Ranged reads -/

/-- The descriptor of a ranged read still describes the whole blob; the data is
the requested slice (an end of `< 0` or beyond the size means "to the end"). -/
theorem range_exact {s s' : State} {r d : Bytes} {o0 o1 : Int} {desc : Desc} {data : Bytes} (hs : Inv H s)
    (h : step H s (.getBlobRange r d o0 o1) = (s', .okRead desc data)) :
    s' = s ∧ ∃ b, blobFor s r d = .ok b ∧ desc = descOf H b ∧ desc.digest = d ∧
      desc.size = b.data.length ∧ 0 ≤ o0 ∧
      data = (b.data.drop o0.toNat).take
        ((if o1 < 0 ∨ o1 > b.data.length then (b.data.length : Int) else o1) - o0).toNat := by
  obtain ⟨h1, b, hb, rfl, h0, _, hd⟩ := step_getBlobRange_okRead H h
  exact ⟨h1, b, hb, rfl, inv_blobFor H hs hb, rfl, h0, hd⟩

/-! ### Mismatching content is rejected and nothing is stored -/

theorem push_mismatch_rejected (s : State) (r : Bytes) (desc : Desc) (data : Bytes)
    (h : H data ≠ desc.digest ∨ desc.size ≠ data.length) :
    ∃ e, step H s (.pushBlob r desc data) = (s, .err e) :=
  Mem.push_mismatch_rejected H s r h

/-- A chunked upload committed under the wrong digest fails, and no repository's
blobs, manifests or tags change (only the upload buffer records the error). -/
theorem commit_mismatch_stores_nothing {s : State} {r id dig : Bytes} {rp : Repo} {b : Buffer}
    (hb : getBuffer s r id = some (rp, b)) (hne : H b.buf ≠ dig) :
    (∃ e, (step H s (.wCommit r id dig)).2 = .err e) ∧
    ∀ r', (getRepo (step H s (.wCommit r id dig)).1 r').map (·.blobs) = (getRepo s r').map (·.blobs) ∧
          (getRepo (step H s (.wCommit r id dig)).1 r').map (·.manifests) = (getRepo s r').map (·.manifests) ∧
          (getRepo (step H s (.wCommit r id dig)).1 r').map (·.tags) = (getRepo s r').map (·.tags) :=
  Mem.commit_mismatch_stores_nothing H hb hne

/-! ### Frame properties: what one step can do to one key

`look f s r k` is the entry under key `k` of map `f` of repository `r`. -/

theorem look_def {β} (f : Repo → List (Bytes × β)) (s : State) (r k : Bytes) :
    look f s r k = (getRepo s r).bind (fun rp => alookup k (f rp)) := rfl

/-- The blob stored under `(r, d)` changes only by an accepted `pushBlob`,
`wCommit` or `mount` of exactly that digest into exactly that repository (and is
then the pushed content), or by `deleteBlob r d`. -/
theorem blob_frame (s : State) (op : Op) (r d : Bytes) :
    look (·.blobs) (step H s op).1 r d = look (·.blobs) s r d
    ∨ (∃ desc data, op = .pushBlob r desc data ∧ desc.digest = d ∧ (step H s op).2 = .okDesc desc
        ∧ look (·.blobs) (step H s op).1 r d = some ⟨desc.mediaType, data, [], []⟩)
    ∨ (∃ id rp b, op = .wCommit r id d ∧ getBuffer s r id = some (rp, b)
        ∧ (step H s op).2 = .okDesc ⟨octetStream, d, b.buf.length⟩
        ∧ look (·.blobs) (step H s op).1 r d = some ⟨octetStream, b.buf, [], []⟩)
    ∨ (∃ fromR b, op = .mount fromR r d ∧ blobFor s fromR d = .ok b
        ∧ (step H s op).2 = .okDesc (descOf H b)
        ∧ look (·.blobs) (step H s op).1 r d = some b)
    ∨ (op = .deleteBlob r d ∧ (step H s op).2 = .okUnit ∧ look (·.blobs) (step H s op).1 r d = none) :=
  Mem.blob_frame H s op r d

/-- The manifest stored under `(r, d)` changes only by an accepted
`pushManifest` into `r` of bytes hashing to `d`, or by `deleteManifest r d`. -/
theorem manifest_frame (s : State) (op : Op) (r d : Bytes) :
    look (·.manifests) (step H s op).1 r d = look (·.manifests) s r d
    ∨ (∃ t data mt dec rs subj, op = .pushManifest r t data mt dec ∧ H data = d
        ∧ (step H s op).2 = .okDesc ⟨mt, d, data.length⟩
        ∧ decRefs dec = some rs ∧ checkRefs ((getRepo s r).getD emptyRepo) rs [] = some subj
        ∧ look (·.manifests) (step H s op).1 r d = some ⟨mt, data, subj, rs⟩)
    ∨ (op = .deleteManifest r d ∧ (step H s op).2 = .okUnit
        ∧ look (·.manifests) (step H s op).1 r d = none) :=
  Mem.manifest_frame H s op r d

/-- The tag `(r, t)` changes only by an accepted `pushManifest r t …` that
stores (it then names exactly the pushed bytes), or by `deleteTag r t`. -/
theorem tag_frame (s : State) (op : Op) (r t : Bytes) :
    look (·.tags) (step H s op).1 r t = look (·.tags) s r t
    ∨ (∃ data mt dec, op = .pushManifest r t data mt dec ∧ t ≠ []
        ∧ (step H s op).2 = .okDesc ⟨mt, H data, data.length⟩
        ∧ look (·.tags) (step H s op).1 r t = some ⟨mt, H data, data.length⟩)
    ∨ (op = .deleteTag r t ∧ (step H s op).2 = .okUnit
        ∧ look (·.tags) (step H s op).1 r t = none) :=
  Mem.tag_frame H s op r t

/-! ### Push then get -/

theorem push_then_get {s s1 : State} {r : Bytes} {desc dd : Desc} {data : Bytes}
    (h : step H s (.pushBlob r desc data) = (s1, .okDesc dd)) :
    step H s1 (.getBlob r desc.digest) = (s1, .okRead ⟨desc.mediaType, H data, data.length⟩ data) :=
  Mem.push_then_get H h

/-! ### The hypotheses are satisfiable: a concrete run with a toy hash -/

/-- A toy hash with well-formed digest text: all-`0` for the empty string, all-`1` otherwise. -/
def toyH : Bytes → Bytes := fun b => Ref.sha256 ++ [58] ++ List.replicate 64 (if b = [] then 48 else 49)

def repoA : Bytes := [97]
def mtX : Bytes := [120]
def data1 : Bytes := [1, 2, 3]

/-- push a blob, upload the same bytes in two chunks and commit, mount it elsewhere -/
def demoOps : List Op :=
  [ .pushBlob repoA ⟨mtX, toyH data1, 3⟩ data1,
    .pushChunked repoA,
    .wWrite repoA (freshID 0) [1, 2],
    .wWrite repoA (freshID 0) [3],
    .wCommit repoA (freshID 0) (toyH data1),
    .mount repoA [98] (toyH data1) ]

def demoState : State := (run toyH (init false) demoOps).1

example : Inv toyH demoState := inv_run toyH _ _ (inv_init toyH false)

/-- The state is not trivial: the blob, as the commit stored it last (over the pushed one, under
`octet-stream`), can be read back, whole and as a range. -/
example : step toyH demoState (.getBlob repoA (toyH data1))
    = (demoState, .okRead ⟨octetStream, toyH data1, 3⟩ data1) := by decide +kernel

example : step toyH demoState (.getBlob [98] (toyH data1))
    = (demoState, .okRead ⟨octetStream, toyH data1, 3⟩ data1) := by decide +kernel

example : step toyH demoState (.getBlobRange repoA (toyH data1) 1 (-1))
    = (demoState, .okRead ⟨octetStream, toyH data1, 3⟩ [2, 3]) := by decide +kernel

/-- `push_mismatch_rejected` is not vacuous: a wrong size is refused. -/
example : step toyH demoState (.pushBlob repoA ⟨mtX, toyH data1, 4⟩ data1)
    = (demoState, .err "SIZE_INVALID") := by decide +kernel

/-- `commit_mismatch_stores_nothing`'s hypotheses hold for a fresh upload committed under a wrong digest. -/
example : (getBuffer (step toyH demoState (.pushChunked repoA)).1 repoA (freshID 1)).map (·.2)
      = some ⟨[], 0, false, none⟩ ∧ toyH [] ≠ toyH data1 := by decide +kernel

end OciModel.Props.C01
