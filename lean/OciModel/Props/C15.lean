/-
C15 — Unified registry is the union view and replicates every write.

The combinators of `ociunify` are modelled in `OciModel.Unify`; which method is
built from which combinator is regenerated from the source on every run
(`OciModel.Generated.Unify`) and checked here by `decide` (§7).
§§1–6: the combinators, the composite upload ID, replication over any machine. §8: the same clauses for
`Unify.step`, the machine the engine drives. §9: equal `ocimem` members stay equal. Witnesses for §8 close the file.

Trusted base of this file: the translator's reading of the five source files;
base64url and encoding/json as an abstract codec with the stated round-trip
hypothesis (`CodecLawful`; for the real codec it holds for IDs that are valid
UTF-8, which is what registries issue); Go's `slices.SortFunc` sorts.
-/
import OciModel.Unify
import OciModel.UnifyLemmas
import OciModel.Generated.Unify
import OciModel.Generated.Funcs

namespace OciModel.Props.C15
open OciModel OciModel.Unify

/-! ### 1. Digest-addressed reads: the union, under both policies -/

/-- A read succeeds exactly when a member has the content, and the answer is a
member's answer; for every policy and every order of the members' answers. -/
theorem read_union {α} (pol : Policy) (a0 a1 r : Res α) (hr : r ∈ readAllowed pol a0 a1) :
    (r.isOk = true ↔ a0.isOk = true ∨ a1.isOk = true) ∧ (r = a0 ∨ r = a1) := by
  cases pol <;> cases a0 <;> cases a1 <;> simp [readAllowed, readFirst] at hr <;>
    (try rcases hr with rfl | rfl) <;> (try subst hr) <;> simp [Res.isOk]

/-- The two policies give `≈` results whenever the members' successful answers
describe the same content (same digest ⇒ same size and bytes; media types may
differ and are not compared). -/
theorem policies_agree {α κ} (key : α → κ) (a0 a1 : Res α)
    (hcontent : ∀ x y, a0 = .ok x → a1 = .ok y → key x = key y)
    (r r' : Res α) (hr : r ∈ readAllowed .concurrent a0 a1) (hr' : r' ∈ readAllowed .sequential a0 a1) :
    Res.equiv key r r' := by
  cases a0 <;> cases a1 <;> simp [readAllowed, readFirst] at hr hr' <;> subst hr' <;>
    (try rcases hr with rfl | rfl) <;> (try subst hr) <;> simp [Res.equiv]
  · rename_i x y
    exact (hcontent x y rfl rfl).symm

/-- The hypothesis is satisfiable with two successful, differently labelled answers. -/
example : ∃ (a0 a1 : Res (String × Nat)), a0 ≠ a1 ∧ a0.isOk ∧ a1.isOk ∧
    ∀ x y, a0 = .ok x → a1 = .ok y → x.2 = y.2 :=
  ⟨.ok ("text/a", 7), .ok ("text/b", 7), by decide, rfl, rfl, by
    intro x y h0 h1; cases h0; cases h1; rfl⟩

/-! ### 2. Tags -/

/-- Both members have the tag: the answer is member 0's when the digests agree
and an error when they differ — never a silent choice. -/
theorem tag_rule_both {α} (dig : α → Bytes) (x y : α) :
    (dig x = dig y → tagRule dig (.ok x) (.ok y) = .ok x) ∧
    (dig x ≠ dig y → (tagRule dig (.ok x) (.ok y)).isOk = false) := by
  constructor <;> intro h <;> simp [tagRule, h, Res.isOk]

/-- Exactly one member has the tag: that member's answer. Neither: an error. -/
theorem tag_rule_one {α} (dig : α → Bytes) (x : α) (e e' : String) :
    tagRule dig (.ok x) (.err e) = .ok x ∧ tagRule dig (.err e) (.ok x) = .ok x ∧
    tagRule dig (.err e) (.err e') = (.err e : Res α) := by
  simp [tagRule]

/-- Summary: a tag read succeeds iff some member has the tag and the members do
not disagree; a successful answer is a member's answer. -/
theorem tag_rule {α} (dig : α → Bytes) (r0 r1 : Res α) :
    ((tagRule dig r0 r1).isOk = true ↔
      (r0.isOk = true ∨ r1.isOk = true) ∧ ∀ x y, r0 = .ok x → r1 = .ok y → dig x = dig y) ∧
    ((tagRule dig r0 r1).isOk = true → tagRule dig r0 r1 = r0 ∨ tagRule dig r0 r1 = r1) := by
  cases r0 <;> cases r1 <;> simp [tagRule, Res.isOk]
  rename_i x y
  by_cases h : dig x = dig y <;> simp [h]

/-! ### 3. Listings -/

section lists
variable {α : Type} (cmp : α → α → Ordering) [Std.TransCmp cmp]

/-- `mergeIter` yields a strictly ascending (hence duplicate-free) list that
contains nothing but members' items, and a representative of every item; for
ANY two inputs (they need not be sorted). -/
theorem merge_sorted_union_general (e0 e1 : Events α)
    (hnf : ¬ (isNameUnknown e0.err = true ∧ isNameUnknown e1.err = true)) :
    StrictAsc cmp (mergeIter cmp e0 e1).items ∧
    (∀ x ∈ (mergeIter cmp e0 e1).items, x ∈ e0.items ∨ x ∈ e1.items) ∧
    (∀ x, x ∈ e0.items ∨ x ∈ e1.items → ∃ y ∈ (mergeIter cmp e0 e1).items, cmp y x = .eq) := by
  have hif : (isNameUnknown e0.err && isNameUnknown e1.err) = false := by
    cases h0 : isNameUnknown e0.err <;> cases h1 : isNameUnknown e1.err <;> simp_all
  simp only [mergeIter, hif, Bool.false_eq_true, if_false]
  refine ⟨strictAsc_compactBy _ (asc_sortBy _), ?_, ?_⟩
  · intro x hx
    have := (mem_sortBy x _).1 (mem_compactBy _ _ hx)
    simpa using this
  · intro x hx
    apply compactBy_covers
    rw [mem_sortBy]; simpa using hx

/-- The statement of the property: for an order whose `eq` is equality (byte
strings under `strings.Compare`), the listing is the strictly ascending,
duplicate-free union of the members' listings. -/
theorem merge_sorted_union [Std.LawfulEqCmp cmp] (e0 e1 : Events α)
    (hnf : ¬ (isNameUnknown e0.err = true ∧ isNameUnknown e1.err = true)) :
    StrictAsc cmp (mergeIter cmp e0 e1).items ∧
    ∀ x, x ∈ (mergeIter cmp e0 e1).items ↔ x ∈ e0.items ∨ x ∈ e1.items := by
  obtain ⟨h1, h2, h3⟩ := merge_sorted_union_general cmp e0 e1 hnf
  refine ⟨h1, fun x => ⟨h2 x, fun hx => ?_⟩⟩
  obtain ⟨y, hy, hyx⟩ := h3 x hx
  rwa [← Std.LawfulEqCmp.eq_of_compare hyx]

/-- Because a strictly ascending list is determined by its members, the result
does not depend on how `slices.SortFunc` arranges equal elements: any list with
the two properties above IS the model's output. -/
theorem merge_unique [Std.LawfulEqCmp cmp] (e0 e1 : Events α) (out : List α)
    (hnf : ¬ (isNameUnknown e0.err = true ∧ isNameUnknown e1.err = true))
    (hs : StrictAsc cmp out) (hm : ∀ x, x ∈ out ↔ x ∈ e0.items ∨ x ∈ e1.items) :
    out = (mergeIter cmp e0 e1).items := by
  obtain ⟨h1, h2⟩ := merge_sorted_union cmp e0 e1 hnf
  exact strictAsc_unique out _ hs h1 (fun x => by rw [hm, h2])

omit [Std.TransCmp cmp] in
/-- Errors: a repository unknown to both members is reported as such, with no
items; a member that does not know the repository — it answered NAME_UNKNOWN and delivered nothing — is
otherwise ignored; any other error is delivered (member 0's first), after the items. F34: a member that
delivered items and THEN answered NAME_UNKNOWN (its repository vanished while it was being listed) has
failed like any other: its error is delivered. -/
theorem merge_errors (e0 e1 : Events α) :
    (isNameUnknown e0.err = true → isNameUnknown e1.err = true →
      mergeIter cmp e0 e1 = ⟨[], e0.err⟩) ∧
    (isNameUnknown e0.err = true → isNameUnknown e1.err = false →
      (e0.items = [] → (mergeIter cmp e0 e1).err = e1.err) ∧
      (e0.items ≠ [] → (mergeIter cmp e0 e1).err = e0.err)) ∧
    (isNameUnknown e0.err = false → isNameUnknown e1.err = true →
      (∀ e, e0.err = some e → (mergeIter cmp e0 e1).err = some e) ∧
      (e0.err = none → e1.items = [] → (mergeIter cmp e0 e1).err = none) ∧
      (e0.err = none → e1.items ≠ [] → (mergeIter cmp e0 e1).err = e1.err)) ∧
    (isNameUnknown e0.err = false → isNameUnknown e1.err = false →
      (∀ e, e0.err = some e → (mergeIter cmp e0 e1).err = some e) ∧
      (e0.err = none → (mergeIter cmp e0 e1).err = e1.err)) := by
  obtain ⟨i0, r0⟩ := e0
  obtain ⟨i1, r1⟩ := e1
  cases r0
  all_goals
    refine ⟨?_, ?_, ?_, ?_⟩
    all_goals
      intro h0 h1
      simp_all [mergeIter, isNameUnknown]

omit [Std.TransCmp cmp] in
/-- **Never a silently shortened union (F34).** If a member delivered at least one item and then an error —
whatever the error, NAME_UNKNOWN included — the merged listing ends in an error. -/
theorem merge_never_silently_short (e0 e1 : Events α)
    (h : (e0.items ≠ [] ∧ e0.err.isSome = true) ∨ (e1.items ≠ [] ∧ e1.err.isSome = true)) :
    (mergeIter cmp e0 e1).err.isSome = true := by
  obtain ⟨i0, r0⟩ := e0
  obtain ⟨i1, r1⟩ := e1
  cases r0 <;> cases r1
  all_goals
    simp_all [mergeIter, isNameUnknown]
    repeat' split
    all_goals simp_all

end lists

/-- The calls made to the consumer are a prefix of "items, then the error": the
error comes last and at most once, and nothing is delivered after it. -/
theorem consumer_sees_prefix {α} (accept : List (Ev α) → Bool) (e : Events α) :
    feed accept [] e.calls <+: e.calls :=
  feed_prefix _ _ _

/-- Call number `i` is made exactly when the consumer accepted every earlier
call: iteration stops as soon as the consumer declines. -/
theorem consumer_stop {α} (accept : List (Ev α) → Bool) (e : Events α) (i : Nat) (hi : i < e.calls.length) :
    i < (feed accept [] e.calls).length ↔ ∀ j < i, accept (histAt [] e.calls j) = true :=
  feed_length _ _ _ _ hi

/-- `List UInt8` under core `compare` (= Go's `strings.Compare` on the bytes)
meets the hypotheses of the listing theorems. -/
example : StrictAsc cmpBytes (mergeIter cmpBytes ⟨[[2], [1], [2]], none⟩ ⟨[[3], [1]], some "NAME_UNKNOWN"⟩).items ∧
    -- F34: the second member delivered items before its NAME_UNKNOWN, so the union ends with that error …
    (mergeIter cmpBytes ⟨[[2], [1], [2]], none⟩ ⟨[[3], [1]], some "NAME_UNKNOWN"⟩) = ⟨[[1], [2], [3]], some "NAME_UNKNOWN"⟩ ∧
    -- … while a member that delivered nothing simply does not know the repository
    (mergeIter cmpBytes ⟨[[2], [1], [2]], none⟩ ⟨[], some "NAME_UNKNOWN"⟩) = ⟨[[1], [2]], none⟩ := by
  have : Std.TransCmp cmpBytes := inferInstanceAs (Std.TransCmp (compare : Bytes → Bytes → Ordering))
  have : Std.LawfulEqCmp cmpBytes := inferInstanceAs (Std.LawfulEqCmp (compare : Bytes → Bytes → Ordering))
  exact ⟨(merge_sorted_union cmpBytes _ _ (by decide)).1, by decide, by decide⟩

/-! ### 4. Writes -/

/-- `bothResults` reports success only if both members succeeded. -/
theorem bothResults_ok_iff {α} (r0 r1 : Res α) :
    (bothResults r0 r1).isOk = true ↔ r0.isOk = true ∧ r1.isOk = true := by
  cases r0 <;> cases r1 <;> simp [bothResults, Res.isOk]

/-- So does the test used by PushBlob and PushManifest. -/
theorem eqOk_ok_iff {α} (r0 r1 : Res α) :
    (eqOk r0 r1).isOk = true ↔ r0.isOk = true ∧ r1.isOk = true := by
  cases r0 <;> cases r1 <;> simp [eqOk, Res.isOk]

/-- A successful combined answer is member 0's answer. -/
theorem write_answer {α} (r0 r1 : Res α) :
    ((bothResults r0 r1).isOk = true → bothResults r0 r1 = r0) ∧
    ((eqOk r0 r1).isOk = true → eqOk r0 r1 = r0) := by
  cases r0 <;> cases r1 <;> simp [bothResults, eqOk, Res.isOk]

/-! ### 5. Composite upload IDs -/

/-- The stated hypothesis on base64url / JSON (trusted). -/
def CodecLawful (C : Codec) : Prop :=
  (∀ x, C.b64dec (C.b64enc x) = some x) ∧ (∀ l, C.jsonDec (C.jsonEnc l) = some l)

/-- Resuming with the ID the unified writer reported reaches the same two
member uploads. -/
theorem split_join (C : Codec) (h : CodecLawful C) (id0 id1 : Bytes) :
    splitID C (joinID C id0 id1) = some (id0, id1) := by
  simp [splitID, joinID, h.1, h.2]

/-- A list of strings coded by escaping: every byte `c` as `1 c`, every end of string as `0`. -/
def escEnc : List Bytes → Bytes
  | [] => []
  | b :: rest => b.flatMap (fun c => [1, c]) ++ 0 :: escEnc rest

def escDecAux : Bytes → Bytes → Option (List Bytes)
  | cur, [] => if cur.isEmpty then some [] else none
  | cur, x :: rest =>
    if x = 0 then (escDecAux [] rest).map (cur.reverse :: ·)
    else match rest with
      | [] => none
      | c :: rest' => if x = 1 then escDecAux (c :: cur) rest' else none

/-- A codec satisfying the hypothesis `CodecLawful`: base64 the identity, the list coded by `escEnc`. -/
def escCodec : Codec := ⟨id, some, escEnc, escDecAux []⟩

theorem escDecAux_enc (b : Bytes) (t : Bytes) (cur : Bytes) :
    escDecAux cur (b.flatMap (fun c => [1, c]) ++ 0 :: t) =
      (escDecAux [] t).map ((cur.reverse ++ b) :: ·) := by
  induction b generalizing cur with
  | nil => cases t <;> simp [escDecAux]
  | cons c cs ih => simp [escDecAux, ih]

theorem escDec_enc (l : List Bytes) : escDecAux [] (escEnc l) = some l := by
  induction l with
  | nil => simp [escEnc, escDecAux]
  | cons b rest ih => simp [escEnc, escDecAux_enc, ih]

example : CodecLawful escCodec := ⟨fun _ => rfl, escDec_enc⟩

/-! ### 6. Replication keeps the members equal -/

/-- Two members related by `R` stay related when every write is applied to both
with related arguments — whatever the machine. -/
theorem members_stay_related (M : Machine) (R : M.σ → M.σ → Prop) (Rop : M.Op → M.Op → Prop)
    (hstep : ∀ s0 s1 o0 o1, R s0 s1 → Rop o0 o1 → R (M.step s0 o0).1 (M.step s1 o1).1)
    (s : M.σ × M.σ) (hs : R s.1 s.2) (hist : List (M.Op × M.Op)) (hh : ∀ p ∈ hist, Rop p.1 p.2) :
    R (runPair M s hist).1 (runPair M s hist).2 := by
  induction hist generalizing s with
  | nil => exact hs
  | cons p rest ih =>
    obtain ⟨o0, o1⟩ := p
    simp only [runPair]
    apply ih
    · exact hstep _ _ _ _ hs (hh (o0, o1) (by simp))
    · intro q hq; exact hh q (by simp [hq])

/-- Two copies of a deterministic machine that start equal are equal after any
history of writes applied to both with the same arguments, and gave the same
outputs at every step. -/
theorem members_stay_equal (M : Machine) (s : M.σ) (hist : List (M.Op × M.Op)) (hh : ∀ p ∈ hist, p.1 = p.2) :
    (runPair M (s, s) hist).1 = (runPair M (s, s) hist).2 :=
  members_stay_related M (· = ·) (· = ·) (by intro s0 s1 o0 o1 h1 h2; rw [h1, h2]) (s, s) rfl hist hh


/-! ### 7. Obligations on the facts regenerated from the source -/

open OciModel.Generated.Unify in
/-- The helper functions the model transcribes (bothResults, both, runRead,
runReadWithCancel, runReadSequential, runReadConcurrent, runReadBlobReader,
blobReader.Close, t2.close, t2.error, mergeIter, compareDescriptor) have the text
the model mirrors. -/
theorem generated_helpers_pinned : helpers.all (·.2) = true ∧ helpers.length = 12 := by decide +kernel

def rowsOf (recv : String) : List Generated.Unify.Row := Generated.Unify.table.filter (·.recv = recv)

def findRow (recv method : String) : Option Generated.Unify.Row :=
  (rowsOf recv).find? (·.method = method)

/-- The unifier implements every method of `ociregistry.Interface` itself (the
embedded nil `*Funcs` is never reached), once. -/
theorem generated_covers_interface :
    (∀ m ∈ Generated.Funcs.interfaceMethods, m ∈ (rowsOf "unifier").map (·.method)) ∧
    ((rowsOf "unifier").map (·.method)).Nodup ∧
    (∀ m ∈ ["Write", "Close", "Cancel", "Commit", "Size", "ChunkSize", "ID"], m ∈ (rowsOf "unifiedBlobWriter").map (·.method)) := by
  decide +kernel

/-- What `generated_writes_go_to_both` asks of a row of the table. -/
def writeRowOk (r : Generated.Unify.Row) : Bool :=
  (r.callee == "both" || r.callee == "pipe2") &&
  r.member == r.method &&
  (r.memberRecv == (if r.recv == "unifier" then "member" else "w.w[i]")) &&
  (r.args == r.params ||
    -- the upload ID is split: each member gets its own half
    (r.method == "PushBlobChunkedResume" && r.args == ["repo", "ids[i]", "offset", "chunkSize"]) ||
    -- the content is teed into one pipe per member
    (r.method == "PushBlob" && r.args == ["repo", "desc", "pipe"])) &&
  (r.combine == "bothResults" || r.combine == "eqOk" || r.combine == "pipe2:eqOk" ||
    r.combine == "chunked:bothResults" || r.combine == "resume:splitID,bothResults,sameSize" ||
    r.combine == "write:bothResults")

def writeMethods : List (String × String) :=
  [("unifier", "PushBlob"), ("unifier", "PushBlobChunked"), ("unifier", "PushBlobChunkedResume"),
   ("unifier", "MountBlob"), ("unifier", "PushManifest"),
   ("unifier", "DeleteBlob"), ("unifier", "DeleteManifest"), ("unifier", "DeleteTag"),
   ("unifiedBlobWriter", "Write"), ("unifiedBlobWriter", "Close"), ("unifiedBlobWriter", "Cancel"),
   ("unifiedBlobWriter", "Commit")]

/-- Every Writer and Deleter method, and every mutating method of the unified
blob writer, calls the same method on BOTH members (`both`, or the two pipes of
PushBlob) with its own arguments, and combines the two answers with a
success-only-if-both rule (`bothResults` or `eqOk`). -/
theorem generated_writes_go_to_both :
    ∀ p ∈ writeMethods, ((findRow p.1 p.2).map writeRowOk) = some true := by decide +kernel

/-- Which success-only-if-both rule each write uses (so that `step` applies the
right one). -/
theorem generated_write_combinators :
    (["PushBlob", "PushManifest"].map fun m => (findRow "unifier" m).map (·.combine)) = [some "pipe2:eqOk", some "eqOk"] ∧
    (["MountBlob", "DeleteBlob", "DeleteManifest", "DeleteTag"].all fun m =>
      (findRow "unifier" m).map (·.combine) == some "bothResults") = true ∧
    (["Close", "Cancel", "Commit"].all fun m =>
      (findRow "unifiedBlobWriter" m).map (·.combine) == some "bothResults") = true ∧
    (findRow "unifiedBlobWriter" "ID").map (·.combine) = some "local:joinID" ∧
    (findRow "unifiedBlobWriter" "Size").map (·.combine) = some "local:size" := by decide +kernel

/-- Every digest-addressed read is a first-success read of the same member
method with the same arguments, run under the closure's own context. -/
theorem generated_reads_first_success :
    ∀ p ∈ [("GetBlob", "runReadBlobReader"), ("GetBlobRange", "runReadBlobReader"), ("GetManifest", "runReadBlobReader"),
           ("ResolveBlob", "runRead"), ("ResolveManifest", "runRead")],
      (findRow "unifier" p.1).map (fun r =>
        r.combine == "firstSuccess" && r.member == p.1 && r.args == r.params && r.memberRecv == "member" &&
        r.callee == p.2) = some true := by decide +kernel

/-- Tag reads ask both members and apply the tag rule. -/
theorem generated_tags_use_rule :
    ∀ m ∈ ["GetTag", "ResolveTag"],
      (findRow "unifier" m).map (fun r =>
        r.combine == "tagRule" && r.callee == "both" && r.member == m && r.args == r.params && r.memberRecv == "member") = some true := by
  decide +kernel

/-- Listings ask both members and merge; names by `strings.Compare`, referrers by digest. -/
theorem generated_lists_merge :
    (∀ m ∈ ["Repositories", "Tags"],
      (findRow "unifier" m).map (fun r =>
        r.combine == "mergeIter:strings.Compare" && r.callee == "both" && r.member == m && r.args == r.params) = some true) ∧
    (findRow "unifier" "Referrers").map (fun r =>
        r.combine == "mergeIter:compareDescriptor" && r.callee == "both" && r.member == "Referrers" && r.args == r.params) = some true := by
  decide +kernel


/-! ### 8. The machine the engine drives: `Unify.step` over two `ocimem` members

§§1–4 are about the combinators. This section states the same clauses for `Unify.step` itself (two `Mem` members,
policy, upload-ID codec), as equations on the stepped state and on the answer, so that a step that dropped a
write, or reported a success one member did not have, would contradict a theorem here (`step_members` in §9 is a
disjunction such a step would satisfy).

What `step` does NOT do, and is therefore not claimed: it does not roll back. Every write that reaches the members
steps BOTH of them whatever the two answers are (`write_steps_both`), so after a write that failed on one member
only, the other member keeps the effect (witness: the `DeleteTag` example below); and a resume that the unifier refuses
because the two writers disagree on the size has nevertheless resumed both member uploads
(`write_ok_iff_both_ok_open`). `Close` is not an operation of the `Mem` model (the driver answers it from the table
of live writers); `Size` is answered locally (`generated_write_combinators`: `local:size`). -/

/-- A member's answer is a success. -/
def okM (o : Mem.Out) : Bool := (ofOut o).isOk

/-- The unifier's answer is a success (`listErr` is a listing that ended in an error). -/
def okU : UOut → Bool
  | .out o => okM o
  | .listErr .. => false

/-- The operations that change a registry: Writer and Deleter methods and the mutating methods of a blob writer. -/
def isWrite : Mem.Op → Bool
  | .pushBlob .. | .pushManifest .. | .mount .. | .deleteBlob .. | .deleteManifest .. | .deleteTag ..
  | .pushChunked .. | .resume .. | .wWrite .. | .wCancel .. | .wCommit .. => true
  | _ => false

/-- Writes whose answer is a member's answer (everything except the two calls that open a writer). -/
def isAnswerWrite : Mem.Op → Bool
  | .pushBlob .. | .pushManifest .. | .mount .. | .deleteBlob .. | .deleteManifest .. | .deleteTag ..
  | .wWrite .. | .wCancel .. | .wCommit .. => true
  | _ => false

/-- A method of a unified blob writer can only be called on an object the client holds. -/
def Live (s : UState) : Mem.Op → Prop
  | .wWrite r id _ | .wCancel r id | .wCommit r id _ | .wSize r id => (Mem.alookup (wkey r id) s.writers).isSome = true
  | _ => True

/-- The upload ID an operation carries. -/
def idOf : Mem.Op → Option Bytes
  | .resume _ id _ | .wWrite _ id _ | .wSize _ id | .wCancel _ id | .wCommit _ id _ => some id
  | _ => none

/-- The same operation, same arguments, on another upload ID. -/
def withID (x : Bytes) : Mem.Op → Mem.Op
  | .resume r _ off => .resume r x off
  | .wWrite r _ d => .wWrite r x d
  | .wSize r _ => .wSize r x
  | .wCancel r _ => .wCancel r x
  | .wCommit r _ dg => .wCommit r x dg
  | op => op

section stepthms
variable (H : Bytes → Bytes) (C : Codec)

/-- What the two member calls are: the call itself when it carries no upload ID; otherwise the same call with the
same arguments on each half of the composite ID. -/
theorem fan_spec (op : Mem.Op) :
    fan C op = match idOf op with
      | none => some (op, op)
      | some id => (splitID C id).map fun ab => (withID ab.1 op, withID ab.2 op) := by
  cases op <;> simp [fan, idOf, withID]

theorem write_steps_both (pol : Policy) (f : Bool) (s : UState) (op op0 op1 : Mem.Op)
    (hw : isWrite op = true) (hl : Live s op) (hf : fan C op = some (op0, op1)) :
    (step H C pol f s op).1.m0 = (Mem.step H s.m0 op0).1 ∧
    (step H C pol f s op).1.m1 = (Mem.step H s.m1 op1).1 := by
  cases op with
  | wWrite r id d | wCancel r id | wCommit r id dg =>
    obtain ⟨sz, hsz⟩ := Option.isSome_iff_exists.mp hl
    unfold step; simp only [hf, hsz]; (repeat' split) <;> (first | exact ⟨rfl, rfl⟩ | simp)
  | _ =>
    first
      | exact Bool.noConfusion hw
      | (unfold step; simp only [hf]; (repeat' split) <;> (first | exact ⟨rfl, rfl⟩ | simp))


/-- When the call never reaches the members — a composite ID that does not decode, or a writer method on an
object the client does not hold — nothing changes and the answer is an error. -/
theorem write_not_fanned (pol : Policy) (f : Bool) (s : UState) (op : Mem.Op)
    (h : fan C op = none ∨ ¬ Live s op) :
    (step H C pol f s op).1 = s ∧ okU (step H C pol f s op).2 = false := by
  rcases h with h | h
  · unfold step; simp only [h]; split <;> exact ⟨rfl, rfl⟩
  · cases op with
    | wWrite r id d | wCancel r id | wCommit r id dg | wSize r id =>
      have hn : Mem.alookup (wkey r id) s.writers = none := by
        simpa [Live] using h
      unfold step
      split
      · split <;> exact ⟨rfl, rfl⟩
      · simp [hn, okU, okM, ofOut, Res.isOk]
    | _ => exact absurd trivial h


/-- Which success-only-if-both rule `step` applies to a write (cf. `generated_write_combinators`). -/
def combOf : Mem.Op → Res Mem.Out → Res Mem.Out → Res Mem.Out
  | .pushBlob .. | .pushManifest .. => eqOk
  | _ => bothResults

/-- The link between the machine and the combinators of §4: the answer of `step` to a write IS the combinator
applied to the two members' answers (`Write` returns the length of its argument when the combinator succeeds),
so `bothResults_ok_iff`, `eqOk_ok_iff` and `write_answer` speak about `step`. -/
theorem write_out_is_combinator (pol : Policy) (f : Bool) (s : UState) (op op0 op1 : Mem.Op)
    (hw : isAnswerWrite op = true) (hl : Live s op) (hf : fan C op = some (op0, op1)) :
    (step H C pol f s op).2 = .out
      (match op with
       | .wWrite _ _ d =>
         (match bothResults (ofOut (Mem.step H s.m0 op0).2) (ofOut (Mem.step H s.m1 op1).2) with
          | .ok _ => .okN d.length
          | .err c => .err c)
       | _ => toOut (combOf op (ofOut (Mem.step H s.m0 op0).2) (ofOut (Mem.step H s.m1 op1).2))) := by
  cases op with
  | wWrite r id d =>
    obtain ⟨sz, hsz⟩ := Option.isSome_iff_exists.mp hl
    unfold step; simp only [hf, hsz]; split <;> simp_all
  | wCancel r id | wCommit r id dg =>
    obtain ⟨sz, hsz⟩ := Option.isSome_iff_exists.mp hl
    unfold step; simp only [hf, hsz, combOf]
  | _ =>
    first
      | exact Bool.noConfusion hw
      | (unfold step; simp only [hf, combOf])

theorem combOf_bothRule (op : Mem.Op) : BothRule (combOf op) := by
  intro r0 r1
  unfold combOf
  split
  iterate 2 exact ⟨eqOk_ok_iff r0 r1, (write_answer r0 r1).2⟩
  exact ⟨bothResults_ok_iff r0 r1, (write_answer r0 r1).1⟩

/-- **Success only if both.** For every write whose answer is a member's answer, the unifier's answer is a
success iff both members' answers are, and it is then member 0's. -/
theorem write_ok_iff_both_ok (pol : Policy) (f : Bool) (s : UState) (op op0 op1 : Mem.Op)
    (hw : isAnswerWrite op = true) (hl : Live s op) (hf : fan C op = some (op0, op1)) :
    (okU (step H C pol f s op).2 = true ↔
      okM (Mem.step H s.m0 op0).2 = true ∧ okM (Mem.step H s.m1 op1).2 = true) ∧
    (okU (step H C pol f s op).2 = true → (step H C pol f s op).2 = .out (Mem.step H s.m0 op0).2) := by
  rw [write_out_is_combinator H C pol f s op op0 op1 hw hl hf]
  have hc := answer_of_bothRule (combOf_bothRule op) (Mem.step H s.m0 op0).2 (Mem.step H s.m1 op1).2
  cases op with
  | wWrite r id d =>
    obtain ⟨⟨a, b⟩, -, hab⟩ := Option.map_eq_some_iff.1 hf
    obtain ⟨rfl, rfl⟩ := Prod.mk.inj hab
    -- a member's `Write` answers with the length of what it was given, so here too the answer is `toOut (bothResults ..)`
    have h0 := mem_write_out H s.m0 r a d
    generalize (Mem.step H s.m0 (.wWrite r a d)).2 = o0 at h0 hc ⊢
    generalize (Mem.step H s.m1 (.wWrite r b d)).2 = o1 at hc ⊢
    have e : (match bothResults (ofOut o0) (ofOut o1) with
        | .ok _ => Mem.Out.okN d.length
        | .err c => .err c) = toOut (bothResults (ofOut o0) (ofOut o1)) := by
      rcases h0 with ⟨c, rfl⟩ | rfl <;> rcases ofOut_cases o1 with h1 | ⟨c1, rfl⟩ <;> (try rw [h1]) <;> rfl
    dsimp only
    rw [e]
    exact ⟨hc.1, fun h => congrArg _ (hc.2 h)⟩
  | _ => exact ⟨hc.1, fun h => congrArg _ (hc.2 h)⟩


/-- The size a member reports for an upload (what `w.Size()` returns on the member's writer). -/
def msize (m : Mem.State) (r id : Bytes) : Int :=
  match (Mem.step H m (.wSize r id)).2 with | .okN n => n | _ => 0

/-- The repository argument of the two calls that open a writer. -/
def openRepo : Mem.Op → Option Bytes
  | .pushChunked r | .resume r _ _ => some r
  | _ => none

/-- The halves of a call that opens a writer are calls that open a writer. -/
theorem fan_open {op op0 op1 : Mem.Op} {r : Bytes} (hr : openRepo op = some r) (hf : fan C op = some (op0, op1)) :
    (∃ r, op0 = .pushChunked r ∨ ∃ id off, op0 = .resume r id off) ∧
    (∃ r, op1 = .pushChunked r ∨ ∃ id off, op1 = .resume r id off) := by
  cases op with
  | pushChunked r' => cases hf; exact ⟨⟨r', .inl rfl⟩, ⟨r', .inl rfl⟩⟩
  | resume r' id off =>
    obtain ⟨⟨a, b⟩, -, hab⟩ := Option.map_eq_some_iff.1 hf
    cases hab; exact ⟨⟨r', .inr ⟨a, off, rfl⟩⟩, ⟨r', .inr ⟨b, off, rfl⟩⟩⟩
  | _ => cases hr

/-- What `step` answers to a call that opens a writer, from the two members' answers: on a resume the two writers
must also report the same size (of the two calls only the resume carries an upload ID). -/
theorem open_out (pol : Policy) (f : Bool) (s : UState) (op op0 op1 : Mem.Op) (r : Bytes)
    (hr : openRepo op = some r) (hf : fan C op = some (op0, op1)) :
    (step H C pol f s op).2 =
      match (Mem.step H s.m0 op0).2, (Mem.step H s.m1 op1).2 with
      | .okWriter i0, .okWriter i1 =>
        if (idOf op).isSome = true ∧
            msize H (Mem.step H s.m0 op0).1 r i0 ≠ msize H (Mem.step H s.m1 op1).1 r i1
        then .out (.err "ERR") else .out (.okWriter (joinID C i0 i1))
      | o0, o1 => .out (toOut (bothResults (ofOut o0) (ofOut o1))) := by
  unfold step
  simp only [hf]
  rcases Mem.step H s.m0 op0 with ⟨m0', o0⟩
  rcases Mem.step H s.m1 op1 with ⟨m1', o1⟩
  cases op with
  | pushChunked r' => dsimp only; split <;> simp [idOf]
  | resume r' id off =>
    cases hr
    dsimp only
    split
    · rw [apply_ite Prod.snd]; simp [idOf]; rfl
    · simp
  | _ => cases hr

/-- **Success only if both, for the calls that open a writer.** `PushBlobChunked` succeeds iff both members hand
out a writer; `PushBlobChunkedResume` iff, in addition, the two writers report the same size — here `step` is
STRICTER than "iff both succeeded": two members that both resume, at different sizes, make the unifier fail
("registries do not agree on upload size") although both member calls succeeded and (by `write_steps_both`) both
members have been stepped. On success the answer is the composite of the two members' IDs. -/
theorem write_ok_iff_both_ok_open (pol : Policy) (f : Bool) (s : UState) (op op0 op1 : Mem.Op) (r : Bytes)
    (hr : openRepo op = some r) (hf : fan C op = some (op0, op1)) :
    (okU (step H C pol f s op).2 = true ↔
      ∃ id0 id1, (Mem.step H s.m0 op0).2 = .okWriter id0 ∧ (Mem.step H s.m1 op1).2 = .okWriter id1 ∧
        ((∃ id off, op = .resume r id off) →
          msize H (Mem.step H s.m0 op0).1 r id0 = msize H (Mem.step H s.m1 op1).1 r id1)) ∧
    (okU (step H C pol f s op).2 = true → okM (Mem.step H s.m0 op0).2 = true ∧ okM (Mem.step H s.m1 op1).2 = true) ∧
    (∀ id0 id1, okU (step H C pol f s op).2 = true →
      (Mem.step H s.m0 op0).2 = .okWriter id0 → (Mem.step H s.m1 op1).2 = .okWriter id1 →
      (step H C pol f s op).2 = .out (.okWriter (joinID C id0 id1))) := by
  rw [open_out H C pol f s op op0 op1 r hr hf]
  obtain ⟨k0, k1⟩ := fan_open C hr hf
  rcases mem_open_out H s.m0 op0 k0 with ⟨c0, h0⟩ | ⟨i0, h0, -⟩ <;>
    rcases mem_open_out H s.m1 op1 k1 with ⟨c1, h1⟩ | ⟨i1, h1, -⟩ <;> rw [h0, h1]
  iterate 3 simp [ofOut, toOut, bothResults, okU, okM, Res.isOk]
  have hres : (idOf op).isSome = true ↔ ∃ id off, op = .resume r id off := by
    cases op with
    | resume r' id off => cases hr; exact ⟨fun _ => ⟨_, _, rfl⟩, fun _ => rfl⟩
    | pushChunked r' => exact ⟨fun h => (nomatch h), fun ⟨_, _, h⟩ => nomatch h⟩
    | _ => cases hr
  dsimp only
  split
  · rename_i hb
    exact ⟨⟨fun h => (nomatch h), fun ⟨_, _, e0, e1, h⟩ => by cases e0; cases e1; exact absurd (h (hres.1 hb.1)) hb.2⟩,
      fun h => (nomatch h), fun _ _ h => nomatch h⟩
  · rename_i hb
    exact ⟨⟨fun _ => ⟨i0, i1, rfl, rfl, fun hp => Decidable.byContradiction fun hq => hb ⟨hres.2 hp, hq⟩⟩, fun _ => rfl⟩,
      fun _ => ⟨rfl, rfl⟩, fun _ _ _ e0 e1 => by cases e0; cases e1; rfl⟩

/-! #### Reads -/

def isDigestRead : Mem.Op → Bool
  | .getBlob .. | .getBlobRange .. | .getManifest .. | .resolveBlob .. | .resolveManifest .. => true
  | _ => false

def isTagRead : Mem.Op → Bool
  | .getTag .. | .resolveTag .. => true
  | _ => false

/-- A read leaves an `ocimem` member as it was (so it is immaterial that `step` does not thread the members
through reads, and that the sequential policy does not ask member 1 after a success). -/
theorem read_leaves_member (m : Mem.State) (op : Mem.Op) (h : isDigestRead op = true ∨ isTagRead op = true) :
    (Mem.step H m op).1 = m := by
  cases op <;> simp [isDigestRead, isTagRead] at h <;> simp only [Mem.step] <;> (repeat' split) <;> rfl

/-- What `step` does for a digest-addressed read: the state stays, and the answer is the first success in the
order in which the policy examines the members. -/
theorem read_step (pol : Policy) (f : Bool) (s : UState) (op : Mem.Op) (hr : isDigestRead op = true) :
    step H C pol f s op = (s, .out (toOut (if pol = .sequential ∨ f = true
      then readFirst (ofOut (Mem.step H s.m0 op).2) (ofOut (Mem.step H s.m1 op).2)
      else readFirst (ofOut (Mem.step H s.m1 op).2) (ofOut (Mem.step H s.m0 op).2)))) := by
  cases op <;> first | exact Bool.noConfusion hr | (cases pol <;> cases f <;> rfl)

/-- **Digest reads are the union.** The unifier's answer to a digest-addressed read is a success iff one
member's answer is, and it is the answer of the member examined first (member 0 under the sequential policy,
whichever answers first under the concurrent one) if that is a success, otherwise the other member's answer. -/
theorem read_is_union_step (pol : Policy) (f : Bool) (s : UState) (op : Mem.Op) (hr : isDigestRead op = true) :
    (step H C pol f s op).1 = s ∧
    (okU (step H C pol f s op).2 = true ↔
      okM (Mem.step H s.m0 op).2 = true ∨ okM (Mem.step H s.m1 op).2 = true) ∧
    (step H C pol f s op).2 = .out
      (if pol = .sequential ∨ f = true
       then (if okM (Mem.step H s.m0 op).2 then (Mem.step H s.m0 op).2 else (Mem.step H s.m1 op).2)
       else (if okM (Mem.step H s.m1 op).2 then (Mem.step H s.m1 op).2 else (Mem.step H s.m0 op).2)) := by
  rw [read_step H C pol f s op hr]
  split <;> simp only [toOut_readFirst, okU, okM, isOk_ite, or_comm] <;> exact ⟨trivial, trivial, rfl⟩

/-- **Tag reads follow the tag rule** of the two members' answers. -/
theorem tag_read_is_tagRule_step (pol : Policy) (f : Bool) (s : UState) (op : Mem.Op) (hr : isTagRead op = true) :
    (step H C pol f s op).1 = s ∧
    (step H C pol f s op).2 =
      .out (toOut (tagRule outDigest (ofOut (Mem.step H s.m0 op).2) (ofOut (Mem.step H s.m1 op).2))) := by
  cases op <;> first | exact Bool.noConfusion hr | exact ⟨rfl, rfl⟩

/-- A tag read succeeds iff some member has the tag and the two do not disagree on its digest, and a
successful answer is a member's answer. -/
theorem tag_read_step (pol : Policy) (f : Bool) (s : UState) (op : Mem.Op) (hr : isTagRead op = true) :
    (okU (step H C pol f s op).2 = true ↔
      (okM (Mem.step H s.m0 op).2 = true ∨ okM (Mem.step H s.m1 op).2 = true) ∧
      (okM (Mem.step H s.m0 op).2 = true → okM (Mem.step H s.m1 op).2 = true →
        outDigest (Mem.step H s.m0 op).2 = outDigest (Mem.step H s.m1 op).2)) ∧
    (okU (step H C pol f s op).2 = true →
      (step H C pol f s op).2 = .out (Mem.step H s.m0 op).2 ∨ (step H C pol f s op).2 = .out (Mem.step H s.m1 op).2) := by
  rw [(tag_read_is_tagRule_step H C pol f s op hr).2]
  generalize (Mem.step H s.m0 op).2 = o0
  generalize (Mem.step H s.m1 op).2 = o1
  rcases ofOut_cases o0 with e0 | ⟨c0, rfl⟩ <;> rcases ofOut_cases o1 with e1 | ⟨c1, rfl⟩
  all_goals
    simp only [*, ofOut_err, tagRule]
    try split   -- both members have the tag: do the digests agree?
    all_goals simp_all [toOut, okU, okM, Res.isOk, ofOut_err]


/-- Writes that carry no upload ID: both members make the call itself. -/
theorem write_steps_both_plain (pol : Policy) (f : Bool) (s : UState) (op : Mem.Op)
    (hw : isWrite op = true) (hid : idOf op = none) :
    (step H C pol f s op).1.m0 = (Mem.step H s.m0 op).1 ∧
    (step H C pol f s op).1.m1 = (Mem.step H s.m1 op).1 := by
  have hf := fan_spec C op
  rw [hid] at hf
  have hl : Live s op := by cases op <;> simp [idOf] at hid <;> trivial
  exact write_steps_both H C pol f s op op op hw hl hf

/-- Writes on a composite upload ID (lawful codec): member 0 makes the call on the first half, member 1 the same
call, same arguments, on the second half. -/
theorem write_steps_both_id (hC : CodecLawful C) (pol : Policy) (f : Bool) (s : UState) (op : Mem.Op) (a b : Bytes)
    (hw : isWrite op = true) (hl : Live s op) (hid : idOf op = some (joinID C a b)) :
    (step H C pol f s op).1.m0 = (Mem.step H s.m0 (withID a op)).1 ∧
    (step H C pol f s op).1.m1 = (Mem.step H s.m1 (withID b op)).1 := by
  have hf := fan_spec C op
  rw [hid] at hf
  simp only [split_join C hC, Option.map_some] at hf
  exact write_steps_both H C pol f s op _ _ hw hl hf

end stepthms

/-! ### 9. Equal members stay equal under the unifier -/

section mem
variable (H : Bytes → Bytes) (C : Codec)

/-- Reads, listings and `Size` leave the unifier's state as it is. -/
theorem nonwrite_leaves_state (pol : Policy) (f : Bool) (s : UState) (op : Mem.Op) (h : isWrite op = false) :
    (step H C pol f s op).1 = s := by
  cases op <;> first | exact Bool.noConfusion h | rfl | skip
  -- `Size`: answered from the table of live writers, whatever the composite ID decodes to
  unfold step
  simp only [fan]
  generalize splitID C _ = ab
  cases ab with
  | none => rfl
  | some ab => simp only [Option.map_some]; split <;> rfl

/-- In the unifier over two `ocimem` models every operation either leaves both
members as they were or steps both, each with its half of the fanned-out call. -/
theorem step_members (pol : Policy) (f : Bool) (s : UState) (op : Mem.Op) :
    ((step H C pol f s op).1.m0 = s.m0 ∧ (step H C pol f s op).1.m1 = s.m1) ∨
    ∃ op0 op1, fan C op = some (op0, op1) ∧
      (step H C pol f s op).1.m0 = (Mem.step H s.m0 op0).1 ∧
      (step H C pol f s op).1.m1 = (Mem.step H s.m1 op1).1 := by
  have same : ∀ {t : UState}, t = s → t.m0 = s.m0 ∧ t.m1 = s.m1 := fun h => h ▸ ⟨rfl, rfl⟩
  by_cases hw : isWrite op = true
  · by_cases hl : Live s op
    · cases hf : fan C op with
      | none => exact .inl (same (write_not_fanned H C pol f s op (.inl hf)).1)
      | some p => exact .inr ⟨p.1, p.2, rfl, write_steps_both H C pol f s op p.1 p.2 hw hl hf⟩
    · exact .inl (same (write_not_fanned H C pol f s op (.inr hl)).1)
  · exact .inl (same (nonwrite_leaves_state H C pol f s op (Bool.eq_false_iff.2 hw)))

/-- An operation whose two halves are the same call (everything except a
composite upload ID naming two different member uploads). -/
def Diagonal (op : Mem.Op) : Prop := ∀ op0 op1, fan C op = some (op0, op1) → op0 = op1

/-- The full statement for the executable model: two equal `ocimem` members are
observably equal after ANY history of operations through the unifier.

It is NOT claimed: it fails for histories in which the client forges composite
upload IDs that share a member upload (`ocimem` accepts unknown IDs on resume):
resume `[A,B]`, resume `[A,C]`, write `x` through the first, `y` through the
second, commit the second with the digest of `y` — member 0 refuses (upload `A`
holds `xy`), member 1 commits (upload `C` holds `y`); the unifier reports the
failure but member 1 now has a blob member 0 lacks. The model and the real
code agree on this history. IDs issued by the
unifier never share a member upload; for those, and for composite IDs naming
disjoint member uploads, the correspondence check compares the two members'
observable state after every history. What is proved below is the part in which
both halves of every fanned-out call are the same call. -/
def mem_members_stay_equal_statement : Prop :=
  ∀ (pol : Policy) (s : UState), s.m0 = s.m1 → ∀ ops : List Mem.Op,
    obs (run H C pol s ops).m0 = obs (run H C pol s ops).m1

/-- `members_stay_equal` for the executable model: two equal `ocimem` members
remain equal (hence observably equal) under any history of operations through
the unifier (reads, pushes, mounts, deletes, chunked uploads with resume) whose
composite upload IDs name the same upload in both members — which is what the
unified writer of equal model members reports — under either policy. -/
theorem mem_members_stay_equal_partial (pol : Policy) (s : UState) (hs : s.m0 = s.m1) (ops : List Mem.Op)
    (hd : ∀ op ∈ ops, Diagonal C op) :
    (run H C pol s ops).m0 = (run H C pol s ops).m1 := by
  induction ops generalizing s with
  | nil => exact hs
  | cons op rest ih =>
    simp only [run]
    apply ih
    · rcases step_members H C pol true s op with ⟨h0, h1⟩ | ⟨op0, op1, hf, h0, h1⟩
      · rw [h0, h1, hs]
      · have := hd op (by simp) op0 op1 hf
        rw [h0, h1, hs, this]
    · intro o ho; exact hd o (by simp [ho])

/-- The IDs the unified writer reports over equal members ARE diagonal: a fresh
chunked upload through the unifier over equal members yields `joinID id id`. -/
theorem fresh_upload_id_diagonal (pol : Policy) (f : Bool) (s : UState) (hs : s.m0 = s.m1) (r : Bytes) (id : Bytes)
    (h : (step H C pol f s (.pushChunked r)).2 = .out (.okWriter id)) :
    ∃ a, id = joinID C a a := by
  rw [open_out H C pol f s _ _ _ r rfl rfl, hs] at h
  rcases mem_open_out H s.m1 (.pushChunked r) ⟨r, .inl rfl⟩ with ⟨c, h1⟩ | ⟨i, h1, -⟩ <;> rw [h1] at h
  · cases h
  · exact ⟨i, by simpa using h.symm⟩

/-- Operations that carry no upload ID are diagonal; so are resumptions and
writer calls with an ID of the form the unified writer of equal members reports. -/
example (r t d : Bytes) (desc : Mem.Desc) : Diagonal C (.pushBlob r desc d) ∧ Diagonal C (.deleteTag r t) ∧
    Diagonal C (.pushChunked r) := by
  refine ⟨?_, ?_, ?_⟩ <;> intro a b h <;> simp [fan] at h <;> rw [← h.1, ← h.2]

example (h : CodecLawful C) (r id d : Bytes) : Diagonal C (.wWrite r (joinID C id id) d) := by
  intro a b hf
  simp [fan, split_join C h] at hf
  rw [← hf.1, ← hf.2]

end mem

/-! Witnesses: the hypotheses of the theorems of §8 hold on non-trivial instances, and the
weaker-than-one-might-hope behaviours named above really occur. (`wH`: the identity as the hash; `escCodec`.) -/

def wH : Bytes → Bytes := fun b => b
def wr : Bytes := strBytes "a"
def wtag : Bytes := strBytes "v1"

/-- After `PushBlobChunked("a")` through the unifier over two empty members: one live writer. -/
def wS1 : UState := (step wH escCodec .sequential true (uinit false) (.pushChunked wr)).1
def wid : Bytes := joinID escCodec (Mem.freshID 0) (Mem.freshID 0)

/-- `write_steps_both`, `write_ok_iff_both_ok`, `write_out_is_combinator`, `write_steps_both_id`: a `Write` on the
live writer is a write with a live writer whose ID splits; it succeeds and changes both members. -/
example : isWrite (.wWrite wr wid [1, 2]) = true ∧ isAnswerWrite (.wWrite wr wid [1, 2]) = true ∧
    Live wS1 (.wWrite wr wid [1, 2]) ∧ idOf (.wWrite wr wid [1, 2]) = some wid ∧
    (fan escCodec (.wWrite wr wid [1, 2])).isSome = true ∧
    (step wH escCodec .sequential true wS1 (.wWrite wr wid [1, 2])).2 = .out (.okN 2) ∧
    (step wH escCodec .sequential true wS1 (.wWrite wr wid [1, 2])).1.m0 ≠ wS1.m0 ∧
    (step wH escCodec .sequential true wS1 (.wWrite wr wid [1, 2])).1.m1 ≠ wS1.m1 := by
  refine ⟨rfl, rfl, ?_, rfl, ?_, ?_, ?_, ?_⟩
  · unfold Live; decide
  all_goals decide

/-- `write_steps_both_plain`, `write_ok_iff_both_ok_open`: `PushBlobChunked` carries no upload ID, names its
repository, reaches both members and answers with the composite of their two IDs. -/
example : isWrite (.pushChunked wr) = true ∧ idOf (.pushChunked wr) = none ∧ openRepo (.pushChunked wr) = some wr ∧
    (fan escCodec (.pushChunked wr)).isSome = true ∧
    (step wH escCodec .sequential true (uinit false) (.pushChunked wr)).2 = .out (.okWriter wid) := by
  refine ⟨rfl, rfl, rfl, ?_, ?_⟩ <;> decide +kernel

/-- `write_not_fanned`: an ID that does not decode; a `Commit` on a writer nobody holds. -/
example : (fan escCodec (.resume wr [7] 0)).isNone = true ∧ ¬ Live (uinit false) (.wCommit wr wid []) := by
  refine ⟨by decide +kernel, ?_⟩
  unfold Live; decide +kernel

/-- Member 0 has the tag `v1` in repository `a`, member 1 has the repository without the tag. -/
def wM0 : Mem.State := ⟨false, [(wr, ⟨[(wtag, ⟨[], [], 0⟩)], [], [], []⟩)], 0⟩
def wM1 : Mem.State := ⟨false, [(wr, Mem.emptyRepo)], 0⟩

/-- **No rollback**: `DeleteTag` through the unifier when only member 0 has the tag. Member 0's
delete succeeds, member 1's fails, the unifier reports the failure (`write_ok_iff_both_ok`) — and member 0 has lost
its tag (`write_steps_both`): "success only if both" is about the ANSWER, the members are both stepped regardless. -/
example :
    let s : UState := ⟨wM0, wM1, []⟩
    let op : Mem.Op := .deleteTag wr wtag
    okM (Mem.step wH s.m0 op).2 = true ∧ okM (Mem.step wH s.m1 op).2 = false ∧
    okU (step wH escCodec .sequential true s op).2 = false ∧
    (step wH escCodec .sequential true s op).1.m0 ≠ s.m0 ∧
    isTagRead (.resolveTag wr wtag) = true ∧
    -- before the delete the tag read through the unifier gives member 0's answer (`tag_read_step`)
    (step wH escCodec .sequential true s (.resolveTag wr wtag)).2 = .out (Mem.step wH s.m0 (.resolveTag wr wtag)).2 ∧
    okU (step wH escCodec .sequential true s (.resolveTag wr wtag)).2 = true := by
  decide +kernel

/-- The same upload `u` of repository `a`, holding one byte on member 0 and nothing on member 1. -/
def wU0 : Mem.State := ⟨false, [(wr, ⟨[], [], [], [([117], ⟨[1], -1, false, none⟩)]⟩)], 0⟩
def wU1 : Mem.State := ⟨false, [(wr, ⟨[], [], [], [([117], ⟨[], -1, false, none⟩)]⟩)], 0⟩

/-- **A resume is stricter than "iff both"** (`write_ok_iff_both_ok_open`): both members resume the upload, the
sizes differ, the unifier fails. -/
example :
    let s : UState := ⟨wU0, wU1, []⟩
    let op : Mem.Op := .resume wr (joinID escCodec [117] [117]) (-1)
    openRepo op = some wr ∧ (fan escCodec op).isSome = true ∧
    okM (Mem.step wH s.m0 (.resume wr [117] (-1))).2 = true ∧ okM (Mem.step wH s.m1 (.resume wr [117] (-1))).2 = true ∧
    msize wH (Mem.step wH s.m0 (.resume wr [117] (-1))).1 wr [117] = 1 ∧
    msize wH (Mem.step wH s.m1 (.resume wr [117] (-1))).1 wr [117] = 0 ∧
    (step wH escCodec .sequential true s op).2 = .out (.err "ERR") := by
  decide +kernel

/-- Only member 1 has the blob `[9]` (content `[5, 6]`) in repository `a`. -/
def wB1 : Mem.State := ⟨false, [(wr, ⟨[], [], [([9], ⟨[116], [5, 6], [], []⟩)], []⟩)], 0⟩

/-- `read_is_union_step`, `read_leaves_member`: a digest read of content only member 1 has succeeds under both
policies and whichever member answers first, with member 1's answer; member 0's own answer is an error. -/
example :
    let s : UState := ⟨wM1, wB1, []⟩
    let op : Mem.Op := .getBlob wr [9]
    isDigestRead op = true ∧ okM (Mem.step wH s.m0 op).2 = false ∧ okM (Mem.step wH s.m1 op).2 = true ∧
    (∀ pol f, (step wH escCodec pol f s op).2 = .out (Mem.step wH s.m1 op).2) := by
  refine ⟨rfl, by decide, by decide, ?_⟩
  intro pol f; cases pol <;> cases f <;> decide

end OciModel.Props.C15
