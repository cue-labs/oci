/-
C07 — Errors keep their identity, status and message across the wire.

`hop := makeError ∘ MarshalError`. All theorems are for arbitrary status-prefix
and code-prefix functions `S`, `C` (so they do not depend on `http.StatusText`
or `unicode.ToLower`), an arbitrary status table, and an arbitrary JSON
compaction `compact` (idempotence is the only assumption, where needed); the
compaction `encoding/json` applies (`compactJSON`: white space dropped, `<`, `>`, `&`,
U+2028/9 escaped) is idempotent (`compactJSON_idempotent`), and the fixed-point theorems are
also stated for it.
-/
import OciModel.ErrCodecInst
import OciModel.ErrCodecCompact

namespace OciModel.Props.C07
open OciModel OciModel.ErrCodec

variable (S : Nat → Bytes) (C : Bytes → Bytes) (compact : Bytes → Bytes)
variable (table : List (Bytes × Nat)) (stdMsg : Bytes → Bytes)

/-- `strings.TrimPrefix` removes a prefix it has just been given. -/
theorem trimPrefix_append (p s : Bytes) : trimPrefix p (p ++ s) = s := by
  simp [trimPrefix]

/-- Shape of the client-side error after one (GET/PUT/DELETE/list) hop. -/
theorem hop_eq (e : Err) :
    hop S C compact table stdMsg false e =
      .http (wireStatus table e)
        (.wires (wireCode e, trim S C (wireStatus table e) (wireCode e) (text S C e), (detailOf e).map compact) []) := by
  simp [hop, unmarshal, marshal]

theorem codeOf_hop (e : Err) : codeOf (hop S C compact table stdMsg false e) = wireCode e := by
  simp [hop_eq, codeOf, asOci]

/-- The code after a hop is the error's code, or `UNKNOWN` when it has none. -/
theorem hop_code (e : Err) :
    codeOf (hop S C compact table stdMsg false e) = (if codeOf e = [] then codeUnknown else codeOf e) := by
  rw [codeOf_hop, wireCode]

theorem wireCode_ne_nil (e : Err) : wireCode e ≠ [] := by
  unfold wireCode
  split
  · simp [codeUnknown]
  · assumption

theorem hop_code_ne_nil (e : Err) : codeOf (hop S C compact table stdMsg false e) ≠ [] := by
  rw [codeOf_hop]; exact wireCode_ne_nil e

/-- The status after a hop is `wireStatus`: the table's status for the code (`hop_status_table`),
else the error's own (`hop_status_own`). -/
theorem hop_status (e : Err) :
    asHTTP (hop S C compact table stdMsg false e) = some (wireStatus table e) := by
  simp [hop_eq, asHTTP]

/-- The status after a hop is the one the table assigns to the code after the hop, when it has a row. -/
theorem hop_status_table (e : Err) (s : Nat)
    (h : tableStatus table (codeOf (hop S C compact table stdMsg false e)) = some s) :
    asHTTP (hop S C compact table stdMsg false e) = some s := by
  rw [codeOf_hop] at h
  rw [hop_status, wireStatus, h]

/-- For a code without a row the status after a hop is the error's own HTTP status when that is an
error status (4xx, 5xx), else 500. -/
theorem hop_status_own (e : Err)
    (h : tableStatus table (codeOf (hop S C compact table stdMsg false e)) = none) :
    asHTTP (hop S C compact table stdMsg false e) = some (ownStatus e) := by
  rw [codeOf_hop] at h
  rw [hop_status, wireStatus, h]

/-- An error's own status, as it is put on the wire, is an error status (F29). -/
theorem ownStatus_error_status (e : Err) : 400 ≤ ownStatus e ∧ ownStatus e ≤ 599 := by
  unfold ownStatus
  cases asHTTP e with
  | none => decide
  | some s =>
    by_cases h : 400 ≤ s ∧ s ≤ 599
    · simp [h]
    · simp [h]

/-- Detail JSON is preserved (up to `encoding/json`'s compaction). -/
theorem hop_detail (e : Err) :
    detailOf (hop S C compact table stdMsg false e) = (detailOf e).map compact := by
  simp [hop_eq, detailOf, asOci]

/-- The text of the client-side error: status prefix, code prefix, message. -/
theorem hop_text (e : Err) :
    text S C (hop S C compact table stdMsg false e) =
      S (wireStatus table e) ++ (colonSp ++
        (C (wireCode e) ++
          (if trim S C (wireStatus table e) (wireCode e) (text S C e) = [] then []
           else colonSp ++ trim S C (wireStatus table e) (wireCode e) (text S C e)))) := by
  simp [hop_eq, text, wireText]

/-- Trimming the text produced by a hop gives back the message: the message
does not accumulate status or code prefixes. -/
theorem trim_hop_text (st : Nat) (c m : Bytes) :
    trim S C st c (S st ++ (colonSp ++ (C c ++ (if m = [] then [] else colonSp ++ m)))) = m := by
  unfold trim
  have h0 : trimPrefix (S st ++ colonSp) (S st ++ (colonSp ++ (C c ++ (if m = [] then [] else colonSp ++ m))))
      = C c ++ (if m = [] then [] else colonSp ++ m) := by
    rw [← List.append_assoc, trimPrefix_append]
  simp only [h0]
  by_cases hm : m = []
  · simp [hm]
  · simp only [hm, ↓reduceIte]
    have h1 : ¬ (C c ++ (colonSp ++ m) = C c) := by
      intro h
      have := congrArg List.length h
      simp [colonSp] at this
    simp only [h1, ↓reduceIte]
    rw [← List.append_assoc, trimPrefix_append]

/-- The code a second hop puts on the wire is the code the first one did. -/
theorem wireCode_hop (e : Err) : wireCode (hop S C compact table stdMsg false e) = wireCode e := by
  rw [wireCode, codeOf_hop, if_neg (wireCode_ne_nil e)]

/-- The status a second hop puts on the wire is the status the first one did. -/
theorem wireStatus_hop (e : Err) :
    wireStatus table (hop S C compact table stdMsg false e) = wireStatus table e := by
  unfold wireStatus
  rw [wireCode_hop]
  cases h : tableStatus table (wireCode e) with
  | some s => rfl
  | none =>
    have hr := ownStatus_error_status e
    simp only [hop_eq, wireStatus, h]
    generalize ownStatus e = s at hr
    simp [ownStatus, asHTTP, hr.1, hr.2]

/-- **Fixed point.** After the first hop, a further hop changes nothing at all:
same status, code, message, detail (hence the same text and the same answers to
`errors.Is`). Arbitrary message text, including text that begins with a status
or code prefix, and the empty message. -/
theorem hop_idempotent (hc : ∀ d, compact (compact d) = compact d) (e : Err) :
    hop S C compact table stdMsg false (hop S C compact table stdMsg false e) =
      hop S C compact table stdMsg false e := by
  have hdet : (detailOf (hop S C compact table stdMsg false e)).map compact = (detailOf e).map compact := by
    rw [hop_detail]
    cases detailOf e <;> simp [hc]
  -- the second hop sends the same code and status, and the text it trims is the one the first hop
  -- built from them, so `trim_hop_text` gives back the message
  rw [hop_eq S C compact table stdMsg (hop S C compact table stdMsg false e), wireCode_hop, wireStatus_hop,
    hdet, hop_text, trim_hop_text, ← hop_eq]

/-- Any number of further hops after the first changes nothing. -/
theorem hops_succ (hc : ∀ d, compact (compact d) = compact d) (n : Nat) (e : Err) :
    hops S C compact table stdMsg false (n + 1) e = hop S C compact table stdMsg false e := by
  induction n generalizing e with
  | zero => simp [hops]
  | succ n ih =>
    rw [hops, ih, hop_idempotent S C compact table stdMsg hc]

/-- Message fixed point, in the words of the property. -/
theorem hop_message_fixpoint (hc : ∀ d, compact (compact d) = compact d) (n : Nat) (e : Err) :
    msgOf (hops S C compact table stdMsg false (n + 1) e) = msgOf (hop S C compact table stdMsg false e) := by
  rw [hops_succ S C compact table stdMsg hc]

/-- The compaction `json.Marshal` applies to a raw detail is idempotent (on every byte string). -/
theorem compactJSON_idempotent (d : Bytes) : compactJSON (compactJSON d) = compactJSON d :=
  compactAux_idem .out 0 d

/-- With the real compaction: the whole error (code, status, detail, message) is fixed after the first hop. -/
theorem hops_fixpoint_json (n : Nat) (e : Err) :
    hops S C compactJSON table stdMsg false (n + 1) e = hop S C compactJSON table stdMsg false e :=
  hops_succ S C compactJSON table stdMsg compactJSON_idempotent n e

/-- With the real compaction: the detail after any number of hops is the compacted original. -/
theorem hops_detail_json (n : Nat) (e : Err) :
    detailOf (hops S C compactJSON table stdMsg false (n + 1) e) = (detailOf e).map compactJSON := by
  rw [hops_fixpoint_json, hop_detail]

example : compactJSON (strBytes "{ \"a\" : \"<\\\" >\" }") = strBytes "{\"a\":\"\\u003c\\\" \\u003e\"}" := by decide +kernel

/-! ### `errors.Is` -/

/-- For the error shapes of the property, `errors.Is` against a coded standard
error other than `ErrRangeInvalid` is "the error has a code and it is that code". -/
theorem is_shape (c : Bytes) (hr : c ≠ codeRangeInvalid) (e : Err) (hs : Shape e) :
    is c e = (codeOf e == c && (asOci e).isSome) := by
  induction hs with
  | wire w => simp [is, codeOf, asOci]
  | plain m => simp [is, codeOf, asOci]
  | http st _ ih =>
    have : (c == codeRangeInvalid) = false := by simp [hr]
    simp only [is, this, Bool.and_false, Bool.false_or, ih, codeOf, asOci]
  | wrapf pre post _ ih => simp only [is, ih, codeOf, asOci]

/-- **Identity across the wire.** For every standard error value other than
`ErrRangeInvalid` (a non-empty code different from `UNKNOWN`), `errors.Is` gives
the same answer after the hop as on the original error. -/
theorem hop_is (c : Bytes) (hr : c ≠ codeRangeInvalid) (hn : c ≠ []) (hu : c ≠ codeUnknown)
    (e : Err) (hs : Shape e) :
    is c (hop S C compact table stdMsg false e) = is c e := by
  rw [is_shape c hr e hs, hop_eq]
  have : (c == codeRangeInvalid) = false := by simp [hr]
  simp only [is, List.any_nil, Bool.or_false, this, Bool.and_false, Bool.false_or, wireCode]
  cases ha : asOci e with
  | none => simp [codeOf, ha, hu.symm]
  | some w =>
    have he : c.isEmpty = false := by cases c <;> simp_all
    have hk : (codeUnknown == c) = false := by simpa using hu.symm
    by_cases hw : w.1 = []
    · simp [codeOf, ha, hw, he, hk]
    · simp [codeOf, ha, hw]

/-- For `ErrRangeInvalid` the answer after a hop is exactly: the status is 416
(`httpError.Is`), or the code is `RANGE_INVALID`. This is what makes finding F10
precise. -/
theorem hop_is_range (e : Err) :
    is codeRangeInvalid (hop S C compact table stdMsg false e) =
      (wireStatus table e == 416 || wireCode e == codeRangeInvalid) := by
  simp [hop_eq, is]

/-! ### "After one or several hops": the n-hop corollaries

Status, code and the answers of `errors.Is` after `n ≥ 1` hops are those after one
hop for EVERY compaction (no idempotence needed: they do not depend on the
detail); the detail needs the idempotence `hop_idempotent` needs. -/

/-- `n + 1` hops end with a hop. -/
theorem hops_last (n : Nat) (e : Err) :
    hops S C compact table stdMsg false (n + 1) e =
      hop S C compact table stdMsg false (hops S C compact table stdMsg false n e) := by
  induction n generalizing e with
  | zero => simp [hops]
  | succ n ih => rw [hops, ih, ← hops]

theorem wireCode_hops (n : Nat) (e : Err) :
    wireCode (hops S C compact table stdMsg false n e) = wireCode e := by
  induction n generalizing e with
  | zero => rfl
  | succ n ih => rw [hops, ih, wireCode_hop]

theorem wireStatus_hops (n : Nat) (e : Err) :
    wireStatus table (hops S C compact table stdMsg false n e) = wireStatus table e := by
  induction n generalizing e with
  | zero => rfl
  | succ n ih => rw [hops, ih, wireStatus_hop]

/-- `hop_status` after any number `n ≥ 1` of hops: the status is the one the first
hop gave (the table's status for the code, else the error's own). -/
theorem hops_status (n : Nat) (h1 : 1 ≤ n) (e : Err) :
    asHTTP (hops S C compact table stdMsg false n e) = some (wireStatus table e) := by
  obtain ⟨m, rfl⟩ : ∃ m, n = m + 1 := ⟨n - 1, by omega⟩
  rw [hops_last, hop_status, wireStatus_hops]

/-- `hop_code` after `n ≥ 1` hops. -/
theorem hops_code (n : Nat) (h1 : 1 ≤ n) (e : Err) :
    codeOf (hops S C compact table stdMsg false n e) = (if codeOf e = [] then codeUnknown else codeOf e) := by
  obtain ⟨m, rfl⟩ : ∃ m, n = m + 1 := ⟨n - 1, by omega⟩
  rw [hops_last, codeOf_hop, wireCode_hops, wireCode]

/-- `hop_status_table` after `n ≥ 1` hops: the status is the one the table assigns
to the code the client sees. -/
theorem hops_status_table (n : Nat) (h1 : 1 ≤ n) (e : Err) (s : Nat)
    (h : tableStatus table (codeOf (hops S C compact table stdMsg false n e)) = some s) :
    asHTTP (hops S C compact table stdMsg false n e) = some s := by
  rw [hops_status S C compact table stdMsg n h1]
  rw [hops_code S C compact table stdMsg n h1, ← wireCode] at h
  simp [wireStatus, h]

/-- `hop_status_own` after `n ≥ 1` hops. -/
theorem hops_status_own (n : Nat) (h1 : 1 ≤ n) (e : Err)
    (h : tableStatus table (codeOf (hops S C compact table stdMsg false n e)) = none) :
    asHTTP (hops S C compact table stdMsg false n e) = some (ownStatus e) := by
  rw [hops_status S C compact table stdMsg n h1]
  rw [hops_code S C compact table stdMsg n h1, ← wireCode] at h
  simp [wireStatus, h]

/-- `hop_detail` after `n ≥ 1` hops, for an idempotent compaction: the detail is
the original compacted once. -/
theorem hops_detail (hc : ∀ d, compact (compact d) = compact d) (n : Nat) (h1 : 1 ≤ n) (e : Err) :
    detailOf (hops S C compact table stdMsg false n e) = (detailOf e).map compact := by
  obtain ⟨m, rfl⟩ : ∃ m, n = m + 1 := ⟨n - 1, by omega⟩
  rw [hops_succ S C compact table stdMsg hc, hop_detail]

/-- What `errors.Is` answers after a hop depends only on the status and code put on
the wire — for every target, `ErrRangeInvalid` included. -/
theorem hop_is_congr (c : Bytes) (e e' : Err)
    (hst : wireStatus table e = wireStatus table e') (hcode : wireCode e = wireCode e') :
    is c (hop S C compact table stdMsg false e) = is c (hop S C compact table stdMsg false e') := by
  simp [hop_eq, is, hst, hcode]

/-- After `n ≥ 1` hops `errors.Is` answers what it answers after one hop: for every
target `c` (the deviation F10 for `ErrRangeInvalid` is made by the first hop and
not changed by later ones), every error, every compaction. -/
theorem hops_is_one (c : Bytes) (n : Nat) (h1 : 1 ≤ n) (e : Err) :
    is c (hops S C compact table stdMsg false n e) = is c (hop S C compact table stdMsg false e) := by
  obtain ⟨m, rfl⟩ : ∃ m, n = m + 1 := ⟨n - 1, by omega⟩
  rw [hops_last]
  exact hop_is_congr S C compact table stdMsg c _ _ (wireStatus_hops S C compact table stdMsg m e)
    (wireCode_hops S C compact table stdMsg m e)

/-- **Identity across the wire, any number of hops** — `hop_is` under exactly its
hypotheses: for every standard error value other than `ErrRangeInvalid`, `errors.Is`
gives after `n ≥ 1` hops the answer it gives on the original error. -/
theorem hops_is (c : Bytes) (hr : c ≠ codeRangeInvalid) (hn : c ≠ []) (hu : c ≠ codeUnknown)
    (n : Nat) (h1 : 1 ≤ n) (e : Err) (hs : Shape e) :
    is c (hops S C compact table stdMsg false n e) = is c e := by
  rw [hops_is_one S C compact table stdMsg c n h1, hop_is S C compact table stdMsg c hr hn hu e hs]

/-- `hop_is_range` after `n ≥ 1` hops. -/
theorem hops_is_range (n : Nat) (h1 : 1 ≤ n) (e : Err) :
    is codeRangeInvalid (hops S C compact table stdMsg false n e) =
      (wireStatus table e == 416 || wireCode e == codeRangeInvalid) := by
  rw [hops_is_one S C compact table stdMsg _ n h1, hop_is_range]

/-- All of it in the words of the property: after `n ≥ 1` hops the status, the code,
the detail and every answer of `errors.Is` are those after one hop. -/
theorem hops_same_as_one_hop (hc : ∀ d, compact (compact d) = compact d) (n : Nat) (h1 : 1 ≤ n) (e : Err) :
    asHTTP (hops S C compact table stdMsg false n e) = asHTTP (hop S C compact table stdMsg false e) ∧
    codeOf (hops S C compact table stdMsg false n e) = codeOf (hop S C compact table stdMsg false e) ∧
    detailOf (hops S C compact table stdMsg false n e) = detailOf (hop S C compact table stdMsg false e) ∧
    ∀ c, is c (hops S C compact table stdMsg false n e) = is c (hop S C compact table stdMsg false e) := by
  refine ⟨?_, ?_, ?_, fun c => hops_is_one S C compact table stdMsg c n h1 e⟩
  · rw [hops_status S C compact table stdMsg n h1, hop_status]
  · rw [hops_code S C compact table stdMsg n h1, hop_code]
  · rw [hops_detail S C compact table stdMsg hc n h1, hop_detail]

/-- Non-vacuity of the n-hop corollaries: three hops of a wrapped `ErrBlobUnknown`
with a detail, through the generated table and the real compaction; `hops_is`'s
hypotheses hold of it and the three observations are what the theorems say. -/
example :
    let e : Err := .wrapf (strBytes "ctx: ") (.http 404 (.wire (strBytes "BLOB_UNKNOWN", strBytes "m", some (strBytes "{ }")))) []
    (1 ≤ 3) ∧ Shape e ∧ strBytes "BLOB_UNKNOWN" ≠ codeRangeInvalid ∧ strBytes "BLOB_UNKNOWN" ≠ [] ∧
    strBytes "BLOB_UNKNOWN" ≠ codeUnknown ∧ wireStatus genTable e = 404 ∧
    tableStatus genTable (strBytes "BLOB_UNKNOWN") = some 404 ∧ detailOf e = some (strBytes "{ }") :=
  ⟨by decide +kernel, .wrapf _ _ (.http _ (.wire _)), by decide +kernel, by decide +kernel, by decide +kernel, by decide +kernel, by decide +kernel, by decide +kernel⟩

/-! ### Obligations on the regenerated table, and the recorded deviations -/

/-- The status table extracted from error.go assigns to every
standard code the status the distribution specification gives it. -/
theorem generated_table_ok :
    Generated.ErrorTable.shapeKnown = true ∧
    Generated.ErrorTable.errorStatuses =
      [("BLOB_UNKNOWN", 404), ("BLOB_UPLOAD_INVALID", 416), ("BLOB_UPLOAD_UNKNOWN", 404), ("DIGEST_INVALID", 400),
       ("MANIFEST_BLOB_UNKNOWN", 404), ("MANIFEST_INVALID", 400), ("MANIFEST_UNKNOWN", 404), ("NAME_INVALID", 400),
       ("NAME_UNKNOWN", 404), ("SIZE_INVALID", 400), ("UNAUTHORIZED", 401), ("DENIED", 403), ("UNSUPPORTED", 400),
       ("TOOMANYREQUESTS", 429), ("RANGE_INVALID", 416)] ∧
    Generated.ErrorTable.httpIsRangeStatuses = [416] ∧
    Generated.ErrorTable.stdErrors.map (·.2.1) = Generated.ErrorTable.errorStatuses.map (·.1) := by
  decide +kernel

/-- Every standard error except `ErrRangeInvalid` meets the hypotheses of `hop_is`. -/
theorem std_codes_meet_hop_is :
    ∀ c ∈ stdCodes, c ≠ codeRangeInvalid → c ≠ [] ∧ c ≠ codeUnknown := by
  decide +kernel

/-- F10 (known finding): `ErrBlobUploadInvalid` is not `ErrRangeInvalid` before a
hop and is after it, because its status is 416. -/
theorem F10_counterexample :
    let e : Err := .wire (strBytes "BLOB_UPLOAD_INVALID", strBytes "blob upload invalid", none)
    is codeRangeInvalid e = false ∧
    is codeRangeInvalid (hop S C compact genTable stdMsg false e) = true := by
  constructor
  · decide +kernel
  · rw [hop_is_range]; decide +kernel

/-- F11 (known finding): over a HEAD carrier `ErrBlobUnknown` comes back as
`ErrNameUnknown`. -/
theorem F11_counterexample :
    let e : Err := .wire (strBytes "BLOB_UNKNOWN", strBytes "blob unknown to registry", none)
    is (strBytes "BLOB_UNKNOWN") e = true ∧
    is (strBytes "BLOB_UNKNOWN") (hop S C compact genTable stdMsg true e) = false ∧
    is (strBytes "NAME_UNKNOWN") (hop S C compact genTable stdMsg true e) = true := by
  intro e
  have h404 : wireStatus genTable e = 404 := by decide +kernel
  refine ⟨by decide +kernel, ?_, ?_⟩ <;>
    simp only [hop, unmarshal, marshal, h404, headStd, ↓reduceIte, is] <;> decide

/-- Over a HEAD carrier the status still is the table's status for the code. -/
theorem hop_head_status (e : Err) :
    asHTTP (hop S C compact table stdMsg true e) = some (wireStatus table e) := by
  cases h : headStd stdMsg (wireStatus table e) <;> simp [hop, unmarshal, marshal, h, asHTTP]

/-- Non-vacuity: a wrapped standard error is a `Shape`, and a standard code
meets the side conditions of `hop_is`. -/
example : Shape (.wrapf (strBytes "ctx: ") (.http 404 (.wire (strBytes "BLOB_UNKNOWN", [], none))) []) :=
  .wrapf _ _ (.http _ (.wire _))
example : strBytes "BLOB_UNKNOWN" ∈ stdCodes ∧ strBytes "BLOB_UNKNOWN" ≠ codeRangeInvalid := by decide +kernel

end OciModel.Props.C07
