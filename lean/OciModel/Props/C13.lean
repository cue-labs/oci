/-
C13 — A sub-registry view is confined to its prefix and equals the restricted registry.

The model of `*subRegistry` is the table regenerated from `ocifilter/sub.go`
(`OciModel.Generated.Sub.table`) together with the regenerated shapes of `repo`
(the name map), `mapScopes` and the constructor; semantics in `OciModel/Sub.lean`.
The general theorems are about the name map `mapName p n = p ++ "/" ++ n`, for
every prefix `p` and every byte string `n`; the `generated_*` obligations check
that the source uses exactly that map, for every repository argument of
every one of the 18 methods and for nothing else.
-/
import OciModel.SubLemmas
import OciModel.SubMemLemmas

namespace OciModel.Props.C13
open OciModel OciModel.Sub OciModel.Generated.Sub OciModel.Generated OciModel.Scope
open OciModel.Select (Call Env Ev feed)

variable {ε σ : Type}

/-! ### The name map -/

/-- Whatever the caller supplies — empty, dots, dot-dot segments, slashes — the
name handed to the wrapped registry is textually under `prefix/`. -/
theorem sub_confined (p n : Bytes) : (p ++ [47]) <+: mapName p n :=
  ⟨n, by simp [mapName]⟩

/-- Distinct view names are distinct repositories below (an operation on `n` acts
on `prefix/n` and on nothing else). -/
theorem sub_name_injective (p a b : Bytes) (h : mapName p a = mapName p b) : a = b :=
  mapName_injective p a b h

/-- Stripping undoes the map. -/
theorem sub_strip_map (p n : Bytes) : stripName p (mapName p n) = some n := stripName_mapName p n

/-- A backend name shows in the view iff it is `prefix/x`; a sibling sharing only
a textual prefix (`fooey` for `foo`) does not. -/
theorem sub_strip_iff (p x n : Bytes) : stripName p x = some n ↔ x = mapName p n :=
  stripName_eq_some p x n

/-- A view of a view is the view of the joined prefix: `Sub(Sub(r, a), b)` hands the wrapped
registry the name `Sub(r, a/b)` would. -/
theorem sub_sub_name (a b n : Bytes) : mapName a (mapName b n) = mapName (a ++ 47 :: b) n := by
  simp [mapName]

/-- `Sub(Sub(r, a), b)` shows the same backend names under the same view names as `Sub(r, a/b)`. -/
theorem sub_sub_strip (a b x : Bytes) :
    (stripName a x).bind (stripName b) = stripName (a ++ 47 :: b) x := by
  cases h : stripName (a ++ 47 :: b) x with
  | some n =>
    have hx : x = mapName (a ++ 47 :: b) n := (stripName_eq_some _ x n).1 h
    rw [hx, ← sub_sub_name, stripName_mapName]
    simp [stripName_mapName]
  | none =>
    cases h1 : stripName a x with
    | none => rfl
    | some y =>
      cases h2 : stripName b y with
      | none => simp [h2]
      | some n =>
        have hy : y = mapName b n := (stripName_eq_some _ y n).1 h2
        have hx : x = mapName a y := (stripName_eq_some _ x y).1 h1
        rw [hx, hy, sub_sub_name, stripName_mapName] at h
        cases h

/-- Prefixing preserves the order of names (Go's `strings.Compare`). -/
theorem sub_order (p a b : Bytes) : compare (mapName p a) (mapName p b) = compare a b :=
  compare_mapName p a b

/-! ### Every method -/

/-- For a well-formed row of well-formed code, the wrapper makes exactly one call
on the wrapped registry: the same method, every repository argument (and the
start point of a repository listing) mapped to `prefix/arg`, every other argument
unchanged, with the context's scopes mapped. -/
theorem sub_name_map (hcode : CodeOk = true) (r : Row) (h : RowOk r = true)
    (ips : List String) (hips : ifaceParamNames r.method = some ips)
    (p : Bytes) (env : Env) (sc : Scope) :
    call p env sc r = .ok ⟨r.method, specArgs p env r.method ips r.params⟩ (Sub.mapScopes p sc) := by
  simp only [CodeOk, Bool.and_eq_true, beq_iff_eq] at hcode
  obtain ⟨⟨⟨hmap, hguard⟩, hbody⟩, _⟩ := hcode
  obtain ⟨hk, hms, hcal, hnames, hknown, _, hmapped, _⟩ := rowOk_unfold r h ips hips
  simp only [call, hk, hknown, hbody, hms, hmap, hcal, mapNameBy_concat, Option.getD_some, mapScopesBy_fixed _ hguard,
    Bool.not_true, Bool.or_self, Bool.false_eq_true, if_false, if_true]
  rw [args_eq p env r.method r.callArgs ips r.params hnames hmapped]

/-- Hence every repository argument that reaches the wrapped registry is under
the prefix: mapped positions of `specArgs` are `mapName`s. -/
theorem sub_calls_confined (p : Bytes) (env : Env) (m : String) (ips ps : List String)
    (i : Nat) (hi : i < (specArgs p env m ips ps).length)
    (hrepo : ∃ h : i < ips.length, specMapped m ips[i] = true) :
    (p ++ [47]) <+: (specArgs p env m ips ps)[i] := by
  obtain ⟨hi', hm⟩ := hrepo
  simp only [specArgs, List.length_map, List.length_zip] at hi
  have hps : i < ps.length := by omega
  simp only [specArgs, List.getElem_map, List.getElem_zip, hm, if_true]
  exact sub_confined p _

/-! ### Listings -/

/-- Over a wrapped registry whose listing meets the contract (ascending, strictly
after the given start point, complete), the view's listing from any start point
contains exactly the stripped names of the repositories under `prefix/` that are
strictly after `start`. -/
theorem sub_listing_mem (p : Bytes) (L : Bytes → List Bytes) (repos : List Bytes) (hL : ListsSpec L repos)
    (start x : Bytes) :
    x ∈ viewList p L start ↔ mapName p x ∈ repos ∧ compare start x = .lt := by
  simp only [viewList, List.mem_filterMap]
  constructor
  · rintro ⟨y, hy, hs⟩
    have hy' := (stripName_eq_some p y x).mp hs
    subst hy'
    have := (hL.mem _ _).mp hy
    rw [compare_mapName] at this
    exact this
  · rintro ⟨hr, hc⟩
    refine ⟨mapName p x, (hL.mem _ _).mpr ⟨hr, ?_⟩, stripName_mapName p x⟩
    rw [compare_mapName]; exact hc

/-- The view's listing is in strictly ascending order (so the list is determined by its members). -/
theorem sub_listing_sorted (p : Bytes) (L : Bytes → List Bytes) (repos : List Bytes) (hL : ListsSpec L repos)
    (start : Bytes) : (viewList p L start).Pairwise fun a b => compare a b = .lt := by
  unfold viewList
  refine List.Pairwise.filterMap _ ?_ (hL.sorted _)
  intro a a' hlt b hb b' hb'
  rw [(stripName_eq_some p a b).mp hb, (stripName_eq_some p a' b').mp hb', compare_mapName] at hlt
  exact hlt

/-- The view's own listing meets the same contract over the restricted, stripped
repository set: the view is itself a lawful registry listing. -/
theorem sub_listing (p : Bytes) (L : Bytes → List Bytes) (repos : List Bytes) (hL : ListsSpec L repos) :
    ListsSpec (viewList p L) (repos.filterMap (stripName p)) where
  sorted := sub_listing_sorted p L repos hL
  mem := fun s x => by
    rw [sub_listing_mem p L repos hL, List.mem_filterMap]
    constructor
    · rintro ⟨hr, hc⟩; exact ⟨⟨_, hr, stripName_mapName p x⟩, hc⟩
    · rintro ⟨⟨y, hy, hs⟩, hc⟩
      rw [(stripName_eq_some p y x).mp hs] at hy; exact ⟨hy, hc⟩

/-- Event level: consuming the view's iterator is consuming the stripped names
under the prefix, up to and including the first backend error; it stops when the
consumer declines. -/
theorem sub_listing_events (p : Bytes) (cb : σ → Ev ε → σ × Bool) (evs : List (Ev ε)) (s : σ) :
    (feed (stripCb p cb) evs s).1 = (feed cb (Sub.visible p evs) s).1 := by
  induction evs generalizing s with
  | nil => simp [feed, visible]
  | cons e es ih =>
    cases e with
    | error e =>
      simp only [feed, stripCb, visible]
      cases hcb : cb s (.error e) with
      | mk s' go => cases go <;> simp
    | item n =>
      simp only [visible]
      cases hc : stripName p n with
      | none => simp [feed, stripCb, hc, ih]
      | some x =>
        simp only [feed, stripCb, hc]
        cases hcb : cb s (.item x) with
        | mk s' go => cases go <;> simp [ih]

theorem sub_visible_names (p : Bytes) (names : List Bytes) :
    Sub.visible (ε := ε) p (names.map .item) = (names.filterMap (stripName p)).map .item := by
  induction names with
  | nil => simp [visible]
  | cons n ns ih =>
    simp only [List.map_cons, visible, List.filterMap_cons]
    cases h : stripName p n <;> simp [ih]

/-! ### Scopes -/

/-- Repository-typed scopes in the context are rewritten with the same name map,
all other scopes are untouched: the mapped scope stands for exactly the images of
the original scope's members. -/
theorem sub_scopes (p : Bytes) (s : Scope) (hl : s.unlimited = false) (r : RS) :
    Mem r (Sub.mapScopes p s) ↔ ∃ r0, Mem r0 s ∧ r = mapRS (mapName p) r0 := by
  unfold mapScopes
  by_cases he : Scope.isEmpty s = true
  · simp [he, Mem, iter_of_isEmpty s he]
  · simp only [he, hl, Bool.or_self, Bool.false_eq_true, if_false]
    rw [mem_newScope]
    simp [Mem, List.mem_map, eq_comm]

theorem sub_scopes_repository (p n a : Bytes) :
    mapRS (mapName p) (tyRepository, n, a) = (tyRepository, mapName p n, a) := by simp [mapRS]

theorem sub_scopes_other (p : Bytes) (r : RS) (h : r.1 ≠ tyRepository) : mapRS (mapName p) r = r := by
  simp [mapRS, h]

/-- The unlimited scope and the empty scope pass through unchanged (no panic). -/
theorem sub_scopes_unlimited (p : Bytes) (s : Scope) (h : s.unlimited = true) : Sub.mapScopes p s = s := by
  simp [mapScopes, h]

theorem sub_scopes_empty (p : Bytes) (s : Scope) (h : Scope.isEmpty s = true) : Sub.mapScopes p s = s := by
  simp [mapScopes, h]

theorem sub_scopes_wf (p : Bytes) (s : Scope) (h : WF s) : WF (Sub.mapScopes p s) := by
  unfold mapScopes
  split
  · exact h
  · exact newScope_wf _

/-! ### The view equals the restricted registry (over the `ocimem` model)

`OciModel/SubMem.lean`: `restrict p s` keeps the repositories of `s` named `p/n`, under the
name `n`, with all they hold (upload sessions too), and drops the rest; `mapOp p` is the
view's name mapping on each of the 22 operations of `Mem.Op` (what `C13_holds` says of the
regenerated table: every repository name, both names of a mount, the start point of a
repository listing); `mapOut p op` is the view's treatment of the answer (a repository
listing keeps the names under `p/`, stripped — `sub_listing_events`; everything else,
a TAG listing included, is handed back as it is).

`Ref.isRepo p` is needed only where a repository may be created (`creates`): `p/n` is a
valid name iff `p` and `n` both are (`sub_name_valid`), so a view under an invalid prefix
creates nothing while the restricted registry would (`sub_invalid_prefix_differs`). It
implies `p ≠ ""` (`Sub` treats the empty prefix as no view at all). -/

section Restriction
open OciModel.SubMem

variable (H : Bytes → Bytes)

/-- `p/n` is a valid repository name iff both parts are: `ocimem` puts no bound on the length. -/
theorem sub_name_valid (p n : Bytes) : Ref.isRepo (mapName p n) = (Ref.isRepo p && Ref.isRepo n) :=
  isRepo_mapName p n

/-- What the view answers is what the restricted registry answers, and the restricted state
evolves as the restricted registry would: every operation, every state, every hash. -/
theorem sub_equals_restriction {p : Bytes} (hp : Ref.isRepo p = true) (s : Mem.State) (op : Mem.Op) :
    (Mem.step H (restrict p s) op).2 = mapOut p op (Mem.step H s (mapOp p op)).2 ∧
    restrict p (Mem.step H s (mapOp p op)).1 = (Mem.step H (restrict p s) op).1 := by
  rw [step_restrict H s op (fun _ => hp)]
  exact ⟨rfl, rfl⟩

/-- For the 17 operations that cannot create a repository (all but `pushBlob`, `pushChunked`,
`resume`, `mount`, `pushManifest`) the prefix may be any byte string, the empty one included. -/
theorem sub_equals_restriction_no_create (p : Bytes) (s : Mem.State) (op : Mem.Op) (hop : creates op = false) :
    (Mem.step H (restrict p s) op).2 = mapOut p op (Mem.step H s (mapOp p op)).2 ∧
    restrict p (Mem.step H s (mapOp p op)).1 = (Mem.step H (restrict p s) op).1 := by
  rw [step_restrict H s op (fun h => by rw [hop] at h; cases h)]
  exact ⟨rfl, rfl⟩

/-- The hypothesis on the prefix is needed: under the prefix `A` (not a repository name) the
view refuses to start an upload in `a`, which the restricted registry accepts. -/
theorem sub_invalid_prefix_differs :
    (Mem.step H (restrict [65] (Mem.init false)) (.pushChunked [97])).2 = .okWriter (Mem.freshID 0) ∧
    mapOut [65] (.pushChunked [97]) (Mem.step H (Mem.init false) (mapOp [65] (.pushChunked [97]))).2
      = .err "NAME_INVALID" := by
  constructor <;> rfl

/-- The frame: repositories that are not under `p/` — same names, same contents, same order —
are untouched by whatever is done through the view (no hypothesis on `p`, `s` or the names). -/
theorem sub_frame (p : Bytes) (s : Mem.State) (op : Mem.Op) :
    outsideRepos p (Mem.step H s (mapOp p op)).1.repos = outsideRepos p s.repos :=
  step_outside H p s op

/-- The same, read through `getRepo`: a name that is not `p/…` finds what it found before. -/
theorem sub_frame_lookup (p : Bytes) (s : Mem.State) (op : Mem.Op) (k : Bytes) (hk : stripName p k = none) :
    Mem.getRepo (Mem.step H s (mapOp p op)).1 k = Mem.getRepo s k := by
  unfold Mem.getRepo
  rw [← alookup_outsideRepos hk, ← alookup_outsideRepos hk s.repos]
  exact congrArg _ (step_outside H p s op)

/-- `restrict` and `outsideRepos` split the registry: a repository is in exactly one of them. -/
theorem sub_restrict_partition (p : Bytes) (s : Mem.State) (k : Bytes) (rp : Mem.Repo) :
    (k, rp) ∈ s.repos ↔
      ((k, rp) ∈ outsideRepos p s.repos ∧ stripName p k = none) ∨
      (∃ n, k = mapName p n ∧ (n, rp) ∈ (restrict p s).repos) := by
  simp only [outsideRepos, restrict, restrictRepos, List.mem_filter, List.mem_filterMap, Option.isNone_iff_eq_none,
    Option.map_eq_some_iff, Prod.mk.injEq, Prod.exists]
  constructor
  · intro h
    cases hs : stripName p k with
    | none => exact Or.inl ⟨⟨h, rfl⟩, rfl⟩
    | some n =>
      exact Or.inr ⟨n, (stripName_eq_some p k n).mp hs, k, rp, h, n, hs, rfl, rfl⟩
  · rintro (⟨⟨h, _⟩, _⟩ | ⟨n, hk, k', rp', h, n', hs, hn, hrp⟩)
    · exact h
    · subst hn hrp
      rw [hk, ← (stripName_eq_some p k' n').mp hs]; exact h

/-- Histories: any sequence of operations through the view, from any state. -/
theorem sub_equals_restriction_history {p : Bytes} (hp : Ref.isRepo p = true) (s : Mem.State) (ops : List Mem.Op) :
    (Mem.run H (restrict p s) ops).2 = mapOuts p ops (Mem.run H s (ops.map (mapOp p))).2 ∧
    restrict p (Mem.run H s (ops.map (mapOp p))).1 = (Mem.run H (restrict p s) ops).1 := by
  rw [run_restrict H s ops (fun _ => hp)]
  exact ⟨rfl, rfl⟩

theorem sub_frame_history (p : Bytes) (s : Mem.State) (ops : List Mem.Op) :
    outsideRepos p (Mem.run H s (ops.map (mapOp p))).1.repos = outsideRepos p s.repos := by
  induction ops generalizing s with
  | nil => rfl
  | cons op ops ih =>
    simp only [Mem.run, List.map_cons, ih]
    exact step_outside H p s op

/-- A view over a fresh registry answers as a fresh registry. -/
theorem sub_of_fresh_registry {p : Bytes} (hp : Ref.isRepo p = true) (imm : Bool) (ops : List Mem.Op) :
    (Mem.run H (Mem.init imm) ops).2 = mapOuts p ops (Mem.run H (Mem.init imm) (ops.map (mapOp p))).2 :=
  (sub_equals_restriction_history H hp (Mem.init imm) ops).1

end Restriction

/-! ### Obligations on the regenerated facts -/

/-- `repo` is plain concatenation, `mapScopes` passes empty and unlimited scopes
through and otherwise has the modelled body, the constructor is as modelled. -/
theorem generated_code_ok : CodeOk = true := by decide +kernel

/-- Every method maps its scopes, delegates to its own method, maps every
repository argument (and the listing start point) and nothing else. -/
theorem generated_table_ok : TableOk table = true := by decide +kernel

/-- The table has exactly one row per method of `ociregistry.Interface`. -/
theorem generated_covers_interface :
    (table.map (·.method)).Nodup ∧
    (∀ m ∈ Iface.methodParams.map (·.1), m ∈ table.map (·.method)) ∧
    (∀ m ∈ table.map (·.method), m ∈ Iface.methodParams.map (·.1)) ∧
    Iface.methodParams.length = 18 := by decide +kernel

/-- Every row of the regenerated table makes the one call `sub_name_map` describes: its own method, the
repository arguments under the prefix, the scopes mapped. -/
theorem C13_holds (r : Row) (hr : r ∈ table) (ips : List String) (hips : ifaceParamNames r.method = some ips)
    (p : Bytes) (env : Env) (sc : Scope) :
    call p env sc r = .ok ⟨r.method, specArgs p env r.method ips r.params⟩ (Sub.mapScopes p sc) := by
  have h : RowOk r = true := by
    have := generated_table_ok
    simp [TableOk, List.all_eq_true] at this
    exact this r hr
  exact sub_name_map generated_code_ok r h ips hips p env sc

/-! ### `path.Join` as the name map is not confined

`mapNameOld` models `path.Join(prefix, name)` (with Go's `path.Clean`): a dot-dot
segment climbs out of the prefix. -/

/-- `Sub(r, "a")` asked for "../secret" addressed repository "secret". -/
theorem old_map_escapes :
    mapNameOld (strBytes "a") (strBytes "../secret") = strBytes "secret" ∧
    mapNameOld (strBytes "foo/bar") (strBytes "../../x") = strBytes "x" ∧
    mapNameOld (strBytes "a") (strBytes "b/../../c") = strBytes "c" := by decide +kernel

/-! ### Non-vacuity -/

/-- The three names a/b, a/c, a/d and a sibling ab. -/
def exRepos : List Bytes := [strBytes "a/b", strBytes "a/c", strBytes "a/d", strBytes "ab"]

/-- A lister over them that meets `ListsSpec` (`exL_spec`). -/
def exL (s : Bytes) : List Bytes := exRepos.filter fun x => compare s x == .lt

example : exL (strBytes "a/b") = [strBytes "a/c", strBytes "a/d", strBytes "ab"] := by decide +kernel
example : viewList (strBytes "a") exL (strBytes "b") = [strBytes "c", strBytes "d"] := by decide +kernel
example : viewList (strBytes "a") exL [] = [strBytes "b", strBytes "c", strBytes "d"] := by decide +kernel

theorem exL_spec : ListsSpec exL exRepos where
  sorted := fun s => by
    have h : exRepos.Pairwise fun a b => compare a b = .lt := by decide +kernel
    exact h.sublist List.filter_sublist
  mem := fun s x => by simp [exL, List.mem_filter]

theorem nonvacuous_row : ∃ r ∈ table, r.method = "MountBlob" ∧ RowOk r = true ∧
    ifaceParamNames r.method = some ["fromRepo", "toRepo", "digest"] := by decide +kernel

/-- A limited, non-empty scope: repository:x:pull and an opaque scope. -/
example :
    let s := newScope [(tyRepository, [120], actPull), ([102], [], [])]
    s.unlimited = false ∧ Scope.isEmpty s = false ∧
    iter (Sub.mapScopes [97] s) = [([102], [], []), (tyRepository, [97, 47, 120], actPull)] := by decide +kernel

/-! The restriction on a registry holding `p/a`, the sibling `p-x/b` and `q`. -/
section RestrictionExample
open OciModel.SubMem

def exBlob : Mem.Blob := ⟨Mem.octetStream, [1, 2, 3], [], []⟩
def exRepoA : Mem.Repo := ⟨[(strBytes "v1", ⟨[109], [100], 3⟩)], [([100], exBlob)], [([7], exBlob)], [([64, 48], ⟨[9], -1, false, none⟩)]⟩
def exRepoB : Mem.Repo := ⟨[], [], [([8], exBlob)], []⟩
def exState : Mem.State :=
  ⟨false, [(strBytes "p-x/b", exRepoB), (strBytes "p/a", exRepoA), (strBytes "q", Mem.emptyRepo)], 1⟩
def exH : Bytes → Bytes := fun b => 104 :: b

example : Ref.isRepo (strBytes "p") = true := by decide +kernel
example : creates (.getBlob (strBytes "a") [7]) = false ∧ creates (.wCommit (strBytes "a") [64, 48] []) = false := by decide +kernel
example : stripName (strBytes "p") (strBytes "p-x/b") = none ∧ stripName (strBytes "p") (strBytes "q") = none := by decide +kernel
example : restrict (strBytes "p") exState = ⟨false, [(strBytes "a", exRepoA)], 1⟩ := by decide +kernel
example : outsideRepos (strBytes "p") exState.repos = [(strBytes "p-x/b", exRepoB), (strBytes "q", Mem.emptyRepo)] := by decide +kernel
/-- the whole registry lists three repositories, the view one -/
example : (Mem.step exH exState (.repositories [])).2 = .okList [strBytes "p-x/b", strBytes "p/a", strBytes "q"] := by decide +kernel
example : mapOut (strBytes "p") (.repositories []) (Mem.step exH exState (mapOp (strBytes "p") (.repositories []))).2
    = .okList [strBytes "a"] := by decide +kernel
example : (Mem.step exH (restrict (strBytes "p") exState) (.repositories [])).2 = .okList [strBytes "a"] := by decide +kernel
/-- a tag listing is an `okList` too and is not stripped -/
example : mapOut (strBytes "p") (.tags (strBytes "a") []) (Mem.step exH exState (mapOp (strBytes "p") (.tags (strBytes "a") []))).2
    = .okList [strBytes "v1"] := by decide +kernel
/-- the sibling's blob is not reachable through the view, whatever name is tried -/
example : (Mem.step exH exState (mapOp (strBytes "p") (.getBlob (strBytes "../p-x/b") [8]))).2 = .err "NAME_UNKNOWN" := by decide +kernel
/-- a push through the view creates `p/c` below and `c` in the restriction, and leaves the rest -/
example :
    let s' := (Mem.step exH exState (mapOp (strBytes "p") (.pushChunked (strBytes "c")))).1
    (restrict (strBytes "p") s').repos.map (·.1) = [strBytes "c", strBytes "a"] ∧
    outsideRepos (strBytes "p") s'.repos = outsideRepos (strBytes "p") exState.repos := by decide +kernel

end RestrictionExample

end OciModel.Props.C13
