/-
C03R — the RESPONSE half of the client/server codec (sub-check of C03; the request half is
`Props/C03.lean`). `serverResp` is what `ociserver` writes for a backend's answer, `clientDecode` what
`ociclient` makes of an answer (`OciModel/RespCodec.lean`, mirrored from the Go text line by line).

Part 1: the text codecs inside the headers are round trips (Range, Content-Range, upload Range,
OCI-Chunk-Min-Length, Location, query escaping, the JSON list bodies) — with the exact
characterisation where they are not (the empty range F3, the one-byte upload).
Part 2: for every request kind, `clientDecode (serverResp answer)` is the backend's answer restricted to
what the wire carries; each theorem says what is lost.
Part 2b: F31 (fixed): a call by digest reports the digest that was ASKED FOR, whatever the answer's header says
(`client_reports_requested_digest`); the round trips of Part 2 for such calls assume that the backend's answer
carries the digest asked for (`hans`); without that assumption they are refuted
(`…_F31_counterexample`), and the unconditional form is stated beside them (`…_reports_requested`).
Part 3: `clientDecode` never panics, whatever the answers; the server panics only on an upload ID the
request codec cannot carry.
Part 4: an answer without a header the call cannot do without is refused, never defaulted.
Part 5: the tables of header names, statuses and `require` flags regenerated from the Go text
(`Generated/RespFacts.lean`) are the ones the model mirrors, and the model's handlers produce them.

The lemmas that several statements share are in `OciModel/RespCodecLemmas.lean`.
-/
import OciModel.RespCodec
import OciModel.RespCodecLemmas
import OciModel.Sha256
import OciModel.Generated.RespFacts
namespace OciModel.Props.C03R
open OciModel OciModel.Ref OciModel.ReqCodec OciModel.RespCodec OciModel.Pager

/-! ## Part 1 — codecs -/

/-- **Range (request).** For every non-empty range `[o0, o1)` the header `GetBlobRange` sends makes the server call
`GetBlobRange(o0, o1)` on its backend. -/
theorem range_header_round_trip {o0 o1 : Int} (h0 : 0 ≤ o0) (h01 : o0 < o1) (hmax : o1 ≤ maxI64) :
    blobCall (cliRangeHdr o0 o1) = some (.range o0 o1) := by
  rw [blobCall_cliRangeHdr_closed h0 (by omega) (by omega) hmax, if_pos h01]

example : blobCall (cliRangeHdr 3 7) = some (.range 3 7) := by decide +kernel

/-- **Range (request), open end.** `o1 < 0` ("to the end") arrives as `-1`. (`o0 = 0 ∧ o1 < 0` is sent as a plain
GET: `clientDecode` below.) -/
theorem range_header_open_round_trip {o0 o1 : Int} (h0 : 0 ≤ o0) (hmax : o0 ≤ maxI64) (h1 : o1 < 0) :
    blobCall (cliRangeHdr o0 o1) = some (.range o0 (-1)) :=
  blobCall_cliRangeHdr_open h0 hmax h1

example : blobCall (cliRangeHdr 5 (-1)) = some (.range 5 (-1)) := by decide +kernel

/-- **F3, exactly.** The empty range `[o, o)` — and only it, among `o0 ≤ o1` — cannot be asked for: the client
prints `bytes=o-(o-1)`, which the server's `parseRange` refuses (416). Recorded as finding F3 under C03; this is its
exact extent: `blobCall` succeeds iff `o0 < o1`. -/
theorem range_header_empty_refused {o0 o1 : Int} (h0 : 0 ≤ o0) (h0max : o0 ≤ maxI64) (h1 : 0 ≤ o1) (h1max : o1 ≤ maxI64) :
    blobCall (cliRangeHdr o0 o1) = none ↔ o1 ≤ o0 := by
  rw [blobCall_cliRangeHdr_closed h0 h0max h1 h1max]
  by_cases h : o0 < o1
  · rw [if_pos h]; constructor
    · intro e; cases e
    · intro e; omega
  · rw [if_neg h]; constructor
    · intro _; omega
    · intro _; rfl

example : blobCall (cliRangeHdr 4 4) = none ∧ cliRangeHdr 4 4 = strBytes "bytes=4-3" := by decide +kernel
example : blobCall (cliRangeHdr 0 0) = none ∧ cliRangeHdr 0 0 = strBytes "bytes=0--1" := by decide +kernel

/-- **Content-Range.** The total size the client takes from the `Content-Range` of a 206 answer is the size the
server printed, for every range and every size a Go `int64` can hold. -/
theorem content_range_round_trip (s e : Int) {size : Int} (h0 : 0 ≤ size) (hmax : size ≤ maxI64) :
    ∃ before after, cutLastSlash (srvContentRange s e size) = some (before, after) ∧ atoi after = some size :=
  ⟨_, _, cutLastSlash_contentRange s e h0, atoi_itoa size h0 hmax⟩

example : srvContentRange 2 5 10 = strBytes "bytes 2-4/10" := by decide +kernel

/-- **Range (upload).** The offset the client reads from the `Range` of an upload-info answer is the number of bytes
the backend's writer reports — except for exactly one byte: `0-0` stands for "nothing received" too (C04:
`askedOffset_one`; the protocol has one text for both). -/
theorem upload_range_round_trip {size : Int} (h0 : 0 ≤ size) (hmax : size ≤ maxI64) :
    parseRangeB (rangeStringB 0 size) = some (0, if size = 1 then 0 else size) :=
  parseRangeB_rangeStringB h0 hmax

example : parseRangeB (rangeStringB 0 1) = some (0, 0) ∧ parseRangeB (rangeStringB 0 2) = some (0, 2) := by decide +kernel

/-- **OCI-Chunk-Min-Length.** The client's chunk size is the larger of its own and the registry's. -/
theorem chunk_min_round_trip (r : Resp) {c : Int} (own : Int) (h0 : 0 ≤ c) (hmax : c ≤ maxI64)
    (h : hget r.hdr hChunkMin = itoa c) :
    chunkSizeFromResponse r own = if c > own then c else own := by
  unfold chunkSizeFromResponse
  rw [h, ReqCodec.atoi_itoa c h0 hmax]

/-- **Query escaping.** `url.QueryUnescape ∘ url.QueryEscape` is the identity on every byte string. -/
theorem query_escape_round_trip (s : Bytes) : queryUnescape (queryEscape s) = some s :=
  queryUnescape_queryEscape s

/-- **Query strings.** `url.ParseQuery ∘ url.Values.Encode` gives every pair back (keys ascending, the values of a
key in their order), for arbitrary keys and values. -/
theorem query_round_trip (ps : List (Bytes × Bytes)) : parseQuery (encodeQuery ps) = some (sortKeys ps) :=
  parseQuery_encodeQuery ps

example : encodeQuery [(qN, strBytes "5"), (qLast, strBytes "a b&c")] = strBytes "last=a+b%26c&n=5" := by decide +kernel

/-- **Location (upload).** For a valid repository and an upload ID that is non-empty UTF-8 — any bytes otherwise,
e.g. with `/`, `?`, `%` — the server finds a location, and the requests the client then sends to it (GET, PATCH, and
PUT with `?digest=` appended by `urlWithDigest`) are classified by the server's router as the same upload. -/
theorem location_round_trip {repo id dg : Bytes} (hR : isRepo repo = true) (hid : id ≠ [])
    (hu : B64Url.validUTF8 id = true) (hd : isDigest dg = true) :
    ∃ loc, locationForUploadID repo id = some loc ∧
      classifyTarget mGET loc = .ok { kind := .blobUploadInfo, repo := repo, uploadID := id } ∧
      classifyTarget mPATCH loc = .ok { kind := .blobUploadChunk, repo := repo, uploadID := id } ∧
      classifyTarget mPUT (urlWithDigest loc dg) =
        .ok { kind := .blobCompleteUpload, repo := repo, uploadID := id, digest := dg } := by
  refine ⟨_, locationForUploadID_valid hR hid hu, ?_, ?_, classifyTarget_commit hR hid hu hd⟩
  · rw [classifyTarget_location hR hid hu, if_pos rfl]
  · rw [classifyTarget_location hR hid hu, if_neg (by decide +kernel), if_pos rfl]

example : isRepo (strBytes "foo/blobs/uploads") = true ∧ B64Url.validUTF8 (strBytes "a/b?c%") = true := by decide +kernel
example : locationForUploadID (strBytes "foo") (strBytes "a/b?c") = some (strBytes "/v2/foo/blobs/uploads/YS9iP2M") := by
  decide +kernel

/-- The hypotheses on the upload ID are needed: `MustConstruct` panics on an ID the request codec cannot carry
(a backend whose `BlobWriter.ID()` is empty or not UTF-8 crashes the handler). -/
theorem location_needs_valid_id :
    locationForUploadID (strBytes "foo") [] = none ∧ locationForUploadID (strBytes "foo") [0xff] = none := by
  decide +kernel

/-- **JSON list bodies.** What the list handlers marshal, the decoder of that image reads back: every repository
name and every list of items (arbitrary bytes; `jsonStr` is Go's encoder for valid UTF-8). The theorems below take
the decoder as a parameter with this law as their hypothesis; this shows the hypothesis is satisfiable. -/
theorem json_tags_round_trip (repo : Bytes) (l : List Bytes) : decTagsImage (encTags repo l) = some l := by
  unfold decTagsImage encTags
  simp only [List.append_assoc, cutPrefix_append, unJsonStr_jsonStr, unJsonStrList_jsonStrList]

theorem json_catalog_round_trip (l : List Bytes) : decCatalogImage (encCatalog l) = some l := by
  unfold decCatalogImage encCatalog
  simp only [List.append_assoc, cutPrefix_append, unJsonStrList_jsonStrList]

example : encTags (strBytes "foo") [strBytes "a\"b", strBytes "<&>", [1]] =
    strBytes "{\"name\":\"foo\",\"tags\":[\"a\\\"b\",\"\\u003c\\u0026\\u003e\",\"\\u0001\"]}" := by decide +kernel
example : encCatalog [] = strBytes "{\"repositories\":null}" := by decide +kernel


/-! ## Part 2 — every request kind: `clientDecode (serverResp answer)` is the backend's answer, up to what the
wire carries. `H` is `digest.FromBytes`, `resolve` is `net/url`'s resolution of a `Location`; both arbitrary. -/

/- What the proofs of this part unfold: the client's dispatch, its status gate and its reading of a descriptor, the
server's way of building an answer, and header lookup past a different name; the `simp` calls name only what is
particular to their case. -/
section
attribute [local simp] clientDecode clientResolve clientRead gate descriptorFromResponse newBlobReader mkResp hget_cons_ne

/-- A descriptor the headers can carry: the size fits a `Content-Length`, the digest is well formed. -/
def Carriable (d : Desc) : Prop := 0 ≤ d.size ∧ d.size ≤ maxI64 ∧ isDigest d.digest = true

/-- an empty `Content-Type` reads as the default -/
def orOctet (mt : Bytes) : Bytes := if mt = [] then octetStream else mt
attribute [local simp] orOctet

def exDigest : Bytes := sha256 ++ cColon :: List.replicate 64 97
def exDesc : Desc := { mediaType := mtImageManifest, digest := exDigest, size := 131073 }
example : Carriable exDesc := ⟨by decide +kernel, by decide +kernel, by decide +kernel⟩

/-- **Blob HEAD** (`ResolveBlob`). Digest and size arrive; the media type does NOT: the handler sets no
`Content-Type`, the client reports `application/octet-stream` whatever the backend said. -/
-- F31: `hans` says that the backend's answer carries the digest asked for. The client reports the digest it asked
-- for, not the header's (client.go `descriptorFromResponse`): without `hans` the statement is false
-- (`blobHead_round_trip_F31_counterexample`); what holds unconditionally is `blobHead_reports_requested`.
theorem blobHead_round_trip (H : Bytes → Bytes) (resolve : Bytes → Option Bytes) (o : SrvOpts) (q : SrvReq)
    (d : Desc) (known : Bytes) (hk : q.r.kind = .blobHead) (hc : Carriable d)
    (hans : known ≠ [] → d.digest = known) :
    ∃ r, serverResp H o q (.desc d) = .resp r ∧
      clientDecode H resolve (.resolveBlob known) [r] =
        .desc { mediaType := octetStream, digest := d.digest, size := d.size } := by
  obtain ⟨h0, hmax, hd⟩ := hc
  have hn : ¬ d.size < 0 := by omega
  refine ⟨_, by simp only [serverResp, hk, handleBlobHead]; rfl, ?_⟩
  by_cases hkn : known = []
  · simp [parseContentLength_itoa h0 hmax, hd, isDigest_ne_nil hd, hn, hkn]
  · have he := hans hkn
    have hdk : isDigest known = true := he ▸ hd
    simp [parseContentLength_itoa h0 hmax, hdk, hn, hkn, he]

-- F31: `hans` is satisfiable (a backend that honours `ociregistry.Interface` answers with the digest asked for)
example : exDigest ≠ [] → exDesc.digest = exDigest := fun _ => rfl

/-- **F31, the guarantee for `ResolveBlob`.** Whatever digest the backend's answer carries (any well-formed
one), the descriptor the caller gets has the digest the caller ASKED FOR; the size is the backend's. -/
-- F32: `hdk`: the digest asked for is well formed, as request construction of `ResolveBlob` guarantees (`blobHead`
-- requests carry a digest the codec accepted). An ill-formed digest argument is refused by `descriptorFromResponse`
-- (`blobHead_refuses_ill_formed_digest`).
theorem blobHead_reports_requested (H : Bytes → Bytes) (resolve : Bytes → Option Bytes) (o : SrvOpts) (q : SrvReq)
    (d : Desc) (known : Bytes) (hk : q.r.kind = .blobHead) (hc : Carriable d) (hdk : isDigest known = true) :
    ∃ r, serverResp H o q (.desc d) = .resp r ∧
      clientDecode H resolve (.resolveBlob known) [r] =
        .desc { mediaType := octetStream, digest := known, size := d.size } := by
  obtain ⟨h0, hmax, hd⟩ := hc
  have hn : ¬ d.size < 0 := by omega
  have hkn : known ≠ [] := isDigest_ne_nil hdk
  refine ⟨_, by simp only [serverResp, hk, handleBlobHead]; rfl, ?_⟩
  simp [parseContentLength_itoa h0 hmax, hd, isDigest_ne_nil hd, hn, hkn, hdk]

-- F32: the hypothesis is satisfiable
example : isDigest exDigest = true := by decide +kernel

/-- F32: the complement of `blobHead_reports_requested`: a digest argument that is named but ill formed is refused
with `bad digest … in request`, whatever the (carriable) answer of the backend. -/
theorem blobHead_refuses_ill_formed_digest (H : Bytes → Bytes) (resolve : Bytes → Option Bytes) (o : SrvOpts)
    (q : SrvReq) (d : Desc) (known : Bytes) (hk : q.r.kind = .blobHead) (hc : Carriable d) (hkn : known ≠ [])
    (hbad : isDigest known = false) :
    ∃ r, serverResp H o q (.desc d) = .resp r ∧
      clientDecode H resolve (.resolveBlob known) [r] = .err (.desc .badDigest) := by
  obtain ⟨h0, hmax, hd⟩ := hc
  have hn : ¬ d.size < 0 := by omega
  refine ⟨_, by simp only [serverResp, hk, handleBlobHead]; rfl, ?_⟩
  simp [parseContentLength_itoa h0 hmax, hd, isDigest_ne_nil hd, hn, hkn, hbad]

def exDigest2 : Bytes := sha256 ++ cColon :: List.replicate 64 98
def exDesc2 : Desc := { mediaType := mtImageManifest, digest := exDigest2, size := 5 }
example : Carriable exDesc2 := ⟨by decide +kernel, by decide +kernel, by decide +kernel⟩

/-- F31: `blobHead_round_trip` without `hans` is false: a backend that answers
`ResolveBlob(exDigest)` with a descriptor of another digest is reported to the caller under the digest asked for. -/
theorem blobHead_round_trip_F31_counterexample :
    ¬ (∀ (H : Bytes → Bytes) (resolve : Bytes → Option Bytes) (o : SrvOpts) (q : SrvReq) (d : Desc) (known : Bytes),
        q.r.kind = .blobHead → Carriable d →
        ∃ r, serverResp H o q (.desc d) = .resp r ∧
          clientDecode H resolve (.resolveBlob known) [r] =
            .desc { mediaType := octetStream, digest := d.digest, size := d.size }) := by
  intro h
  obtain ⟨r, hr, hc⟩ := h id (fun _ => none) {} { r := { kind := .blobHead } } exDesc2 exDigest rfl
    ⟨by decide, by decide, by decide⟩
  cases hr
  revert hc
  decide +kernel

/-- **Manifest HEAD** (`ResolveManifest`, `ResolveTag`), under every setting of `OmitDigestFromTagGetResponse`:
media type (an empty one becomes the default), size and digest arrive; with the option on and a request by digest
the digest is the one the caller asked for (the header is left out) — as it is (F31) with the option off. -/
-- F31: `hans`, for requests BY DIGEST only (by tag the statement is unconditional): the backend's answer carries
-- the digest asked for. Without it the statement is false when the header is sent
-- (`manifestHead_round_trip_F31_counterexample`); unconditionally: `manifestHead_reports_requested`.
theorem manifestHead_round_trip (H : Bytes → Bytes) (resolve : Bytes → Option Bytes) (o : SrvOpts) (q : SrvReq)
    (d : Desc) (hk : q.r.kind = .manifestHead) (hreq : q.r.tag ≠ [] ∨ isDigest q.r.digest = true) (hc : Carriable d)
    (hans : q.r.tag = [] → d.digest = q.r.digest) :
    ∃ r, serverResp H o q (.desc d) = .resp r ∧
      clientDecode H resolve (if q.r.tag ≠ [] then .resolveTag else .resolveManifest q.r.digest) [r] =
        .desc { mediaType := orOctet d.mediaType,
                digest := if o.omitDigest = true ∧ q.r.tag = [] then q.r.digest else d.digest,
                size := d.size } := by
  obtain ⟨h0, hmax, hd⟩ := hc
  have hn : ¬ d.size < 0 := by omega
  refine ⟨_, by simp only [serverResp, hk, handleManifestHead]; rfl, ?_⟩
  by_cases ht : q.r.tag = []
  · have hqd : isDigest q.r.digest = true := hreq.resolve_left (by simp [ht])
    have hq : q.r.digest ≠ [] := isDigest_ne_nil hqd
    by_cases ho : o.omitDigest = true
    · simp [parseContentLength_itoa h0 hmax, hn, ht, ho, hq, hqd]
    · have he := hans ht
      have hdk : isDigest q.r.digest = true := he ▸ hd
      simp [parseContentLength_itoa h0 hmax, hdk, hn, ht, ho, hq, he]
  · simp [parseContentLength_itoa h0 hmax, hd, isDigest_ne_nil hd, hn, ht]

-- F31: `hans` is satisfiable
example : ({ r := { kind := .manifestHead, digest := exDigest } } : SrvReq).r.tag = [] →
    exDesc.digest = ({ r := { kind := .manifestHead, digest := exDigest } } : SrvReq).r.digest := fun _ => rfl

/-- **F31, the guarantee for `ResolveManifest`** (a request by digest), under every setting of
`OmitDigestFromTagGetResponse` and whatever digest the backend's answer carries: the caller gets the digest it
ASKED FOR, with the backend's media type and size. -/
theorem manifestHead_reports_requested (H : Bytes → Bytes) (resolve : Bytes → Option Bytes) (o : SrvOpts) (q : SrvReq)
    (d : Desc) (hk : q.r.kind = .manifestHead) (ht : q.r.tag = []) (hreq : isDigest q.r.digest = true) (hc : Carriable d) :
    ∃ r, serverResp H o q (.desc d) = .resp r ∧
      clientDecode H resolve (.resolveManifest q.r.digest) [r] =
        .desc { mediaType := orOctet d.mediaType, digest := q.r.digest, size := d.size } := by
  obtain ⟨h0, hmax, hd⟩ := hc
  have hn : ¬ d.size < 0 := by omega
  have hq : q.r.digest ≠ [] := isDigest_ne_nil hreq
  refine ⟨_, by simp only [serverResp, hk, handleManifestHead]; rfl, ?_⟩
  by_cases ho : o.omitDigest = true
  · simp [parseContentLength_itoa h0 hmax, hn, ht, ho, hq, hreq]
  · simp [parseContentLength_itoa h0 hmax, hd, isDigest_ne_nil hd, hn, ht, ho, hq, hreq]

/-- F31: `manifestHead_round_trip` without `hans` is false. -/
theorem manifestHead_round_trip_F31_counterexample :
    ¬ (∀ (H : Bytes → Bytes) (resolve : Bytes → Option Bytes) (o : SrvOpts) (q : SrvReq) (d : Desc),
        q.r.kind = .manifestHead → (q.r.tag ≠ [] ∨ isDigest q.r.digest = true) → Carriable d →
        ∃ r, serverResp H o q (.desc d) = .resp r ∧
          clientDecode H resolve (if q.r.tag ≠ [] then .resolveTag else .resolveManifest q.r.digest) [r] =
            .desc { mediaType := orOctet d.mediaType,
                    digest := if o.omitDigest = true ∧ q.r.tag = [] then q.r.digest else d.digest,
                    size := d.size }) := by
  intro h
  obtain ⟨r, hr, hc⟩ := h id (fun _ => none) {} { r := { kind := .manifestHead, digest := exDigest } } exDesc2 rfl
    (Or.inr (by decide +kernel)) ⟨by decide, by decide, by decide⟩
  cases hr
  rw [if_neg (by decide +kernel)] at hc
  revert hc
  decide +kernel

/-- **Blob GET** (`GetBlob`). Media type, size and bytes arrive; the digest of the reader's descriptor is the one
the caller asked for (the server sends `rreq.Digest`, not the backend's). The reader verifies what it relays. -/
theorem blobGet_round_trip (H : Bytes → Bytes) (resolve : Bytes → Option Bytes) (o : SrvOpts) (q : SrvReq)
    (d : Desc) (content : Bytes) (hk : q.r.kind = .blobGet) (hr : q.range = [])
    (hdg : isDigest q.r.digest = true) (h0 : 0 ≤ d.size) (hmax : d.size ≤ maxI64) :
    ∃ r, serverResp H o q (.reader d content) = .resp r ∧
      clientDecode H resolve (.getBlob q.r.digest) [r] =
        .reader { mediaType := orOctet d.mediaType, digest := q.r.digest, size := d.size } true content := by
  have hn : ¬ d.size < 0 := by omega
  refine ⟨_, by simp only [serverResp, hk, handleBlobGet, hr]; rfl, ?_⟩
  simp [parseContentLength_itoa h0 hmax, hdg, isDigest_ne_nil hdg, hn, isDigest_hashable hdg]

/-- Reading a verified reader to the end gives the bytes, cleanly, when they are what the descriptor says. -/
theorem read_honest (H : Bytes → Bytes) (d : Desc) (content : Bytes)
    (hlen : (content.length : Int) = d.size) (hH : H content = d.digest) :
    readAll H d true [content] = .eof content := by
  unfold readAll
  have hs : d.size.toNat = content.length := by omega
  have hn : ¬ d.size < 0 := by omega
  simp [BlobReader.readAll, hs, hH, hn]

/-- Reading a verified reader to the end gives an error, never a clean end, when the bytes are not what the
descriptor says (C01: corruption is detected). -/
theorem read_dishonest (H : Bytes → Bytes) (d : Desc) (content : Bytes) (h0 : 0 ≤ d.size)
    (h : (content.length : Int) ≠ d.size ∨ H content ≠ d.digest) :
    (readAll H d true [content]).clean = false := by
  unfold readAll
  have hn : ¬ d.size < 0 := by omega
  simp only [hn, ↓reduceIte, BlobReader.readAll, List.nil_append]
  split
  · rfl
  · by_cases hl : content.length ≠ d.size.toNat
    · simp [hl, BlobReader.Res.clean]
    · have hl' : content.length = d.size.toNat := by simpa using hl
      rcases h with h | h
      · exact absurd (by omega) h
      · simp [hl', h, BlobReader.Res.clean]

example : readAll (fun b => 7 :: b) { digest := [7, 104, 105], size := 2 } true [[104, 105]] = .eof [104, 105] := by
  decide +kernel
example : (readAll (fun b => 7 :: b) { digest := [7, 104, 105], size := 2 } true [[104, 106]]).clean = false := by
  decide +kernel

/-- **Ranged blob GET** (`GetBlobRange`, non-empty range). The descriptor describes the WHOLE blob (its size comes
back through `Content-Range`), the bytes are what the backend's ranged reader produced, and the reader is not
verified. A start beyond the end is refused by the server (416). -/
theorem blobGetRange_round_trip (H : Bytes → Bytes) (resolve : Bytes → Option Bytes) (o : SrvOpts) (q : SrvReq)
    (d : Desc) (content : Bytes) {o0 o1 : Int} (hk : q.r.kind = .blobGet) (hdg : isDigest q.r.digest = true)
    (h0 : 0 ≤ o0) (h01 : o0 < o1) (h1max : o1 ≤ maxI64) (hq : q.range = cliRangeHdr o0 o1)
    (hs0 : 0 ≤ d.size) (hsmax : d.size ≤ maxI64) :
    (o0 ≤ d.size →
      ∃ r, serverResp H o q (.reader d content) = .resp r ∧
        clientDecode H resolve (.getBlobRange q.r.digest o0 o1) [r] =
          .reader { mediaType := orOctet d.mediaType, digest := q.r.digest, size := d.size } false content) ∧
    (d.size < o0 → serverResp H o q (.reader d content) = .err .range416) := by
  have hcall : blobCall q.range = some (.range o0 o1) := by
    rw [hq]; exact range_header_round_trip h0 h01 h1max
  constructor
  · intro hin
    have hne : ¬ (o0 = 0 ∧ o1 < 0) := by omega
    have hs : serverResp H o q (.reader d content) = .resp (mkResp 206
        [(hContentType, d.mediaType), (hContentLength, itoa ((if o1 = -1 ∨ o1 > d.size then d.size else o1) - o0)),
         (hDigest, q.r.digest), (hContentRange, srvContentRange o0 (if o1 = -1 ∨ o1 > d.size then d.size else o1) d.size)] content) := by
      simp only [serverResp, hk, handleBlobGet, hcall]
      rw [if_neg (by omega), if_neg (by split <;> omega)]
    refine ⟨_, hs, ?_⟩
    simp [hne, clientGetBlobRange, srvContentRange_ne_nil, cutLastSlash_contentRange _ _ hs0,
      atoi_itoa d.size hs0 hsmax, hdg, isDigest_ne_nil hdg, isDigest_hashable hdg]
  · intro hout
    simp only [serverResp, hk, handleBlobGet, hcall]
    rw [if_pos hout]

/-- The same for a range open at the end (`o1 < 0`, `o0 > 0`). -/
theorem blobGetRange_open_round_trip (H : Bytes → Bytes) (resolve : Bytes → Option Bytes) (o : SrvOpts) (q : SrvReq)
    (d : Desc) (content : Bytes) {o0 o1 : Int} (hk : q.r.kind = .blobGet) (hdg : isDigest q.r.digest = true)
    (h0 : 0 < o0) (h0max : o0 ≤ maxI64) (h1 : o1 < 0) (hq : q.range = cliRangeHdr o0 o1)
    (hs0 : 0 ≤ d.size) (hsmax : d.size ≤ maxI64) (hin : o0 ≤ d.size) :
    ∃ r, serverResp H o q (.reader d content) = .resp r ∧
      clientDecode H resolve (.getBlobRange q.r.digest o0 o1) [r] =
        .reader { mediaType := orOctet d.mediaType, digest := q.r.digest, size := d.size } false content := by
  have hcall : blobCall q.range = some (.range o0 (-1)) := by
    rw [hq]; exact range_header_open_round_trip (by omega) h0max h1
  have hne : ¬ (o0 = 0 ∧ o1 < 0) := by omega
  have hs : serverResp H o q (.reader d content) = .resp (mkResp 206
      [(hContentType, d.mediaType), (hContentLength, itoa (d.size - o0)),
       (hDigest, q.r.digest), (hContentRange, srvContentRange o0 d.size d.size)] content) := by
    simp only [serverResp, hk, handleBlobGet, hcall]
    simp only [true_or, if_true]
    rw [if_neg (by omega), if_neg (by omega)]
  refine ⟨_, hs, ?_⟩
  simp [hne, clientGetBlobRange, srvContentRange_ne_nil, cutLastSlash_contentRange _ _ hs0,
    atoi_itoa d.size hs0 hsmax, hdg, isDigest_ne_nil hdg, isDigest_hashable hdg]

/-- **Manifest GET** (`GetManifest`, `GetTag`) when the digest header is sent: media type, digest, size, bytes. -/
-- F31: `hans`, for requests BY DIGEST only (`GetTag` is unconditional): the backend's answer carries the digest
-- asked for. Without it the statement is false
-- (`manifestGet_round_trip_F31_counterexample`); unconditionally: `manifestGet_reports_requested`.
theorem manifestGet_round_trip (H : Bytes → Bytes) (resolve : Bytes → Option Bytes) (o : SrvOpts) (q : SrvReq)
    (d : Desc) (content : Bytes) (hk : q.r.kind = .manifestGet) (ho : o.omitDigest = false) (hc : Carriable d)
    (known : Bytes) (hans : q.r.tag = [] → known ≠ [] → d.digest = known) :
    ∃ r, serverResp H o q (.reader d content) = .resp r ∧
      clientDecode H resolve (if q.r.tag ≠ [] then .getTag else .getManifest known) [r] =
        .reader { mediaType := orOctet d.mediaType, digest := d.digest, size := d.size } true content := by
  obtain ⟨h0, hmax, hd⟩ := hc
  have hn : ¬ d.size < 0 := by omega
  refine ⟨_, by simp only [serverResp, hk, handleManifestGet]; rfl, ?_⟩
  by_cases ht : q.r.tag = []
  · by_cases hkn : known = []
    · simp [ho, ht, hkn, parseContentLength_itoa h0 hmax, hd, isDigest_ne_nil hd, hn, isDigest_hashable hd]
    · have he := hans ht hkn
      have hdk : isDigest known = true := he ▸ hd
      simp [ho, ht, hkn, he, parseContentLength_itoa h0 hmax, hdk, hn, isDigest_hashable hdk]
  · simp [ho, ht, parseContentLength_itoa h0 hmax, hd, isDigest_ne_nil hd, hn, isDigest_hashable hd]

-- F31: `hans` is satisfiable
example : ({ r := { kind := .manifestGet, digest := exDigest } } : SrvReq).r.tag = [] → exDigest ≠ [] →
    exDesc.digest = exDigest := fun _ _ => rfl

/-- **F31, the guarantee for `GetManifest`** (a read by digest): whatever digest the backend's answer carries,
the reader's descriptor has the digest the caller ASKED FOR — and that is the digest the reader verifies the bytes
against (`read_honest` / `read_dishonest`). -/
theorem manifestGet_reports_requested (H : Bytes → Bytes) (resolve : Bytes → Option Bytes) (o : SrvOpts) (q : SrvReq)
    (d : Desc) (content : Bytes) (hk : q.r.kind = .manifestGet) (ho : o.omitDigest = false) (hc : Carriable d)
    (known : Bytes) (hdk : isDigest known = true) :
    ∃ r, serverResp H o q (.reader d content) = .resp r ∧
      clientDecode H resolve (.getManifest known) [r] =
        .reader { mediaType := orOctet d.mediaType, digest := known, size := d.size } true content := by
  obtain ⟨h0, hmax, hd⟩ := hc
  have hn : ¬ d.size < 0 := by omega
  refine ⟨_, by simp only [serverResp, hk, handleManifestGet]; rfl, ?_⟩
  simp [ho, parseContentLength_itoa h0 hmax, hd, isDigest_ne_nil hd, isDigest_ne_nil hdk, hdk, hn,
    isDigest_hashable hdk]

/-- F31: `manifestGet_round_trip` without `hans` is false. -/
theorem manifestGet_round_trip_F31_counterexample :
    ¬ (∀ (H : Bytes → Bytes) (resolve : Bytes → Option Bytes) (o : SrvOpts) (q : SrvReq) (d : Desc) (content : Bytes)
        (known : Bytes), q.r.kind = .manifestGet → o.omitDigest = false → Carriable d →
        ∃ r, serverResp H o q (.reader d content) = .resp r ∧
          clientDecode H resolve (if q.r.tag ≠ [] then .getTag else .getManifest known) [r] =
            .reader { mediaType := orOctet d.mediaType, digest := d.digest, size := d.size } true content) := by
  intro h
  obtain ⟨r, hr, hc⟩ := h id (fun _ => none) {} { r := { kind := .manifestGet, digest := exDigest } } exDesc2 [] exDigest
    rfl rfl ⟨by decide, by decide, by decide⟩
  cases hr
  rw [if_neg (by decide +kernel)] at hc
  revert hc
  decide +kernel

/-- **Manifest GET by digest, digest header omitted**: the descriptor's digest is the requested one. -/
theorem manifestGet_omitted_by_digest (H : Bytes → Bytes) (resolve : Bytes → Option Bytes) (o : SrvOpts) (q : SrvReq)
    (d : Desc) (content : Bytes) (hk : q.r.kind = .manifestGet) (ho : o.omitDigest = true)
    (hdg : isDigest q.r.digest = true) (h0 : 0 ≤ d.size) (hmax : d.size ≤ maxI64) :
    ∃ r, serverResp H o q (.reader d content) = .resp r ∧
      clientDecode H resolve (.getManifest q.r.digest) [r] =
        .reader { mediaType := orOctet d.mediaType, digest := q.r.digest, size := d.size } true content := by
  have hn : ¬ d.size < 0 := by omega
  refine ⟨_, by simp only [serverResp, hk, handleManifestGet]; rfl, ?_⟩
  simp [ho, parseContentLength_itoa h0 hmax, isDigest_ne_nil hdg, hdg, hn, isDigest_hashable hdg]

/-- **Tag GET, digest header omitted, manifest up to 128 KiB** (exactly `≤ 131072`): the client hashes the body
itself, so the digest is `H content` — the backend's own digest is not consulted (and is `sha256` whatever the
backend uses). A body whose length is not the declared size is refused. -/
theorem tagGet_omitted_small (H : Bytes → Bytes) (resolve : Bytes → Option Bytes) (o : SrvOpts) (q : SrvReq)
    (d : Desc) (content : Bytes) (hk : q.r.kind = .manifestGet) (ho : o.omitDigest = true)
    (h0 : 0 ≤ d.size) (hsmall : d.size ≤ inMemThreshold) (hH : ∀ x, digestHashable (H x) = true) :
    ∃ r, serverResp H o q (.reader d content) = .resp r ∧
      clientDecode H resolve .getTag [r] =
        if (content.length : Int) = d.size then
          .reader { mediaType := orOctet d.mediaType, digest := H content, size := d.size } true content
        else .err .bodySizeMismatch := by
  have hn : ¬ d.size < 0 := by omega
  have hmax : d.size ≤ maxI64 := by unfold inMemThreshold at hsmall; unfold maxI64; omega
  refine ⟨_, by simp only [serverResp, hk, handleManifestGet]; rfl, ?_⟩
  simp only [clientDecode, clientRead, gate, descriptorFromResponse, mkResp, ho]
  simp only [Bool.not_true, Bool.false_eq_true, if_false, List.nil_append, hget_cons_self, hget_cons_ne, hget_nil,
    hContentType_beq_hContentLength, hContentType_beq_hDigest, hContentLength_beq_hDigest,
    parseContentLength_itoa h0 hmax]
  by_cases hl : (content.length : Int) = d.size
  · have ht : content.take (d.size + 1).toNat = content := List.take_of_length_le (by omega)
    simp [hn, hsmall, ht, hl, hH]
  · have hl' : ¬ ((min (d.size + 1).toNat content.length : Nat) : Int) = d.size := by omega
    simp [hn, hsmall, hl, hl']

/-- **Tag GET, digest header omitted, manifest above 128 KiB**: the client asks again with HEAD and takes the whole
descriptor from that answer; the bytes are those of the GET. -/
theorem tagGet_omitted_large (H : Bytes → Bytes) (resolve : Bytes → Option Bytes) (o : SrvOpts) (q : SrvReq)
    (d d2 : Desc) (content : Bytes) (hk : q.r.kind = .manifestGet) (ht : q.r.tag ≠ []) (ho : o.omitDigest = true)
    (hlarge : inMemThreshold < d.size) (hmax : d.size ≤ maxI64) (hc2 : Carriable d2) :
    ∃ r1 r2, serverResp H o q (.reader d content) = .resp r1 ∧
      serverResp H o { q with r := { q.r with kind := .manifestHead } } (.desc d2) = .resp r2 ∧
      clientDecode H resolve .getTag [r1, r2] =
        .reader { mediaType := orOctet d2.mediaType, digest := d2.digest, size := d2.size } true content := by
  obtain ⟨h20, h2max, h2d⟩ := hc2
  have h0 : 0 ≤ d.size := by unfold inMemThreshold at hlarge; omega
  have hn : ¬ d.size < 0 := by omega
  have hn2 : ¬ d2.size < 0 := by omega
  have hbig : ¬ d.size ≤ inMemThreshold := by omega
  refine ⟨_, _, by simp only [serverResp, hk, handleManifestGet]; rfl,
    by simp only [serverResp, handleManifestHead]; rfl, ?_⟩
  simp [ho, ht, parseContentLength_itoa h0 hmax, parseContentLength_itoa h20 h2max, hn, hn2, hbig,
    h2d, isDigest_ne_nil h2d, isDigest_hashable h2d]

/-- **Manifest PUT** (`PushManifest`). Nothing of the answer but its status is read: the descriptor returned is the
one the client computed from what it sent (`sha256` of the bytes, their length, the media type it was given); the
backend's descriptor — media type, digest algorithm, annotations — does not come back. -/
theorem manifestPut_round_trip (H : Bytes → Bytes) (resolve : Bytes → Option Bytes) (o : SrvOpts) (q : SrvReq)
    (d own : Desc) (hk : q.r.kind = .manifestPut) (hdig : q.r.tag ≠ [] ∨ q.r.digest = H q.body)
    (hmt : own.mediaType ≠ []) :   -- no hypothesis on `q.subject` (F25)
    ∃ r, serverResp H o q (.desc d) = .resp r ∧ r.status = 201 ∧
      hget r.hdr hLocation = sV2Slash ++ q.r.repo ++ strBytes "/manifests/" ++ d.digest ∧
      hget r.hdr hDigest = d.digest ∧
      clientDecode H resolve (.pushManifest own) [r] = .desc own := by
  have h1 : ¬ (q.r.tag = [] ∧ q.r.digest ≠ H q.body) := by
    rintro ⟨a, b⟩; rcases hdig with h | h
    · exact h a
    · exact b h
  have hs : ∃ extra : Header, serverResp H o q (.desc d) =
      .resp (mkResp 201 (locationHeaders (sV2Slash ++ q.r.repo ++ strBytes "/manifests/" ++ d.digest) d ++ extra)) := by
    simp only [serverResp, hk, handleManifestPut, if_neg h1]
    by_cases hct : q.contentType = mtImageManifest ∨ q.contentType = mtImageIndex
    · rw [if_pos hct]
      cases hq : q.subject with
      | none => exact ⟨_, rfl⟩
      | some sj => cases sj <;> exact ⟨_, rfl⟩
    · rw [if_neg hct]
      exact ⟨_, rfl⟩
  obtain ⟨extra, hs⟩ := hs
  refine ⟨_, hs, rfl, ?_, ?_, ?_⟩
  · simp [locationHeaders]
  · simp [locationHeaders]
  · simp [hmt, clientPushManifest]

/-- **Deletes** (`DeleteBlob`, `DeleteManifest`, `DeleteTag`): 202, nothing to carry. -/
theorem delete_round_trip (H : Bytes → Bytes) (resolve : Bytes → Option Bytes) (o : SrvOpts) (q : SrvReq)
    (hk : q.r.kind = .blobDelete ∨ q.r.kind = .manifestDelete) :
    ∃ r, serverResp H o q .unit = .resp r ∧ clientDecode H resolve .delete [r] = .unit := by
  refine ⟨mkResp 202 [], ?_, by simp [clientDelete]⟩
  rcases hk with hk | hk <;> simp only [serverResp, hk, handleDelete]

/-- **Mount** (`MountBlob`). Only the digest arrives: the descriptor has size 0 and the default media type, whatever
the backend answered. -/
-- F31: `hans` (the backend's answer carries the digest asked for); without it the statement is false
-- (`mount_round_trip_F31_counterexample`); unconditionally: `mount_reports_requested`.
theorem mount_round_trip (H : Bytes → Bytes) (resolve : Bytes → Option Bytes) (o : SrvOpts) (q : SrvReq)
    (d : Desc) (known : Bytes) (hk : q.r.kind = .blobMount) (hd : isDigest d.digest = true)
    (hans : known ≠ [] → d.digest = known) :
    ∃ r, serverResp H o q (.desc d) = .resp r ∧
      hget r.hdr hLocation = sV2Slash ++ q.r.repo ++ strBytes "/blobs/" ++ q.r.digest ∧
      clientDecode H resolve (.mountBlob known) [r] =
        .desc { mediaType := octetStream, digest := d.digest, size := 0 } := by
  refine ⟨_, by simp only [serverResp, hk, handleBlobMount]; rfl, by simp [locationHeaders], ?_⟩
  by_cases hkn : known = []
  · simp [clientMount, locationHeaders, hd, isDigest_ne_nil hd, hkn]
  · have he := hans hkn
    have hdk : isDigest known = true := he ▸ hd
    simp [clientMount, locationHeaders, hdk, hkn, he]

-- F31: `hans` is satisfiable
example : exDigest ≠ [] → exDesc.digest = exDigest := fun _ => rfl

/-- **F31, the guarantee for `MountBlob`**: whatever digest the backend's answer carries, the caller gets the
digest it ASKED to be mounted. -/
-- F32: `hdk`: the digest asked to be mounted is well formed, as request construction of `MountBlob` guarantees; an
-- ill-formed one is refused (`mount_refuses_ill_formed_digest`).
theorem mount_reports_requested (H : Bytes → Bytes) (resolve : Bytes → Option Bytes) (o : SrvOpts) (q : SrvReq)
    (d : Desc) (known : Bytes) (hk : q.r.kind = .blobMount) (hd : isDigest d.digest = true)
    (hdk : isDigest known = true) :
    ∃ r, serverResp H o q (.desc d) = .resp r ∧
      clientDecode H resolve (.mountBlob known) [r] =
        .desc { mediaType := octetStream, digest := known, size := 0 } := by
  have hkn : known ≠ [] := isDigest_ne_nil hdk
  refine ⟨_, by simp only [serverResp, hk, handleBlobMount]; rfl, ?_⟩
  simp [clientMount, locationHeaders, hd, isDigest_ne_nil hd, hkn, hdk]

-- F32: the hypothesis is satisfiable
example : isDigest exDigest = true := by decide +kernel

/-- F32: the complement of `mount_reports_requested`: a digest argument that is named but ill formed is refused. -/
theorem mount_refuses_ill_formed_digest (H : Bytes → Bytes) (resolve : Bytes → Option Bytes) (o : SrvOpts)
    (q : SrvReq) (d : Desc) (known : Bytes) (hk : q.r.kind = .blobMount) (hd : isDigest d.digest = true)
    (hkn : known ≠ []) (hbad : isDigest known = false) :
    ∃ r, serverResp H o q (.desc d) = .resp r ∧
      clientDecode H resolve (.mountBlob known) [r] = .err (.desc .badDigest) := by
  refine ⟨_, by simp only [serverResp, hk, handleBlobMount]; rfl, ?_⟩
  simp [clientMount, locationHeaders, hd, isDigest_ne_nil hd, hkn, hbad]

/-- F31: `mount_round_trip` without `hans` is false. -/
theorem mount_round_trip_F31_counterexample :
    ¬ (∀ (H : Bytes → Bytes) (resolve : Bytes → Option Bytes) (o : SrvOpts) (q : SrvReq) (d : Desc) (known : Bytes),
        q.r.kind = .blobMount → isDigest d.digest = true →
        ∃ r, serverResp H o q (.desc d) = .resp r ∧
          hget r.hdr hLocation = sV2Slash ++ q.r.repo ++ strBytes "/blobs/" ++ q.r.digest ∧
          clientDecode H resolve (.mountBlob known) [r] =
            .desc { mediaType := octetStream, digest := d.digest, size := 0 }) := by
  intro h
  obtain ⟨r, hr, _, hc⟩ := h id (fun _ => none) {} { r := { kind := .blobMount } } exDesc2 exDigest rfl (by decide +kernel)
  cases hr
  revert hc
  decide +kernel

/-- own chunk size after defaulting (writer.go:161-163) -/
def ownChunk (c : Int) : Int := if c ≤ 0 then defaultChunkSize else c

/-- **Start of an upload** (`PushBlobChunked`). The writer's location is the server's `Location` resolved against the
request URL (and leads back to the backend's upload ID: `location_round_trip`); its chunk size is the larger of the
caller's and the backend's; an unresolvable location is refused. -/
theorem startUpload_round_trip (H : Bytes → Bytes) (resolve : Bytes → Option Bytes) (o : SrvOpts) (q : SrvReq)
    {id : Bytes} (size chunk own : Int) (hk : q.r.kind = .blobStartUpload)
    (hR : isRepo q.r.repo = true) (hid : id ≠ []) (hu : B64Url.validUTF8 id = true)
    (hc0 : 0 ≤ chunk) (hcmax : chunk ≤ maxI64) :
    ∃ r loc, locationForUploadID q.r.repo id = some loc ∧
      serverResp H o q (.writer id size chunk) = .resp r ∧
      clientDecode H resolve (.pushBlobChunked own) [r] =
        match resolve loc with
        | some u => .writer u (if chunk > ownChunk own then chunk else ownChunk own) 0
        | none => .err .badLocation := by
  have hloc := locationForUploadID_valid hR hid hu
  have hne : sV2Slash ++ q.r.repo ++ sUploadsSlash ++ B64Url.encode id ≠ [] := by simp [sV2Slash_eq]
  refine ⟨_, _, hloc, by simp only [serverResp, hk, handleBlobStartUpload, hloc]; rfl, ?_⟩
  simp only [clientDecode, clientPushBlobChunked, gate, mkResp, locationFromResponse]
  simp only [hget_cons_self, hne, if_false]
  cases resolve (sV2Slash ++ q.r.repo ++ sUploadsSlash ++ B64Url.encode id) with
  | none => simp
  | some u =>
    simp [chunkSizeFromResponse, atoi_itoa chunk hc0 hcmax, ownChunk]

/-- **Upload info** (resuming with offset `-1`). The offset is the number of bytes the backend's writer holds —
except for exactly one byte, which reads as none (`upload_range_round_trip`); the chunk size is the caller's (the
handler sends no `OCI-Chunk-Min-Length` here). -/
theorem uploadInfo_round_trip (H : Bytes → Bytes) (resolve : Bytes → Option Bytes) (o : SrvOpts) (q : SrvReq)
    {id : Bytes} (size chunk own : Int) (hk : q.r.kind = .blobUploadInfo)
    (hR : isRepo q.r.repo = true) (hid : id ≠ []) (hu : B64Url.validUTF8 id = true)
    (hs0 : 0 ≤ size) (hsmax : size ≤ maxI64) :
    ∃ r loc, locationForUploadID q.r.repo id = some loc ∧
      serverResp H o q (.writer id size chunk) = .resp r ∧
      clientDecode H resolve (.resumeAsk own) [r] =
        match resolve loc with
        | some u => .writer u (ownChunk own) (if size = 1 then 0 else size)
        | none => .err (.wrapped .badLocation) := by
  have hloc := locationForUploadID_valid hR hid hu
  have hne : sV2Slash ++ q.r.repo ++ sUploadsSlash ++ B64Url.encode id ≠ [] := by simp [sV2Slash_eq]
  refine ⟨_, _, hloc, by simp only [serverResp, hk, handleBlobUploadInfo, hloc]; rfl, ?_⟩
  simp only [clientDecode, clientResumeAsk, gate, mkResp, locationFromResponse]
  simp only [hget_cons_self, hne, if_false]
  cases resolve (sV2Slash ++ q.r.repo ++ sUploadsSlash ++ B64Url.encode id) with
  | none => simp
  | some u =>
    simp [chunkSizeFromResponse, parseRangeB_rangeStringB hs0 hsmax, ownChunk, show atoi [] = none from by decide]

/-- **Upload chunk** (PATCH from `flush`): the writer's next location is the server's, resolved. -/
theorem uploadChunk_round_trip (H : Bytes → Bytes) (resolve : Bytes → Option Bytes) (o : SrvOpts) (q : SrvReq)
    {id : Bytes} (size chunk : Int) (hk : q.r.kind = .blobUploadChunk)
    (hR : isRepo q.r.repo = true) (hid : id ≠ []) (hu : B64Url.validUTF8 id = true) :
    ∃ r loc, locationForUploadID q.r.repo id = some loc ∧
      serverResp H o q (.writer id size chunk) = .resp r ∧
      hget r.hdr hRange = rangeStringB 0 size ∧
      clientDecode H resolve .flushPatch [r] =
        match resolve loc with
        | some u => .writer u 0 0
        | none => .err (.wrapped .badLocation) := by
  have hloc := locationForUploadID_valid hR hid hu
  have hne : sV2Slash ++ q.r.repo ++ sUploadsSlash ++ B64Url.encode id ≠ [] := by simp [sV2Slash_eq]
  refine ⟨_, _, hloc, by simp only [serverResp, hk, handleBlobUploadChunk, hloc]; rfl, by simp, ?_⟩
  simp only [clientDecode, clientFlush, gate, mkResp, locationFromResponse]
  simp only [hget_cons_self, hne, if_false]
  cases resolve (sV2Slash ++ q.r.repo ++ sUploadsSlash ++ B64Url.encode id) <;> simp

/-- **Completing an upload** (`Commit`). The descriptor is the client's own account — the digest it committed, the
bytes it counted, the default media type — the backend's is not read; but the answer's `Location` must resolve. -/
theorem completeUpload_round_trip (H : Bytes → Bytes) (resolve : Bytes → Option Bytes) (o : SrvOpts) (q : SrvReq)
    (id : Bytes) (d : Desc) (size : Int) (dg : Bytes) (hk : q.r.kind = .blobCompleteUpload) :
    ∃ r, serverResp H o q (.commit id d) = .resp r ∧
      hget r.hdr hDigest = d.digest ∧
      clientDecode H resolve (.commit size dg) [r] =
        match resolve (sV2Slash ++ q.r.repo ++ strBytes "/blobs/" ++ d.digest) with
        | some _ => .desc { mediaType := octetStream, digest := dg, size := size }
        | none => .err (.wrapped .badLocation) := by
  have hne : sV2Slash ++ q.r.repo ++ strBytes "/blobs/" ++ d.digest ≠ [] := by simp [sV2Slash_eq]
  refine ⟨_, by simp only [serverResp, hk, handleBlobCompleteUpload]; rfl, by simp [locationHeaders], ?_⟩
  simp only [clientDecode, clientCommit, clientFlush, gate, mkResp, locationFromResponse, locationHeaders]
  simp only [hget_cons_self, hne, if_false]
  cases resolve (sV2Slash ++ q.r.repo ++ strBytes "/blobs/" ++ d.digest) <;> simp

/-- **Monolithic push** (`PushBlob`: POST, then PUT to the location). The descriptor returned is the caller's,
unchanged; the PUT reaches the upload the backend named (`location_round_trip`). -/
theorem pushBlob_round_trip (H : Bytes → Bytes) (resolve : Bytes → Option Bytes) (o : SrvOpts) (q q2 : SrvReq)
    {id : Bytes} (size chunk : Int) (d own : Desc) (hk : q.r.kind = .blobStartUpload) (hk2 : q2.r.kind = .blobCompleteUpload)
    (hR : isRepo q.r.repo = true) (hid : id ≠ []) (hu : B64Url.validUTF8 id = true)
    (hres : (resolve (sV2Slash ++ q.r.repo ++ sUploadsSlash ++ B64Url.encode id)).isSome = true) :
    ∃ r1 r2, serverResp H o q (.writer id size chunk) = .resp r1 ∧ serverResp H o q2 (.commit id d) = .resp r2 ∧
      clientDecode H resolve (.pushBlob own) [r1, r2] = .desc own := by
  have hloc := locationForUploadID_valid hR hid hu
  have hne : sV2Slash ++ q.r.repo ++ sUploadsSlash ++ B64Url.encode id ≠ [] := by simp [sV2Slash_eq]
  refine ⟨_, _, by simp only [serverResp, hk, handleBlobStartUpload, hloc]; rfl,
    by simp only [serverResp, hk2, handleBlobCompleteUpload]; rfl, ?_⟩
  obtain ⟨u, hu'⟩ := Option.isSome_iff_exists.mp hres
  simp only [clientDecode, clientPushBlob, gate, mkResp, locationFromResponse, List.head?]
  simp only [hget_cons_self, hne, if_false, hu']
  simp


/-! ### Lists -/

/-- **One page of a tags listing.** The items the client yields are the first `n` of what the backend's iterator
produced (all of them when `n ≤ 0` … here `n > 0`), for every decoder that inverts the encoder. -/
theorem tagsList_page_round_trip (H : Bytes → Bytes) (o : SrvOpts) (dec : Bytes → Option (List Bytes)) (urlOK : Bytes → Bool)
    (q : SrvReq) (items : List Bytes) (hk : q.r.kind = .tagsList) (hn : 0 < q.r.listN)
    (hpage : ¬ (o.maxListPageSize > 0 ∧ q.r.listN > o.maxListPageSize))
    (hdec : ∀ repo l, dec (encTags repo l) = some l) (h62 : (62 : UInt8) ∉ q.path) :
    ∃ r next, serverResp H o q (.items items) = .resp r ∧
      r.body = encTags q.r.repo (items.take q.r.listN.toNat) ∧
      clientListPage dec urlOK q.r.listN r = .ok (items.take q.r.listN.toNat, next) ∧
      (next = none ↔ items.length < q.r.listN.toNat) := by
  refine ⟨_, _, serverResp_tagsList H o hk hn hpage items, rfl, clientListPage_listResp dec urlOK o q _ _ _ _ (hdec _ _) h62, ?_⟩
  rw [List.length_take]
  constructor
  · intro h
    split at h
    · omega
    · exfalso
      rename_i hge
      obtain ⟨l, hl⟩ := take_getLast? (A := items) (n := q.r.listN.toNat) (by omega) (by omega)
      rw [hl] at h
      simp only at h
      split at h
      · split at h <;> cases h
      · cases h
  · intro h
    rw [if_pos (by omega)]

theorem paging_round_trip_tags (H : Bytes → Bytes) (o : SrvOpts) (dec : Bytes → Option (List Bytes)) {n : Int}
    (hn : 0 < n) (hmax : n ≤ maxI64) (L : List Bytes) (hL : StrictAsc L) (hne : [] ∉ L)
    {R : Bytes} (hR : isRepo R = true) (hdec : ∀ repo l, dec (encTags repo l) = some l)
    (hpage : ¬ (o.maxListPageSize > 0 ∧ n > o.maxListPageSize)) (start : Bytes) :
    rtList H o dec n L (L.length + 1)
        { r := { kind := .tagsList, repo := R, listN := n, listLast := start },
          path := (construct B64Url.encode { kind := .tagsList, repo := R, listN := n, listLast := start }).2.1,
          query := (construct B64Url.encode { kind := .tagsList, repo := R, listN := n, listLast := start }).2.2 }
      = (after L (startOpt start), none) := by
  have hLp := (strictAsc_iff_pairwise L).mp hL
  refine rtList_generic H o dec hn L hLp hne .tagsList R (tagsPath R) (encTags R) (hdec R) hpage
    (tagsPath_no hR (by decide)) (tagsPath_no hR (by decide)) ?_ ?_ _ _ rfl rfl rfl rfl ?_ ?_
  · intro q hk hq items
    simp only [serverResp, hk, handleTagsList, hq]
    cases nextListResults o q.r.listN items with
    | error e => rfl
    | ok pt => rfl
  · intro qs last hq
    exact classifyTarget_tagsLink hR (by omega) hmax hq last
  · exact queryOK_listQuery { kind := .tagsList, repo := R, listN := n, listLast := start } (by show 0 ≤ n; omega)
  · exact Nat.lt_succ_of_le (after_sublist L _).length_le

theorem paging_round_trip_catalog (H : Bytes → Bytes) (o : SrvOpts) (dec : Bytes → Option (List Bytes)) {n : Int}
    (hn : 0 < n) (hmax : n ≤ maxI64) (L : List Bytes) (hL : StrictAsc L) (hne : [] ∉ L)
    (hdec : ∀ l, dec (encCatalog l) = some l)
    (hpage : ¬ (o.maxListPageSize > 0 ∧ n > o.maxListPageSize)) (start : Bytes) :
    rtList H o dec n L (L.length + 1)
        { r := { kind := .catalogList, listN := n, listLast := start },
          path := (construct B64Url.encode { kind := .catalogList, listN := n, listLast := start }).2.1,
          query := (construct B64Url.encode { kind := .catalogList, listN := n, listLast := start }).2.2 }
      = (after L (startOpt start), none) := by
  have hLp := (strictAsc_iff_pairwise L).mp hL
  refine rtList_generic H o dec hn L hLp hne .catalogList [] catalogPath encCatalog hdec hpage
    (catalogPath_no (by decide)) (catalogPath_no (by decide)) ?_ ?_ _ _ rfl rfl rfl rfl ?_ ?_
  · intro q hk hq items
    simp only [serverResp, hk, handleCatalogList]
    cases nextListResults o q.r.listN items with
    | error e => rfl
    | ok pt => rfl
  · intro qs last hq
    exact classifyTarget_catalogLink (by omega) hmax hq last
  · exact queryOK_listQuery { kind := .catalogList, listN := n, listLast := start } (by show 0 ≤ n; omega)
  · exact Nat.lt_succ_of_le (after_sublist L _).length_le


/-- `paging_round_trip_tags` with the concrete decoder (no hypothesis left about JSON). -/
theorem paging_round_trip_tags_concrete (H : Bytes → Bytes) (o : SrvOpts) {n : Int}
    (hn : 0 < n) (hmax : n ≤ maxI64) (L : List Bytes) (hL : StrictAsc L) (hne : [] ∉ L)
    {R : Bytes} (hR : isRepo R = true) (hpage : ¬ (o.maxListPageSize > 0 ∧ n > o.maxListPageSize)) (start : Bytes) :
    rtList H o decTagsImage n L (L.length + 1)
        { r := { kind := .tagsList, repo := R, listN := n, listLast := start },
          path := (construct B64Url.encode { kind := .tagsList, repo := R, listN := n, listLast := start }).2.1,
          query := (construct B64Url.encode { kind := .tagsList, repo := R, listN := n, listLast := start }).2.2 }
      = (after L (startOpt start), none) :=
  paging_round_trip_tags H o decTagsImage hn hmax L hL hne hR json_tags_round_trip hpage start

/-- `paging_round_trip_catalog` with the concrete decoder. -/
theorem paging_round_trip_catalog_concrete (H : Bytes → Bytes) (o : SrvOpts) {n : Int}
    (hn : 0 < n) (hmax : n ≤ maxI64) (L : List Bytes) (hL : StrictAsc L) (hne : [] ∉ L)
    (hpage : ¬ (o.maxListPageSize > 0 ∧ n > o.maxListPageSize)) (start : Bytes) :
    rtList H o decCatalogImage n L (L.length + 1)
        { r := { kind := .catalogList, listN := n, listLast := start },
          path := (construct B64Url.encode { kind := .catalogList, listN := n, listLast := start }).2.1,
          query := (construct B64Url.encode { kind := .catalogList, listN := n, listLast := start }).2.2 }
      = (after L (startOpt start), none) :=
  paging_round_trip_catalog H o decCatalogImage hn hmax L hL hne json_catalog_round_trip hpage start

def exCatalogReq (n : Int) (start : Bytes) : SrvReq :=
  { r := { kind := .catalogList, listN := n, listLast := start },
    path := (construct B64Url.encode { kind := .catalogList, listN := n, listLast := start }).2.1,
    query := (construct B64Url.encode { kind := .catalogList, listN := n, listLast := start }).2.2 }

-- the hypotheses are satisfiable: names with `/`, page size 2, Links on; and with Links switched off
example : StrictAsc [[97], [97, 47, 98], [98]] ∧ ([] : Bytes) ∉ [[97], [97, 47, 98], [98]] := by decide +kernel
example : rtList id {} decCatalogImage 2 [[97], [97, 47, 98], [98]] 4 (exCatalogReq 2 []) =
    ([[97], [97, 47, 98], [98]], none) := by decide +kernel
example : rtList id { omitLink := true } decCatalogImage 1 [[97], [97, 47, 98], [98]] 4 (exCatalogReq 1 [97]) =
    ([[97, 47, 98], [98]], none) := by decide +kernel

/-- The hypothesis `[] ∉ L` is needed: `last=` (empty) means "from the beginning", so after a page that ends with
the empty name the same page is asked for again, for ever (here: until the fuel of the model runs out). -/
theorem paging_needs_nonempty_items :
    rtList id {} decCatalogImage 1 [[], [97]] 3 (exCatalogReq 1 []) = ([[], [], []], some .transport) := by
  decide +kernel

/-- **Referrers.** The index the handler marshals is what the client's decoder is handed: for every decoder that
inverts the encoder, the client yields the backend's descriptors. -/
theorem referrers_round_trip (H : Bytes → Bytes) (o : SrvOpts) (decIndex : Bytes → Option (List Desc)) (q : SrvReq)
    (ds : List Desc) (hk : q.r.kind = .referrersList) (ho : o.disableReferrers = false)
    (hdec : ∀ l, decIndex (encIndex l) = some l) :
    ∃ r, serverResp H o q (.descs ds) = .resp r ∧ hget r.hdr hContentType = mtImageIndex ∧
      clientReferrers decIndex r = .ok ds := by
  refine ⟨_, by simp only [serverResp, hk, handleReferrersList, ho]; rfl, by simp, ?_⟩
  simp [clientReferrers, hdec]

/-- **The link between this model and the abstract pager of C05/C18**: the answer of the tags handler, seen through
`listAnswer`, is the `Answer.page` the abstract server gives (`Pager.serverPage`), with a well-formed Link exactly
when the page was cut short and Links are not switched off. -/
theorem tagsList_refines_serverPage (H : Bytes → Bytes) (o : SrvOpts) (dec : Bytes → Option (List Bytes))
    (q : SrvReq) (L : List Bytes) (last : Option Bytes) (hk : q.r.kind = .tagsList) (hn : 0 < q.r.listN)
    (hpage : ¬ (o.maxListPageSize > 0 ∧ q.r.listN > o.maxListPageSize))
    (hdec : ∀ repo l, dec (encTags repo l) = some l) (h62 : (62 : UInt8) ∉ q.path) :
    ∃ r, serverResp H o q (.items (after L last)) = .resp r ∧
      listAnswer dec (fun _ => true) r =
        .page (serverPage L q.r.listN.toNat last).1
          (if (serverPage L q.r.listN.toNat last).2 && !o.omitLink && (serverPage L q.r.listN.toNat last).1 != []
           then some true else none) := by
  exact ⟨_, serverResp_tagsList H o hk hn hpage _, listAnswer_listResp dec o q _ _ _ (hdec _ _) h62⟩

end

/-! ## Part 2b — F31: a call BY DIGEST reports the digest that was asked for -/

/-- **The client reports the requested digest** (fix F31, client.go `descriptorFromResponse`). For every call that
names a digest — `GetBlob`, `GetBlobRange`, `GetManifest`, `ResolveBlob`, `ResolveManifest`, `MountBlob` — and EVERY
list of answers (any status, any `Docker-Content-Digest` header or none, any body): if the call succeeds, the
descriptor the caller holds (of the result, or of the reader) has exactly the digest that was asked for. For a
verified reader that is therefore the digest the bytes are checked against (`read_dishonest`): an answer whose
header matches other content is not believed. -/
theorem client_reports_requested_digest (H : Bytes → Bytes) (resolve : Bytes → Option Bytes) (c : Call) (dg : Bytes)
    (hc : c.requested = some dg) (hne : dg ≠ []) (rs : List Resp) (d : Desc)
    (h : clientDecode H resolve c rs = .desc d ∨ ∃ v b, clientDecode H resolve c rs = .reader d v b) :
    d.digest = dg := by
  apply clientDecode_requested H resolve c hc hne rs
  rcases h with h | ⟨v, b, h⟩ <;> rw [h] <;> rfl

-- not vacuous: an answer whose header names ANOTHER (valid) digest is accepted, and reported under the digest asked for
example : clientDecode id (fun _ => none) (.resolveBlob exDigest)
    [mkResp 200 [(hContentLength, itoa 5), (hDigest, exDigest2)]] =
      .desc { mediaType := octetStream, digest := exDigest, size := 5 } := by decide +kernel
example : (Call.getBlob exDigest).requested = some exDigest ∧ exDigest ≠ [] := ⟨rfl, by decide⟩

/-- The reader that `GetBlob` by digest returns does not end cleanly unless the bytes hash to the digest ASKED FOR: the
defect F31 (bytes that match the header but not the request were delivered with a clean end) is excluded. -/
theorem read_by_digest_checks_requested (H : Bytes → Bytes) (resolve : Bytes → Option Bytes) (dg : Bytes) (hne : dg ≠ [])
    (rs : List Resp) (d : Desc) (body content : Bytes) (h0 : 0 ≤ d.size)
    (h : clientDecode H resolve (.getBlob dg) rs = .reader d true body) (hbad : H content ≠ dg) :
    (readAll H d true [content]).clean = false := by
  have hd : d.digest = dg := client_reports_requested_digest H resolve _ dg rfl hne rs d (Or.inr ⟨_, _, h⟩)
  exact read_dishonest H d content h0 (Or.inr (by rw [hd]; exact hbad))

/-- A tag read is the other case: nothing was asked for, so the (validated) header is what is reported. -/
theorem tag_read_reports_header (r : Resp) (rs rd : Bool) (d : Desc) (h : descriptorFromResponse r [] rs rd = .ok d) :
    d.digest = hget r.hdr hDigest := by
  rw [(descriptorFromResponse_ok h).2.1, if_neg (by simp)]

/-! ## Part 3 — totality: no answer makes the client panic; the server panics only on an upload ID the request
codec cannot carry -/

/-- **clientDecode is total.** Lean functions are total by construction; the content of this theorem is that the
explicit `panic` outcome (`Digest.Algorithm().Hash()` in `newBlobReader`, client.go:189) is unreachable: for every
call whose digests were validated when the request was built, every list of answers — any statuses, headers,
lengths, bodies — yields a result or an error. `hH`: the client's own hashing yields a `sha256:` digest. -/
theorem clientDecode_never_panics (H : Bytes → Bytes) (hH : ∀ x, digestHashable (H x) = true)
    (resolve : Bytes → Option Bytes) (c : Call) (hc : c.digestsValid) (rs : List Resp) :
    clientDecode H resolve c rs ≠ .panic :=
  clientDecode_ne_panic_named H hH resolve c hc.named rs

example : ∀ x, digestHashable (sha256 ++ cColon :: x) = true := by
  intro x; simp [digestHashable, cutByte, sha256, cColon]
example : (Call.getBlob exDigest).digestsValid := by show isDigest exDigest = true; decide

/-- **F32: nor does the form of the caller's digest argument matter.** The case in point is
`GetManifest(repo, "latest")` — a tag-shaped string where a digest is meant, which request construction lets
through — answered without a digest header: hashing it would panic in `newBlobReader` (go-digest: no ':' separator).
The client checks the digest the caller names before it uses it (F32), so every list of answers yields a result or an
error for every call that names a digest at all. -/
theorem clientDecode_never_panics_whatever_the_digest (H : Bytes → Bytes) (hH : ∀ x, digestHashable (H x) = true)
    (resolve : Bytes → Option Bytes) (c : Call) (hc : c.digestsNamed) (rs : List Resp) :
    clientDecode H resolve c rs ≠ .panic :=
  clientDecode_ne_panic_named H hH resolve c hc rs

example : (Call.getManifest (strBytes "latest")).digestsNamed := by show strBytes "latest" ≠ []; decide

/-- `GetBlob` with the digest argument "nocolon", answered without a digest header: the ill-formed argument is
refused, not hashed. -/
theorem clientDecode_refuses_ill_formed_digest :
    clientDecode (fun _ => exDigest) (fun _ => none) (.getBlob (strBytes "nocolon"))
      [{ status := 200, contentLength := 0 }] = .err (.desc .badDigest) := by decide +kernel

/-- **The server panics only in `locationForUploadID`**: on an answer of the backend whose upload ID is empty or
not UTF-8 (`MustConstruct`). For valid repositories and IDs it never does (Part 2). -/
theorem serverResp_panics_only_on_bad_upload_id (H : Bytes → Bytes) (o : SrvOpts) (q : SrvReq) (b : BRes)
    (h : serverResp H o q b = .panic) :
    ∃ id size chunk, b = .writer id size chunk ∧ locationForUploadID q.r.repo id = none := by
  unfold serverResp at h
  split at h
  · cases h
  · exact absurd h (handleBlobGet_ne_panic _ _)
  · exact absurd h (handleBlobHead_ne_panic _)
  · exact absurd h (handleDelete_ne_panic _)
  · exact writerHandler_panic (.inl h)
  · exact handleBlobUploadBlob_panic h
  · exact absurd h (handleBlobMount_ne_panic _ _)
  · exact writerHandler_panic (.inr (.inl h))
  · exact writerHandler_panic (.inr (.inr h))
  · exact absurd h (handleBlobCompleteUpload_ne_panic _ _)
  · exact absurd h (handleManifestGet_ne_panic _ _)
  · exact absurd h (handleManifestHead_ne_panic _ _ _)
  · exact absurd h (handleManifestPut_ne_panic _ _ _)
  · exact absurd h (handleDelete_ne_panic _)
  · exact absurd h (handleTagsList_ne_panic _ _ _)
  · exact absurd h (handleReferrersList_ne_panic _ _)
  · exact absurd h (handleCatalogList_ne_panic _ _ _)

/-! ## Part 4 — an answer without a header the call cannot do without is refused, never defaulted -/

/-- **The status gate.** An answer is handed on only if its status is among the expected ones (200 when none are
named); anything else is an error — an `HTTPError` outside 2xx, "unexpected status" inside. -/
theorem unexpected_status_refused (ok : List Nat) (st : Nat) :
    gate ok st = none ↔ st ≠ 0 ∧ ((ok = [] ∧ st = 200) ∨ st ∈ ok) := by
  unfold gate
  by_cases h0 : st = 0
  · simp [h0]
  · by_cases h1 : (ok = [] ∧ st = 200) ∨ st ∈ ok
    · simp [h0, h1]
    · rw [if_neg h0, if_neg h1]
      constructor
      · intro h; split at h <;> cases h
      · intro h; exact absurd h.2 h1

/-- A 206 answer without `Content-Range` is refused: the blob's size is not guessed from `Content-Length`. -/
theorem partial_without_content_range_refused (r : Resp) (known : Bytes) (rd : Bool)
    (hst : r.status = 206) (h : hget r.hdr hContentRange = []) :
    descriptorFromResponse r known true rd = .error .noContentRange := by
  unfold descriptorFromResponse
  simp [hst, h]

/-- A 206 answer whose `Content-Range` has no `/`, or no number after it, is refused. -/
theorem partial_malformed_content_range_refused (r : Resp) (known : Bytes) (rd : Bool)
    (hst : r.status = 206) (hne : hget r.hdr hContentRange ≠ [])
    (h : cutLastSlash (hget r.hdr hContentRange) = none ∨
      ∃ a b, cutLastSlash (hget r.hdr hContentRange) = some (a, b) ∧ atoi b = none) :
    descriptorFromResponse r known true rd = .error .malformedContentRange := by
  unfold descriptorFromResponse
  rcases h with h | ⟨a, b, h, hb⟩
  · simp [hst, hne, h]
  · simp [hst, hne, h, hb]

/-- An answer of unknown length (no `Content-Length`) is refused wherever the size is part of the result. -/
theorem unknown_length_refused (r : Resp) (known : Bytes) (rd : Bool) (hst : r.status ≠ 206)
    (h : r.contentLength < 0) : descriptorFromResponse r known true rd = .error .unknownLength := by
  unfold descriptorFromResponse
  simp [hst, h]

/-- A digest header that is not a valid digest is refused — it never replaces the digest the caller asked for. -/
theorem bad_digest_refused (r : Resp) (known : Bytes) (rs rd : Bool)
    (hne : hget r.hdr hDigest ≠ []) (h : isDigest (hget r.hdr hDigest) = false) (d : Desc) :
    descriptorFromResponse r known rs rd ≠ .ok d := by
  intro e
  exact (descriptorFromResponse_ok e).1 ⟨hne, h⟩

/-- Without a digest header and without a digest in the request (a tag), a resolve is refused. -/
theorem missing_digest_refused (r : Resp) (rs : Bool) (h : hget r.hdr hDigest = []) (d : Desc) :
    descriptorFromResponse r [] rs true ≠ .ok d := by
  intro e
  obtain ⟨_, h2, h3, _⟩ := descriptorFromResponse_ok e
  rw [if_neg (by simp), h] at h2
  exact h3 ⟨rfl, h2⟩

/-- Call level: a ranged read answered 206 without `Content-Range` is an error for the caller. -/
theorem getBlobRange_without_content_range (H : Bytes → Bytes) (resolve : Bytes → Option Bytes) (dg : Bytes)
    {o0 o1 : Int} (hne : ¬ (o0 = 0 ∧ o1 < 0)) (r : Resp) (hst : r.status = 206) (h : hget r.hdr hContentRange = []) :
    clientDecode H resolve (.getBlobRange dg o0 o1) [r] = .err (.desc .noContentRange) := by
  simp [clientDecode, hne, clientGetBlobRange, gate, hst, partial_without_content_range_refused r dg false hst h]

/-- Call level: a resolve of a tag answered without digest is an error for the caller. -/
theorem resolveTag_without_digest (H : Bytes → Bytes) (resolve : Bytes → Option Bytes) (r : Resp)
    (h : hget r.hdr hDigest = []) : ∃ e, clientDecode H resolve .resolveTag [r] = .err e := by
  simp only [clientDecode, clientResolve]
  split
  · exact ⟨_, rfl⟩
  · split
    · exact ⟨_, rfl⟩
    · rename_i d hd
      exact absurd hd (missing_digest_refused r true h d)

/-- Call level: a read answered without length is an error for the caller. -/
theorem read_without_length (H : Bytes → Bytes) (resolve : Bytes → Option Bytes) (dg : Bytes) (r : Resp)
    (hst : r.status = 200) (h : r.contentLength < 0) :
    clientDecode H resolve (.getBlob dg) [r] = .err (.desc .unknownLength) := by
  simp [clientDecode, clientRead, gate, hst, unknown_length_refused r dg false (by omega) h]

/-- **Location.** Every answer that must name where the upload continues is refused when it does not: the start of
an upload, the answer to a PATCH, the answer to the final PUT, the upload-info answer. -/
theorem upload_without_location_refused (H : Bytes → Bytes) (resolve : Bytes → Option Bytes) (r : Resp)
    (h : hget r.hdr hLocation = []) :
    (∀ cs, ∃ e, clientDecode H resolve (.pushBlobChunked cs) [r] = .err e) ∧
    (∀ cs, ∃ e, clientDecode H resolve (.resumeAsk cs) [r] = .err e) ∧
    (∃ e, clientDecode H resolve .flushPatch [r] = .err e) ∧
    (∀ size dg, ∃ e, clientDecode H resolve (.commit size dg) [r] = .err e) ∧
    (∀ own r2, ∃ e, clientDecode H resolve (.pushBlob own) [r, r2] = .err e) := by
  have hl : locationFromResponse resolve r = .error .noLocation := by
    unfold locationFromResponse; simp [h]
  refine ⟨fun cs => ?_, fun cs => ?_, ?_, fun size dg => ?_, fun own r2 => ?_⟩
  · simp only [clientDecode, clientPushBlobChunked, hl]
    split <;> exact ⟨_, rfl⟩
  · simp only [clientDecode, clientResumeAsk, hl]
    split <;> exact ⟨_, rfl⟩
  · obtain ⟨e, he⟩ := clientFlush_noLocation resolve false r h
    exact ⟨e, by simp only [clientDecode, he]⟩
  · obtain ⟨e, he⟩ := clientFlush_noLocation resolve true r h
    exact ⟨e, by simp only [clientDecode, clientCommit, he]⟩
  · simp only [clientDecode, clientPushBlob, hl]
    split <;> exact ⟨_, rfl⟩

/-- **Range (upload info).** Without a `Range` header — or with one that is not two numbers, or does not start at
0 — the offset is not guessed. -/
theorem resume_without_range_refused (H : Bytes → Bytes) (resolve : Bytes → Option Bytes) (cs : Int) (r : Resp)
    (h : parseRangeB (hget r.hdr hRange) = none ∨ ∃ p0 p1, parseRangeB (hget r.hdr hRange) = some (p0, p1) ∧ p0 ≠ 0) :
    ∃ e, clientDecode H resolve (.resumeAsk cs) [r] = .err e := by
  simp only [clientDecode, clientResumeAsk]
  split
  · exact ⟨_, rfl⟩
  · split
    · exact ⟨_, rfl⟩
    · rcases h with h | ⟨p0, p1, h, hp⟩
      · rw [h]; exact ⟨_, rfl⟩
      · rw [h]; simp only [hp, if_true, ne_eq, not_false_eq_true]; exact ⟨_, rfl⟩

example : parseRangeB [] = none := by decide +kernel
example : parseRangeB (strBytes "5-9") = some (5, 10) := by decide +kernel


/-! ## Part 5 — the model has the shape of the source (facts regenerated from the Go text on every run)

`Generated/RespFacts.lean` lists, for every server handler, the header names it passes to `resp.Header().Set` and
the statuses it writes, and for every client function the expected statuses it passes to `do`/`doRequest` and the
`require` flags it passes to `descriptorFromResponse`. The obligations below compare that table with the one the
model mirrors (`expectedHandlers`, `expectedClientCalls`), and the model with the table. -/

def expectedHandlers : List (String × List String × List Nat × Nat) := [
  ("handleBlobCompleteUpload", [], [201], 1),
  ("handleBlobDelete", [], [202], 0),
  ("handleBlobGet", ["Content-Type", "Content-Length", "Docker-Content-Digest",
                     "Content-Type", "Content-Length", "Docker-Content-Digest", "Content-Range"], [200, 206], 0),
  ("handleBlobHead", ["Content-Length", "Docker-Content-Digest", "Accept-Ranges"], [200], 0),
  ("handleBlobMount", [], [201], 1),
  ("handleBlobStartUpload", ["Location", "Range", "OCI-Chunk-Min-Length"], [202], 0),
  ("handleBlobUploadBlob", [], [201], 1),
  ("handleBlobUploadChunk", ["Location", "Range"], [202], 0),
  ("handleBlobUploadInfo", ["Location", "Range"], [204], 0),
  ("handleCatalogList", ["Link", "Content-Length"], [200], 0),
  ("handleManifestDelete", [], [202], 0),
  ("handleManifestGet", ["Docker-Content-Digest", "Content-Type", "Content-Length"], [200], 0),
  ("handleManifestHead", ["Docker-Content-Digest", "Content-Type", "Content-Length"], [200], 0),
  ("handleManifestPut", ["OCI-Subject"], [201], 1),
  ("handlePing", ["Docker-Distribution-API-Version"], [], 0),
  ("handleReferrersList", ["Content-Length", "Content-Type"], [200], 0),
  ("handleTagsList", ["Link", "Content-Length"], [200], 0),
  ("setLocationHeader", ["Location", "Docker-Content-Digest"], [], 0)]

def expectedClientCalls : List (String × List (List String) × List String) := [
  ("GetBlobRange", [["200", "206"]], ["requireSize"]),
  ("MountBlob", [["201", "202"]], ["requireDigest"]),
  ("PushBlob", [["202"], ["201"]], []),
  ("PushBlobChunked", [["202"]], []),
  ("PushBlobChunkedResume", [["204"]], []),
  ("PushManifest", [["201"]], []),
  ("Referrers", [[]], []),
  ("delete", [["202"]], []),
  ("doRequest", [["okStatuses"]], []),
  ("flush", [["expect"]], []),
  ("pager", [[]], []),
  ("read", [[], []], ["requireSize", "requireSize | requireDigest"]),
  ("resolve", [[]], ["requireSize | requireDigest"])]

/-- **The server's handlers set the headers and write the statuses the model mirrors.** -/
theorem server_handler_facts :
    Generated.RespFacts.shapeKnown = true ∧ Generated.RespFacts.serverHandlers = expectedHandlers := by decide +kernel

/-- **The client's functions expect the statuses and require the fields the model mirrors.** -/
theorem client_call_facts :
    Generated.RespFacts.clientCalls = expectedClientCalls ∧
    Generated.RespFacts.clientAssignedStatuses = [("flush", "expect", [202, 201])] := by decide +kernel

/-- **Constants**: the in-memory threshold, the default chunk size, the default page sizes. -/
theorem constant_facts :
    Generated.RespFacts.inMemThreshold = RespCodec.inMemThreshold ∧
    Generated.RespFacts.defaultChunkSize = RespCodec.defaultChunkSize ∧
    Generated.RespFacts.maxPageSize = 10000 ∧
    Generated.RespFacts.defaultListPageSize = 1000 ∧ Pager.effectivePageSize 0 = 1000 := by decide

/-- `textproto.CanonicalMIMEHeaderKey` on the names the source uses -/
def canon (name : String) : Bytes :=
  if name = "OCI-Subject" then hSubject
  else if name = "OCI-Chunk-Min-Length" then hChunkMin
  else if name = "Docker-Distribution-API-Version" then hAPIVersion
  else strBytes name

def headersOf (handler : String) : List Bytes :=
  match expectedHandlers.lookup handler with
  | some (hs, _, _) => hs.map canon
  | none => []

def statusesOf (handler : String) : List Nat :=
  match expectedHandlers.lookup handler with
  | some (_, sts, _) => sts
  | none => []

def keys (o : SOut) : List Bytes := match o with | .resp r => r.hdr.map (·.1) | _ => []
def statusOf (o : SOut) : List Nat := match o with | .resp r => [r.status] | _ => []

/-- **The model's handlers set exactly those headers and statuses**, for every backend answer (the header VALUES
are what Parts 1–2 are about). -/
theorem model_matches_source (H : Bytes → Bytes) (q : SrvReq) (d : Desc) (c : Bytes) (ds : List Desc) :
    keys (handleBlobHead (.desc d)) = headersOf "handleBlobHead" ∧
    statusOf (handleBlobHead (.desc d)) = statusesOf "handleBlobHead" ∧
    keys (handleManifestGet {} (.reader d c)) = headersOf "handleManifestGet" ∧
    statusOf (handleManifestGet {} (.reader d c)) = statusesOf "handleManifestGet" ∧
    keys (handleManifestHead {} q (.desc d)) = headersOf "handleManifestHead" ∧
    statusOf (handleManifestHead {} q (.desc d)) = statusesOf "handleManifestHead" ∧
    keys (handleBlobMount q (.desc d)) = headersOf "setLocationHeader" ∧
    statusOf (handleBlobMount q (.desc d)) = statusesOf "handleBlobMount" ∧
    keys (handleBlobCompleteUpload q (.commit c d)) = headersOf "setLocationHeader" ∧
    statusOf (handleBlobCompleteUpload q (.commit c d)) = statusesOf "handleBlobCompleteUpload" ∧
    keys (handleBlobUploadBlob {} q (.desc d)) = headersOf "setLocationHeader" ∧
    statusOf (handleBlobUploadBlob {} q (.desc d)) = statusesOf "handleBlobUploadBlob" ∧
    statusOf (handleDelete .unit) = statusesOf "handleBlobDelete" ∧
    statusOf (handleDelete .unit) = statusesOf "handleManifestDelete" ∧
    keys (handleReferrersList {} (.descs ds)) = headersOf "handleReferrersList" ∧
    statusOf (handleReferrersList {} (.descs ds)) = statusesOf "handleReferrersList" ∧
    keys (serverResp H {} { q with r := { kind := .ping } } .unit) = headersOf "handlePing" := by
  have T : headersOf "handleBlobHead" = [hContentLength, hDigest, hAcceptRanges] ∧
      headersOf "handleManifestGet" = [hDigest, hContentType, hContentLength] ∧
      headersOf "handleManifestHead" = [hDigest, hContentType, hContentLength] ∧
      headersOf "setLocationHeader" = [hLocation, hDigest] ∧
      headersOf "handleReferrersList" = [hContentLength, hContentType] ∧
      headersOf "handlePing" = [hAPIVersion] ∧
      statusesOf "handleBlobHead" = [200] ∧ statusesOf "handleManifestGet" = [200] ∧
      statusesOf "handleManifestHead" = [200] ∧ statusesOf "handleBlobMount" = [201] ∧
      statusesOf "handleBlobCompleteUpload" = [201] ∧ statusesOf "handleBlobUploadBlob" = [201] ∧
      statusesOf "handleBlobDelete" = [202] ∧ statusesOf "handleManifestDelete" = [202] ∧
      statusesOf "handleReferrersList" = [200] := by decide +kernel
  obtain ⟨t1, t2, t3, t4, t5, t6, s1, s2, s3, s4, s5, s6, s7, s8, s9⟩ := T
  rw [t1, t2, t3, t4, t5, t6, s1, s2, s3, s4, s5, s6, s7, s8, s9]
  exact ⟨rfl, rfl, rfl, rfl, rfl, rfl, rfl, rfl, rfl, rfl, rfl, rfl, rfl, rfl, rfl, rfl, rfl⟩

/-- The model's client functions pass exactly the expected statuses of `expectedClientCalls` to the gate: each is
the model function with the list from the table. -/
theorem model_client_matches_source (r : Resp) (known : Bytes) (own : Desc) :
    clientDelete r = (match gate [202] r.status with | some e => .err e | none => .unit) ∧
    clientPushManifest own r = (match gate [201] r.status with | some e => .err e | none => .desc own) ∧
    (gate [201, 202] r.status = none → clientMount known r =
      if r.status = 202 then .err .mountUnsupported
      else match descriptorFromResponse r known false true with | .error e => .err (.desc e) | .ok d => .desc d) ∧
    (gate [200, 206] r.status = none → clientGetBlobRange known r =
      match descriptorFromResponse r known true false with | .error e => .err (.desc e) | .ok d => newBlobReader d false r.body) ∧
    (gate [] r.status = none → clientResolve known r =
      match descriptorFromResponse r known true true with | .error e => .err (.desc e) | .ok d => .desc d) := by
  refine ⟨rfl, rfl, ?_, ?_, ?_⟩
  · intro h; simp only [clientMount, h]; rfl
  · intro h; simp only [clientGetBlobRange, h]; rfl
  · intro h; simp only [clientResolve, h]; rfl

end OciModel.Props.C03R
