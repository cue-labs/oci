/-
C01 (client reader part) — a read through the HTTP client of content that does not match its
descriptor ends in an error, never in a clean end-of-stream. For every chunking of the body.
-/
import OciModel.BlobReader

namespace OciModel.Props.C01b
open OciModel OciModel.BlobReader

theorem readAll_relayed_prefix (H : Bytes → Bytes) (v : Bool) (size : Nat) (d acc : Bytes) (cs : List Bytes) :
    ∃ k, (readAll H v size d acc cs).relayed = acc ++ (cs.take k).flatten := by
  induction cs generalizing acc with
  | nil => exact ⟨0, by unfold readAll; split <;> (try split) <;> (try split) <;> simp [Res.relayed]⟩
  | cons c rest ih =>
    unfold readAll
    split
    · exact ⟨1, by simp [Res.relayed]⟩
    · obtain ⟨k, hk⟩ := ih (acc ++ c)
      exact ⟨k + 1, by simp [hk, List.append_assoc]⟩

/-- **Sound.** A verifying reader ends cleanly only if what it relayed is the whole body, has
exactly the descriptor's size and hashes to the descriptor's digest. -/
theorem blobReader_sound (H : Bytes → Bytes) (size : Nat) (d acc : Bytes) (cs : List Bytes)
    (h : (readAll H true size d acc cs).clean = true) :
    readAll H true size d acc cs = .eof (acc ++ cs.flatten) ∧
      (acc ++ cs.flatten).length = size ∧ H (acc ++ cs.flatten) = d := by
  induction cs generalizing acc with
  | nil =>
    unfold readAll at h ⊢
    by_cases h1 : acc.length = size
    · by_cases h2 : H acc = d
      · simp [h1, h2]
      · simp [h1, h2, Res.clean] at h
    · simp [h1, Res.clean] at h
  | cons c rest ih =>
    unfold readAll at h ⊢
    split at h
    · simp [Res.clean] at h
    · rename_i hle
      have := ih (acc ++ c) h
      simp only [hle, ↓reduceIte]
      simpa [List.append_assoc] using this

/-- **Complete.** Content that does match is delivered cleanly, whatever the chunking. -/
theorem blobReader_complete (H : Bytes → Bytes) (v : Bool) (size : Nat) (d acc : Bytes) (cs : List Bytes)
    (hs : (acc ++ cs.flatten).length = size) (hd : H (acc ++ cs.flatten) = d) :
    readAll H v size d acc cs = .eof (acc ++ cs.flatten) := by
  induction cs generalizing acc with
  | nil => unfold readAll; simp at hs hd; simp [hs, hd]
  | cons c rest ih =>
    unfold readAll
    have hle : ¬ (acc ++ c).length > size := by
      simp only [List.flatten_cons, List.length_append] at hs ⊢; omega
    simp only [hle, ↓reduceIte]
    have := ih (acc ++ c) (by simpa [List.append_assoc] using hs) (by simpa [List.append_assoc] using hd)
    simpa [List.append_assoc] using this

/-- **Never a clean end on a mismatch** (the property's sentence): too short, too long or wrong
bytes all end in an error. -/
theorem mismatch_never_clean (H : Bytes → Bytes) (size : Nat) (d : Bytes) (cs : List Bytes)
    (hm : cs.flatten.length ≠ size ∨ H cs.flatten ≠ d) :
    (readAll H true size d [] cs).clean = false := by
  cases hc : (readAll H true size d [] cs).clean with
  | false => rfl
  | true =>
    have := blobReader_sound H size d [] cs hc
    simp only [List.nil_append] at this
    rcases hm with hm | hm
    · exact absurd this.2.1 hm
    · exact absurd this.2.2 hm

theorem too_long_aux (H : Bytes → Bytes) (v : Bool) (size : Nat) (d : Bytes) (cs : List Bytes) :
    ∀ acc : Bytes, (acc ++ cs.flatten).length > size → acc.length ≤ size →
      (readAll H v size d acc cs).clean = false := by
  induction cs with
  | nil => intro acc h1 h2; simp at h1; omega
  | cons c rest ih =>
    intro acc h1 h2
    unfold readAll
    split
    · rfl
    · rename_i hle
      exact ih (acc ++ c) (by simpa [List.append_assoc] using h1) (by omega)

/-- Over-long content is detected at the first read that crosses the size, verifying or not. -/
theorem too_long_detected (H : Bytes → Bytes) (v : Bool) (size : Nat) (d : Bytes) (cs : List Bytes)
    (hl : cs.flatten.length > size) : (readAll H v size d [] cs).clean = false :=
  too_long_aux H v size d cs [] (by simpa using hl) (by simp)

/-- **What is read by digest hashes to the digest that was asked for** (fix F31): whatever
`Docker-Content-Digest` header the response carries — none, the right one, or one that matches a different
body the registry chose to send — a read that names a digest and ends cleanly has relayed the whole body,
and that body hashes to the requested digest. -/
theorem requested_digest_verified (H : Bytes → Bytes) (size : Nat) (asked hdr : Bytes) (cs : List Bytes)
    (ha : asked ≠ []) (h : (readAll H true size (descDigest asked hdr) [] cs).clean = true) :
    readAll H true size (descDigest asked hdr) [] cs = .eof cs.flatten ∧ H cs.flatten = asked := by
  have := blobReader_sound H size (descDigest asked hdr) [] cs h
  simp only [List.nil_append, descDigest, ha, ne_eq, not_false_eq_true, ↓reduceIte] at this
  exact ⟨by simpa [descDigest, ha] using this.1, this.2.2⟩

/-- Through a tag the caller names no digest: the header's digest is what the content is checked against. -/
theorem tag_read_checks_header (H : Bytes → Bytes) (size : Nat) (hdr : Bytes) (cs : List Bytes)
    (h : (readAll H true size (descDigest [] hdr) [] cs).clean = true) : H cs.flatten = hdr := by
  have := blobReader_sound H size (descDigest [] hdr) [] cs h
  simpa [descDigest] using this.2.2

example : (readAll (fun b => b) true 1 (descDigest [7] [9]) [] [[9]]).clean = false := by decide +kernel
example : readAll (fun b => b) true 1 (descDigest [7] [9]) [] [[7]] = .eof [7] := by decide +kernel

example : readAll (fun b => b) true 3 [1, 2, 3] [] [[1], [2, 3]] = .eof [1, 2, 3] := by decide +kernel
example : (readAll (fun b => b) true 3 [1, 2, 3] [] [[1], [2]]).clean = false := by decide +kernel
example : (readAll (fun b => b) true 3 [1, 2, 3] [] [[1, 2], [3, 4]]).clean = false := by decide +kernel
example : (readAll (fun b => b) true 3 [1, 2, 3] [] [[3, 2, 1]]).clean = false := by decide +kernel

end OciModel.Props.C01b
