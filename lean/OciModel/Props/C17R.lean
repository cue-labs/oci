/-
C17R — ociref's hand-written recognisers (`OciModel/Ref.lean`) accept exactly the languages of
the regular expressions regenerated from ociref/reference.go (`Generated/RefRe.lean`).
Only property statements live here; every proof assembles lemmas from
`OciModel/RegexLemmas.lean` and `OciModel/RefReLemmas.lean`.
-/
import OciModel.Ref
import OciModel.Regex
import OciModel.RegexLemmas
import OciModel.RefReLemmas
import OciModel.Generated.RefRe
namespace OciModel.Props.C17R
open OciModel.Regex OciModel.Ref OciModel.Generated.RefRe

/-! ### The derivative matcher decides the language -/

theorem matcher_correct (r : Re) (s : Bytes) : r.matches s = true ↔ lang r s :=
  matches_iff_lang r s

/-! ### `isRepo` is `repoPat` -/

theorem isRepo_iff_repoPat (s : Bytes) : Ref.isRepo s = true ↔ lang Generated.RefRe.repoPatRe s :=
  RefRe.isRepo_iff s

/-- Both sides are inhabited: `a/b-c` is a repository, `a//b` is not. -/
example : Ref.isRepo [97, 47, 98, 45, 99] = true ∧ lang repoPatRe [97, 47, 98, 45, 99] := by decide +kernel
example : Ref.isRepo [97, 47, 47, 98] = false ∧ ¬ lang repoPatRe [97, 47, 47, 98] := by decide +kernel

/-! ### `isHost` is `hostPat` -/

theorem isHost_iff_hostPat (s : Bytes) : Ref.isHost s = true ↔ lang Generated.RefRe.hostPatRe s :=
  RefRe.isHost_iff s

/-- `foo.com:5000` -/
def exHost : Bytes := [102, 111, 111, 46, 99, 111, 109, 58, 53, 48, 48, 48]
/-- `[::1]:80` -/
def exHost6 : Bytes := [91, 58, 58, 49, 93, 58, 56, 48]
/-- Both sides are inhabited: `foo.com:5000` and `[::1]:80` are hosts, `foo` (no dot, no port)
is not. -/
example : Ref.isHost exHost = true ∧ lang hostPatRe exHost := by decide +kernel
example : Ref.isHost exHost6 = true ∧ lang hostPatRe exHost6 := by decide +kernel
example : Ref.isHost [102, 111, 111] = false ∧ ¬ lang hostPatRe [102, 111, 111] := by decide +kernel

/-! ### `referencePat` is built from `hostPat` and `repoPat` -/

/-- `(?:(hostPat)/)?(repoPat)(?::([^@]+))?(?:@(.+))?` — the host and repository groups are
literally the other two regenerated trees. -/
theorem referencePat_structure : referencePatRe =
    .cat (.opt (.cat (.grp 1 hostPatRe) (.cls [(47, 47)])))
      (.cat (.grp 2 repoPatRe)
        (.cat (.opt (.cat (.cls [(58, 58)]) (.grp 3 (.plus (.cls [(0, 63), (65, 255)])))))
          (.opt (.cat (.cls [(64, 64)]) (.grp 4 (.plus (.cls [(0, 9), (11, 255)]))))))) :=
  rfl

/-! ### `matchRef` succeeds exactly on the language of `referencePat` -/

theorem matchRef_isSome_iff_referencePat (s : Bytes) :
    (Ref.matchRef s).isSome = true ↔ lang Generated.RefRe.referencePatRe s :=
  RefRe.matchRef_isSome_iff s

/-- `foo.com:5000/a/b-c:v1@x` -/
def exRefStr : Bytes :=
  exHost ++ [47, 97, 47, 98, 45, 99, 58, 118, 49, 64, 120]
def exRef : Reference := ⟨exHost, [97, 47, 98, 45, 99], [118, 49], [120]⟩
/-- Both sides are inhabited: a full reference matches; `a:` (empty tag) and `A` do not. -/
example : (Ref.matchRef exRefStr).isSome = true ∧ lang referencePatRe exRefStr := by decide +kernel
example : (Ref.matchRef [97, 58]).isSome = false ∧ ¬ lang referencePatRe [97, 58] := by decide +kernel
example : (Ref.matchRef [65]).isSome = false ∧ ¬ lang referencePatRe [65] := by decide +kernel

/-! ### The fields `matchRef` returns are a decomposition along the pattern's groups

Which decomposition leftmost-first matching picks when several exist is a statement about Go's
matching *priorities*, not about the language: `lang` has no priorities. For this pattern the
only freedom is the greedy optional host (`foo.com/bar` is both host `foo.com` + repository
`bar`, and the repository `foo.com/bar`); `matchRef_prefers_host` below proves that the model
takes the host whenever that is possible, which is what greedy `(?:(host)/)?` means. That Go's
`regexp` implements that priority rule stays tied by differential testing (C17 oracle). -/

theorem matchRef_groups (s : Bytes) (r : Reference) (h : Ref.matchRef s = some r) :
    s = (if r.host ≠ [] then r.host ++ [47] else []) ++ r.repo ++
          (if r.tag ≠ [] then 58 :: r.tag else []) ++
          (if r.digest ≠ [] then 64 :: r.digest else []) ∧
    (r.host = [] ∨ lang hostPatRe r.host) ∧
    lang repoPatRe r.repo ∧
    (r.tag = [] ∨ lang (.plus (.cls [(0, 63), (65, 255)])) r.tag) ∧
    (r.digest = [] ∨ lang (.plus (.cls [(0, 9), (11, 255)])) r.digest) :=
  let ⟨hp, hh, hr, ht, hd⟩ := RefRe.matchRef_groups h
  ⟨hp.symm, hh, hr, ht, hd⟩

/-- The hypothesis is satisfiable with every group present. -/
example : Ref.matchRef exRefStr = some exRef := by decide +kernel
example : exRef.host ≠ [] ∧ exRef.tag ≠ [] ∧ exRef.digest ≠ [] := by decide +kernel

/-- The priority rule of the greedy optional host: if the string can be split as
`host "/" rest` with `host` in `hostPat` and `rest` in the remainder of `referencePat`, then the
host `matchRef` reports is that `host` (in particular it is non-empty) — even when the whole
string would also match without a host. -/
theorem matchRef_prefers_host (s : Bytes) (r : Reference) (hst rest : Bytes)
    (h : Ref.matchRef s = some r) (hs : s = hst ++ 47 :: rest) (hh : lang hostPatRe hst)
    (hrest : lang
      (.cat (.grp 2 repoPatRe)
        (.cat (.opt (.cat (.cls [(58, 58)]) (.grp 3 (.plus (.cls [(0, 63), (65, 255)])))))
          (.opt (.cat (.cls [(64, 64)]) (.grp 4 (.plus (.cls [(0, 9), (11, 255)])))))))
      rest) :
    r.host = hst ∧ r.host ≠ [] :=
  RefRe.matchRef_prefers_host h hs hh hrest

/-- `foo.com/bar` -/
def exAmbiguous : Bytes := [102, 111, 111, 46, 99, 111, 109, 47, 98, 97, 114]
/-- The hypotheses are satisfiable on a genuinely ambiguous string: `foo.com/bar` splits as host
`foo.com` and repository `bar`, and is also a repository as a whole; `matchRef` reports the
host. -/
example : exAmbiguous = [102, 111, 111, 46, 99, 111, 109] ++ 47 :: [98, 97, 114] ∧
    lang hostPatRe [102, 111, 111, 46, 99, 111, 109] ∧
    lang
      (.cat (.grp 2 repoPatRe)
        (.cat (.opt (.cat (.cls [(58, 58)]) (.grp 3 (.plus (.cls [(0, 63), (65, 255)])))))
          (.opt (.cat (.cls [(64, 64)]) (.grp 4 (.plus (.cls [(0, 9), (11, 255)])))))))
      [98, 97, 114] ∧
    lang repoPatRe exAmbiguous ∧
    Ref.matchRef exAmbiguous = some ⟨[102, 111, 111, 46, 99, 111, 109], [98, 97, 114], [], []⟩ := by
  decide +kernel

/-! ### The translator recognised the shape of all three patterns -/

theorem generated_refre_ok : Generated.RefRe.shapeKnown = true := by decide

end OciModel.Props.C17R
