/-
C08 — the in-memory registry is race-free and linearizable (partial: see DESIGN.md). The file opens with
the schedules and histories its examples use. Then the obligations on the lock discipline regenerated
from ocimem/*.go; then, over every interleaving of atomic steps (`MemConc`): stored content matches its
digest, a commit stores the bytes it checked, `GetTag` as one section, the order of steps in abstract
traces, the two-step commit against the sequential `wCommit`, what the commit lock gives, and
linearizability of every history of the atomic-step model (`MemLin`), with examples and counterexamples.
-/
import OciModel.Generated.Locks
import OciModel.MemConcLemmas
import OciModel.MemLinLemmas

/-! ## The schedules and histories of the examples below -/

namespace OciModel.MemConc
open OciModel OciModel.Mem

/-! ### F33: two commits of one upload session without the commit lock -/

namespace DualCommit

/-- the identity as "hash": a blob's digest is its content -/
def Hid : Bytes → Bytes := fun b => b

def rD : Bytes := [97]        -- repository "a"
def uD : Bytes := [117]       -- upload session "u"
def vD : Bytes := [118]       -- another upload session "v"
def d1 : Bytes := [1]
def d2 : Bytes := [1, 2]

/-- session `u` of repository `a` holds the bytes `[1]`; session `v` holds `[9]` -/
def c0 : CState := arun Hid ⟨Mem.init false, []⟩
  [.op (.resume rD uD 0), .op (.wWrite rD uD [1]), .op (.resume rD vD 0), .op (.wWrite rD vD [9])]

/-- The F33 interleaving of two handles on session `u`: `Commit(d1)` checks; the other handle
writes and its `Commit(d2)` checks; then the two callbacks run. -/
def sched : List AStep :=
  [.commitCheck rD uD d1,          -- handle 1, Commit(d1), first section: the buffer is [1], fine
   .op (.wWrite rD uD [2]),        -- handle 2: Write
   .commitCheck rD uD d2,          -- handle 2, Commit(d2), first section: the buffer is [1,2], fine
   .commitStore rD uD,             -- a callback: stores and reports d2
   .commitStore rD uD]             -- the other callback: nothing left to store

/-- a `Cancel` landing between the two sections of a `Commit` -/
def cancelSched : List AStep :=
  [.commitCheck rD uD d1, .op (.wCancel rD uD), .commitStore rD uD]

/-- A schedule that respects the commit lock although a lot happens between the two sections of
`Commit(d1)` on session `u`: a write to that very session, a size query, a whole commit of
session `v` (both sections), a refused commit of `v`, a cancel of `v` and a delete; afterwards a
second `Commit` of `u`, now for `d2`, and a `Cancel`. -/
def serialSched : List AStep :=
  [.commitCheck rD uD d1,
   .op (.wWrite rD uD [2]),
   .op (.wSize rD uD),
   .commitCheck rD vD [9],
   .op (.wWrite rD vD [8]),
   .commitStore rD vD,
   .commitCheck rD vD [7],         -- refused (DIGEST_INVALID): releases the lock at once
   .op (.wCancel rD vD),
   .op (.deleteBlob rD [9]),
   .commitStore rD uD,             -- position 9: the second section of Commit(d1)
   .commitCheck rD uD d2,
   .op (.wWrite rD uD [3]),
   .commitStore rD uD,
   .op (.wCancel rD uD)]

end DualCommit

/-! ### `GetTag` as two critical sections -/

namespace TwoStep

/-- a toy hash with well-formed `sha256:` output: `[1] ↦ sha256:11…1`, everything else `↦ sha256:22…2` -/
def Htoy : Bytes → Bytes := fun b => Ref.sha256 ++ [58] ++ List.replicate 64 (if b = [1] then 49 else 50)

def rT : Bytes := [97]        -- "a"
def tT : Bytes := [118]       -- "v"
def mtT : Bytes := [109]
def m1 : Bytes := [1]
def m2 : Bytes := [2]
def d1 : Desc := ⟨mtT, Htoy m1, 1⟩
def d2 : Desc := ⟨mtT, Htoy m2, 1⟩

/-- the registry after `m1` has been pushed under the tag -/
def c1 : CState := arun Htoy ⟨Mem.init false, []⟩ [.op (.pushManifest rT tT m1 mtT .opaque)]

/-- A two-step `GetTag` (resolve the tag in one critical section, fetch the manifest by digest
in another) interleaved with a re-tag and the deletion of the old manifest. -/
def sched : List AStep :=
  [.op (.resolveTag rT tT),                       -- reader, first section: the tag is `d1`
   .op (.pushManifest rT tT m2 mtT .opaque),      -- writer: the tag now points at `m2`
   .op (.deleteManifest rT d1.digest),            -- writer: `m1` is no longer tagged, delete it
   .op (.getManifest rT d1.digest)]               -- reader, second section: `m1` is gone

end TwoStep

end OciModel.MemConc

namespace OciModel.MemLin
open OciModel OciModel.Mem OciModel.MemConc

/-! ### A concrete execution: three clients, overlapping operations, one still open at the end -/

namespace Demo
open TwoStep

def c0 : CState := ⟨Mem.init false, []⟩

/-- Client 0 pushes manifest `m1` under the tag; client 1's `ResolveTag` is invoked after that call and
OVERLAPS it, and takes its step first (so it answers NAME_UNKNOWN although it was called later); client 2
calls `ResolveTag` after client 0's push has RETURNED (so it must see the tag), while client 1 is still
inside its call; then client 0 pushes `m2`, which has taken effect but not returned when the execution is
cut, and client 1 has called `GetTag`, which has not run yet. -/
def ex : List XEv :=
  [.inv 0 (.pushManifest rT tT m1 mtT .opaque),
   .inv 1 (.resolveTag rT tT),
   .step 1,
   .step 0,
   .ret 0 (.okDesc d1),
   .inv 2 (.resolveTag rT tT),
   .ret 1 (.err "NAME_UNKNOWN"),
   .step 2,
   .ret 2 (.okDesc d1),
   .inv 0 (.pushManifest rT tT m2 mtT .opaque),
   .step 0,
   .inv 1 (.getTag rT tT)]

/-- what the clients see of `ex` -/
def h : History :=
  [.inv 0 (.pushManifest rT tT m1 mtT .opaque),   -- 0
   .inv 1 (.resolveTag rT tT),                    -- 1
   .ret 0 (.okDesc d1),                           -- 2
   .inv 2 (.resolveTag rT tT),                    -- 3
   .ret 1 (.err "NAME_UNKNOWN"),                  -- 4
   .ret 2 (.okDesc d1),                           -- 5
   .inv 0 (.pushManifest rT tT m2 mtT .opaque),   -- 6  (open: has taken effect)
   .inv 1 (.getTag rT tT)]                        -- 7  (open: has not run)

/-- the linearization of `h` that `ex` gives: the order of its `step` events -/
def lin : List LinOp :=
  [⟨1, .resolveTag rT tT, .err "NAME_UNKNOWN"⟩,
   ⟨0, .pushManifest rT tT m1 mtT .opaque, .okDesc d1⟩,
   ⟨3, .resolveTag rT tT, .okDesc d1⟩,
   ⟨6, .pushManifest rT tT m2 mtT .opaque, .okDesc d2⟩]

/-- a history that is NOT linearizable: the push has returned before `ResolveTag` is called, and
`ResolveTag` nevertheless says NAME_UNKNOWN -/
def bad : History :=
  [.inv 0 (.pushManifest rT tT m1 mtT .opaque),
   .ret 0 (.okDesc d1),
   .inv 1 (.resolveTag rT tT),
   .ret 1 (.err "NAME_UNKNOWN")]

end Demo

end OciModel.MemLin

namespace OciModel.Props.C08
open OciModel.Generated.Locks

/-! ## The lock discipline, on the tables regenerated from ocimem/*.go -/

def shareLock (a b : List String) : Bool := a.any fun l => b.contains l

/-- Lockset discipline: any two accesses to the same mutable field of an upload buffer, at
least one of them a write, are made with a common mutex held (this includes an access
racing with itself from two goroutines). -/
def LocksetOk (acc : List (String × String × String × List String)) : Bool :=
  acc.all fun a => acc.all fun b =>
    !(a.2.1 == b.2.1 && (a.2.2.1 == "w" || b.2.2.1 == "w")) || shareLock a.2.2.2 b.2.2.2

theorem lockset_ok : LocksetOk bufferAccesses = true := by decide +kernel

/-- Every exported method of `*Registry` is one critical section of the registry mutex,
except `PushBlob` (a lock-free prelude on its arguments, then one section: its only call on
the receiver is the unexported `makeRepo`, inside the lock) and `PushBlobChunked` (a single
call of the atomic `PushBlobChunkedResume`). In particular `GetTag` is one section. -/
theorem registry_methods_atomic :
    ∀ m ∈ methods, m.1 = "Registry" →
      m.2.2.1 = true ∨ (m.2.1 = "PushBlob" ∧ m.2.2.2 = ["makeRepo"]) ∨
        (m.2.1 = "PushBlobChunked" ∧ m.2.2.2 = ["PushBlobChunkedResume"]) := by decide +kernel

/-- No deferred evaluation outside the lock: no exported method hands its caller a function
(a lazily evaluated listing, say) that reads a map of the registry's state — or a map it was given
under the lock — after the method has returned and released the registry mutex. (Function literals
that are consumed inside the critical section that created them, such as the reference iterators
used by the delete checks, are listed in `closureStateAccesses` and are not leaks.) -/
theorem no_lazy_state_leaks : lazyStateLeaks = [] := by decide +kernel

/-- The content a caller hands to `PushBlob` is read before the registry mutex is taken: no
call consumes a caller-supplied `io.Reader` with a mutex held (the reader may block for as long as it
likes, or call back into the registry — a copy within one registry — without stopping anyone else). -/
theorem caller_content_read_outside_the_lock : readsCallerReaderUnderLock = [] := by decide +kernel

/-- the first mutex of the receiver that the method locks for its whole body, if any -/
def firstWholeBodyLock (L : List (String × String × String)) (recv meth : String) : Option String :=
  ((L.filter fun x => x.1 == recv && x.2.1 == meth).head?).map (·.2.2)

/-- `Buffer.Commit` takes a mutex of the buffer as the first thing it does and holds it for its whole
body, and `Buffer.Cancel` does the same with the SAME mutex — `Buffer.commitMu` (fix F33; the
statement does not depend on that name). So the calls of `Commit` and `Cancel` on one upload
session exclude one another from beginning to end: the schedules of atomic steps that can occur
are the `MemConc.CommitSerial` ones. Taking the lock away from either function, or taking it
later than at the top of the body, or releasing it before the return, breaks this obligation. -/
theorem generated_commit_serialized :
    (firstWholeBodyLock wholeBodyLocks "Buffer" "Commit").isSome = true ∧
    firstWholeBodyLock wholeBodyLocks "Buffer" "Commit" = firstWholeBodyLock wholeBodyLocks "Buffer" "Cancel" := by
  decide +kernel

/-! ## The concurrent model: every interleaving of atomic steps

`H` (the content hash) is a parameter throughout; nothing is assumed about it. -/

open OciModel OciModel.Mem OciModel.MemConc

section
variable (H : Bytes → Bytes)

/-! ### A committed blob's stored content always matches its digest -/

theorem cinv_init (imm : Bool) : CInv H ⟨Mem.init imm, []⟩ := MemConc.cinv_init H imm

theorem cinv_astep (c : CState) (a : AStep) (hc : CInv H c) : CInv H (astep H c a).1 :=
  MemConc.cinv_astep H c a hc

theorem cinv_arun (c : CState) (sched : List AStep) (hc : CInv H c) : CInv H (arun H c sched) :=
  MemConc.cinv_arun H c sched hc

/-- After ANY schedule of atomic steps from the empty registry — whatever writes were interleaved
between the two critical sections of whatever commits — every stored blob (and manifest) hashes
to the digest it is stored under. -/
theorem committed_blob_matches_digest (imm : Bool) (sched : List AStep) {r d : Bytes} {rp : Repo} {b : Blob}
    (hg : getRepo (arun H ⟨Mem.init imm, []⟩ sched).st r = some rp)
    (hb : alookup d rp.blobs = some b) : H b.data = d :=
  ((cinv_arun H _ sched (cinv_init H imm)).1 r rp hg).1 d b hb

theorem stored_manifest_matches_digest (imm : Bool) (sched : List AStep) {r d : Bytes} {rp : Repo} {b : Blob}
    (hg : getRepo (arun H ⟨Mem.init imm, []⟩ sched).st r = some rp)
    (hb : alookup d rp.manifests = some b) : H b.data = d :=
  ((cinv_arun H _ sched (cinv_init H imm)).1 r rp hg).2 d b hb

/-! ### The commit stores the bytes that were checked -/

/-- No operation removes a repository. -/
theorem repo_never_removed {s : State} {r : Bytes} {rp : Repo} (o : Op) (hg : getRepo s r = some rp) :
    ∃ rp', getRepo (step H s o).1 r = some rp' :=
  (keeps_step H s o).some hg

theorem repo_never_removed_astep {c : CState} {r : Bytes} {rp : Repo} (a : AStep) (hg : getRepo c.st r = some rp) :
    ∃ rp', getRepo (astep H c a).1.st r = some rp' :=
  (keeps_astep H c a).some hg

theorem repo_never_removed_arun {c : CState} {r : Bytes} {rp : Repo} (sched : List AStep)
    (hg : getRepo c.st r = some rp) : ∃ rp', getRepo (arun H c sched).st r = some rp' :=
  (keeps_arun H c sched).some hg

/-- If the first critical section of a commit of session `(r, id)` succeeds while the buffer
holds `b.buf`, then after ANY atomic steps `mid` other than critical sections of a commit of the
same session — writes to that very session, cancels, deletions, other sessions' commits … — the
second critical section succeeds, reports `⟨octet-stream, dig, |b.buf|⟩`, and stores exactly
`b.buf` under `dig`; and `b.buf` hashes to `dig`. -/
theorem commit_stores_checked_bytes {c c1 : CState} {r id dig : Bytes} {rp : Repo} {b : Buffer}
    (hb : getBuffer c.st r id = some (rp, b))
    (hc : astep H c (.commitCheck r id dig) = (c1, .okUnit))
    (mid : List AStep) (hmid : NoCommitOf r id mid) :
    H b.buf = dig ∧
    ∃ rp1, getRepo (arun H c1 mid).st r = some rp1 ∧
      astep H (arun H c1 mid) (.commitStore r id) =
        ({ st := putRepo (arun H c1 mid).st r
                   { rp1 with blobs := ainsert dig ⟨octetStream, b.buf, [], []⟩ rp1.blobs },
           snaps := eraseSnap (r, id) (arun H c1 mid).snaps },
         .okDesc ⟨octetStream, dig, b.buf.length⟩) ∧
      ∃ rp2, getRepo (astep H (arun H c1 mid) (.commitStore r id)).1.st r = some rp2 ∧
        alookup dig rp2.blobs = some ⟨octetStream, b.buf, [], []⟩ := by
  obtain ⟨_, hd, hc1⟩ := commitCheck_ok H hb hc
  refine ⟨hd, ?_⟩
  have hg1 : getRepo c1.st r = some { rp with uploads := ainsert id { b with committed := true } rp.uploads } := by
    rw [hc1]; exact getRepo_putRepo_eq _ _ _
  obtain ⟨rp1, hg⟩ := repo_never_removed_arun H mid hg1
  have hsnap : lookupSnap (r, id) (arun H c1 mid).snaps = some (dig, b.buf) := by
    rw [snap_arun H c1 mid hmid, hc1]
    exact lookupSnap_cons_eq _ _ _
  refine ⟨rp1, hg, ?_⟩
  rcases commitStore_spec H (arun H c1 mid) r id with ⟨hn, _⟩ | ⟨_, _, _, hn, _⟩ | ⟨dig', data', rp', hl, hg', h⟩
  · rw [hn] at hsnap; cases hsnap
  · rw [hn] at hg; cases hg
  · rw [hsnap] at hl; cases hl
    rw [hg] at hg'; cases hg'
    refine ⟨h, ?_⟩
    rw [h]
    exact ⟨_, getRepo_putRepo_eq _ _ _, alookup_ainsert_eq _ _ _⟩

/-! ### A tag that always points at an existing manifest is never reported missing -/

/-- `GetTag` is one atomic step (`registry_methods_atomic`); if at that instant the tag points
at an existing manifest, it returns that manifest. -/
theorem getTag_succeeds {s : State} {r t : Bytes} {rp : Repo} {d : Desc} {b : Blob}
    (hg : getRepo s r = some rp) (ht : alookup t rp.tags = some d)
    (hb : alookup d.digest rp.manifests = some b) :
    step H s (.getTag r t) = (s, .okRead (descOf H b) b.data) :=
  step_getTag_of H hg ht hb

theorem getTag_atomic_ok {c : CState} {r t : Bytes} (h : TagOK r t c) :
    ∃ rp d b, getRepo c.st r = some rp ∧ alookup t rp.tags = some d ∧
      alookup d.digest rp.manifests = some b ∧
      astep H c (.op (.getTag r t)) = (c, .okRead (descOf H b) b.data) := by
  obtain ⟨rp, d, b, hg, ht, hb⟩ := h
  refine ⟨rp, d, b, hg, ht, hb, ?_⟩
  rw [astep_op, getTag_succeeds H hg ht hb]

/-- If `t` points at an existing manifest in every state a schedule goes through, then every
`GetTag r t` step of the schedule returns a manifest (never an error). -/
theorem tag_never_missing (c : CState) (sched : List AStep) (r t : Bytes)
    (h : Along H (TagOK r t) c sched) (i : Nat) (hi : sched[i]? = some (.op (.getTag r t))) :
    ∃ d data, (aouts H c sched)[i]? = some (.okRead d data) := by
  induction sched generalizing c i with
  | nil => simp at hi
  | cons a rest ih =>
    cases i with
    | zero =>
      simp at hi; subst hi
      obtain ⟨_, _, b, _, _, _, hst⟩ := getTag_atomic_ok H h.1
      exact ⟨descOf H b, b.data, by simp [aouts, hst]⟩
    | succ j =>
      simp only [List.getElem?_cons_succ] at hi
      obtain ⟨d, data, hd⟩ := ih _ h.2 j hi
      exact ⟨d, data, by simpa [aouts] using hd⟩

/-- The same with "every state along the schedule" spelled out as "the state after every prefix". -/
theorem tag_never_missing_prefix (c : CState) (sched : List AStep) (r t : Bytes)
    (h : ∀ pre post, sched = pre ++ post → TagOK r t (arun H c pre))
    (pre post : List AStep) (e : sched = pre ++ .op (.getTag r t) :: post) :
    ∃ b, astep H (arun H c pre) (.op (.getTag r t)) = (arun H c pre, .okRead (descOf H b) b.data) := by
  obtain ⟨_, _, b, _, _, _, hst⟩ := getTag_atomic_ok H (h pre _ e)
  exact ⟨b, hst⟩

end

/-- Why one critical section: if `GetTag` resolved the tag and fetched the manifest in two
critical sections, then in the schedule `TwoStep.sched` — started after `m1` was pushed under
the tag — the tag points at an existing manifest at every instant, the resolve returns `d1`,
and the fetch of `d1.digest` nevertheless reports `MANIFEST_UNKNOWN`. -/
theorem two_step_getTag_counterexample :
    Along TwoStep.Htoy (TagOK TwoStep.rT TwoStep.tT) TwoStep.c1 TwoStep.sched ∧
    aouts TwoStep.Htoy TwoStep.c1 TwoStep.sched =
      [.okDesc TwoStep.d1, .okDesc TwoStep.d2, .okUnit, .err "MANIFEST_UNKNOWN"] := by
  refine ⟨along_of_b TwoStep.Htoy (P := tagOKb TwoStep.rT TwoStep.tT) (fun _ h => tagOK_of_b h) ?_, ?_⟩
  · decide +kernel
  · decide +kernel

/-- In the very same schedule the one-section `GetTag` succeeds at every instant. -/
theorem one_step_getTag_in_counterexample (pre post : List AStep) (e : TwoStep.sched = pre ++ post) :
    ∃ b, astep TwoStep.Htoy (arun TwoStep.Htoy TwoStep.c1 pre) (.op (.getTag TwoStep.rT TwoStep.tT)) =
      (arun TwoStep.Htoy TwoStep.c1 pre, .okRead (descOf TwoStep.Htoy b) b.data) := by
  have h := along_prefix TwoStep.Htoy two_step_getTag_counterexample.1 pre post e
  obtain ⟨_, _, b, _, _, _, hst⟩ := getTag_atomic_ok TwoStep.Htoy h
  exact ⟨b, hst⟩

/-! ### The atomic steps give a linearization order consistent with real time -/

/-- If `a` returns before `b` is invoked, `a`'s atomic step precedes `b`'s. -/
theorem realtime_respected {tr : List Ev} {ids : List Nat} (hwf : WellFormed tr ids) {a b : Nat}
    (ha : a ∈ ids) (hb : b ∈ ids) {ra ib : Nat}
    (hra : pos (.ret a) tr = some ra) (hib : pos (.inv b) tr = some ib) (hlt : ra < ib) :
    ∃ sa sb, pos (.step a) tr = some sa ∧ pos (.step b) tr = some sb ∧ sa < sb := by
  obtain ⟨_, sa, ra', _, hsa, hra', _, h1⟩ := hwf a ha
  obtain ⟨ib', sb, _, hib', hsb, _, h2, _⟩ := hwf b hb
  rw [hra] at hra'; cases hra'
  rw [hib] at hib'; cases hib'
  exact ⟨sa, sb, hsa, hsb, by omega⟩

/-- Distinct operations have distinct linearization points: the order of the atomic steps is
a strict total order on the operations. -/
theorem step_positions_injective {tr : List Ev} {a b s : Nat}
    (ha : pos (.step a) tr = some s) (hb : pos (.step b) tr = some s) : a = b := by
  have h1 := pos_get ha
  have h2 := pos_get hb
  rw [h1] at h2
  cases h2; rfl

/-! ### The two-step commit against the sequential `wCommit` -/

section
variable (H : Bytes → Bytes)

/-- An `op` atomic step is exactly `Mem.step`. -/
theorem astep_op_is_step (c : CState) (o : Op) :
    (astep H c (.op o)).1.st = (step H c.st o).1 ∧ (astep H c (.op o)).2 = (step H c.st o).2 ∧
    (astep H c (.op o)).1.snaps = c.snaps := ⟨rfl, rfl, rfl⟩

/-- A schedule made of whole operations only is the sequential run of those operations in
step order: same final state, same outputs. -/
theorem arun_ops_eq_run (c : CState) (ops : List Op) :
    (arun H c (ops.map .op)).st = (run H c.st ops).1 ∧
    aouts H c (ops.map .op) = (run H c.st ops).2 ∧
    (arun H c (ops.map .op)).snaps = c.snaps := by
  induction ops generalizing c with
  | nil => exact ⟨rfl, rfl, rfl⟩
  | cons o rest ih =>
    obtain ⟨h1, h2, h3⟩ := ih (astep H c (.op o)).1
    refine ⟨?_, ?_, ?_⟩
    · exact h1
    · simp only [List.map_cons, aouts, run]
      rw [h2]; rfl
    · exact h3

/-- With nothing in between, the two critical sections of a commit have the effect and the
output of the sequential `wCommit`; and when the first one refuses, it alone has. -/
theorem sequential_commit_refines (c : CState) (r id dig : Bytes) :
    (∀ c1, astep H c (.commitCheck r id dig) = (c1, .okUnit) →
      (astep H c1 (.commitStore r id)).1.st = (step H c.st (.wCommit r id dig)).1 ∧
      (astep H c1 (.commitStore r id)).2 = (step H c.st (.wCommit r id dig)).2 ∧
      (astep H c1 (.commitStore r id)).1.snaps = eraseSnap (r, id) c.snaps) ∧
    (∀ c1 out, astep H c (.commitCheck r id dig) = (c1, out) → out ≠ .okUnit →
      c1.st = (step H c.st (.wCommit r id dig)).1 ∧ out = (step H c.st (.wCommit r id dig)).2 ∧
      c1.snaps = c.snaps) := by
  rcases commitCheck_spec H c r id dig with ⟨hb, h⟩ | ⟨rp, b, e, hb, he, h⟩ | ⟨rp, b, hb, he, hd, h⟩ | ⟨rp, b, hb, he, hd, h⟩
  · refine ⟨fun c1 hc => ?_, fun c1 out hc _ => ?_⟩
    · rw [h] at hc; cases hc
    · rw [h] at hc; cases hc
      simp [step, hb]
  · refine ⟨fun c1 hc => ?_, fun c1 out hc _ => ?_⟩
    · rw [h] at hc; cases hc
    · rw [h] at hc; cases hc
      simp [step, hb, he]
  · refine ⟨fun c1 hc => ?_, fun c1 out hc _ => ?_⟩
    · rw [h] at hc; cases hc
    · rw [h] at hc; cases hc
      simp [step, hb, he, hd]
  · refine ⟨fun c1 hc => ?_, fun c1 out hc hne => ?_⟩
    · rw [h] at hc; cases hc
      have hg1 : getRepo (putBuffer c.st r rp id { b with committed := true }) r =
          some { rp with uploads := ainsert id { b with committed := true } rp.uploads } :=
        getRepo_putRepo_eq _ _ _
      rcases commitStore_spec H
          { st := putBuffer c.st r rp id { b with committed := true },
            snaps := ((r, id), (dig, b.buf)) :: eraseSnap (r, id) c.snaps } r id with
        ⟨hn, _⟩ | ⟨_, _, _, hn, _⟩ | ⟨dig', data', rp', hl, hg', h2⟩
      · rw [lookupSnap_cons_eq] at hn; cases hn
      · rw [hg1] at hn; cases hn
      · rw [lookupSnap_cons_eq] at hl; cases hl
        rw [hg1] at hg'; cases hg'
        rw [h2]
        refine ⟨?_, ?_, ?_⟩
        · simp only [step, hb, he, hd]
          simp [putBuffer, putRepo_putRepo]
        · simp [step, hb, he, hd]
        · show eraseSnap (r, id) (((r, id), (dig, b.buf)) :: eraseSnap (r, id) c.snaps) = _
          simp [eraseSnap, eraseSnap_idem]
    · rw [h] at hc; cases hc
      exact absurd rfl hne

end

/-! ### With the commit lock, a commit reports and stores the digest it was asked for (F33) -/

section
variable (H : Bytes → Bytes)

/-- The same as `commit_reports_own_digest` below, with the schedule cut at the two steps. -/
theorem commit_reports_own_digest_split (c : CState) (pre mid post : List AStep) (r id dig : Bytes)
    (hs : CommitSerial H c (pre ++ .commitCheck r id dig :: (mid ++ .commitStore r id :: post)))
    (hok : (astep H (arun H c pre) (.commitCheck r id dig)).2 = .okUnit)
    (hmid : ∀ a ∈ mid, a ≠ .commitStore r id) :
    ∃ rp b, getBuffer (arun H c pre).st r id = some (rp, b) ∧ H b.buf = dig ∧
      (astep H (arun H c (pre ++ .commitCheck r id dig :: mid)) (.commitStore r id)).2 =
        .okDesc ⟨octetStream, dig, b.buf.length⟩ ∧
      ∃ rp2, getRepo (arun H c (pre ++ .commitCheck r id dig :: (mid ++ [.commitStore r id]))).st r = some rp2 ∧
        alookup dig rp2.blobs = some ⟨octetStream, b.buf, [], []⟩ := by
  obtain ⟨rp, b, hb, hc⟩ := commitCheck_ok_buffer H hok
  have hwin := commitSerial_window H pre mid post hs hok hmid
  have hno : NoCommitOf r id mid := fun a ha => not_isCommitOf_of_not_takes (hwin a ha)
  obtain ⟨hd, rp1, _, hst, rp2, hg2, hl2⟩ := commit_stores_checked_bytes H hb hc mid hno
  have e1 : arun H c (pre ++ .commitCheck r id dig :: mid) =
      arun H (astep H (arun H c pre) (.commitCheck r id dig)).1 mid := by
    rw [arun_append, arun_cons]
  have e2 : arun H c (pre ++ .commitCheck r id dig :: (mid ++ [.commitStore r id])) =
      (astep H (arun H (astep H (arun H c pre) (.commitCheck r id dig)).1 mid) (.commitStore r id)).1 := by
    rw [arun_append, arun_cons, arun_append, arun_cons, arun_nil]
  refine ⟨rp, b, hb, hd, ?_, rp2, ?_, hl2⟩
  · rw [e1, hst]
  · rw [e2]; exact hg2

/-- **With the commit lock a commit reports, and stores, what it was asked for.** Take ANY schedule
of atomic steps that respects `Buffer.commitMu` (`CommitSerial`), from any state, with any hash.
If the step at position `i` is `commitCheck r id dig` and succeeds, and the session's next
`commitStore r id` is at position `j`, then — whatever the steps in between are: writes to that
very session, other sessions' commits, pushes, deletes … — that `commitStore` answers
`⟨octet-stream, dig, n⟩` for the digest `dig` the commit was called with, `n` being the length of
the bytes `b.buf` the buffer held when they were checked, those bytes hash to `dig`, and right
after the step the repository holds exactly them under `dig`. -/
theorem commit_reports_own_digest (c : CState) (sched : List AStep) (hs : CommitSerial H c sched)
    {i j : Nat} {r id dig : Bytes}
    (hi : sched[i]? = some (.commitCheck r id dig))
    (hok : (aouts H c sched)[i]? = some .okUnit)
    (hij : i < j) (hj : sched[j]? = some (.commitStore r id))
    (hnext : ∀ k, i < k → k < j → sched[k]? ≠ some (.commitStore r id)) :
    ∃ rp b, getBuffer (arun H c (sched.take i)).st r id = some (rp, b) ∧ H b.buf = dig ∧
      (aouts H c sched)[j]? = some (.okDesc ⟨octetStream, dig, b.buf.length⟩) ∧
      ∃ rp2, getRepo (arun H c (sched.take (j + 1))).st r = some rp2 ∧
        alookup dig rp2.blobs = some ⟨octetStream, b.buf, [], []⟩ := by
  obtain ⟨e1, hl1⟩ := split_at_getElem? hi
  have hj' : (sched.drop (i + 1))[j - i - 1]? = some (.commitStore r id) := by
    rw [List.getElem?_drop]
    have : i + 1 + (j - i - 1) = j := by omega
    rw [this]; exact hj
  obtain ⟨e2, hl2⟩ := split_at_getElem? hj'
  generalize hpre : sched.take i = pre at e1 hl1
  generalize hrest : sched.drop (i + 1) = rest at e1 e2 hl2
  generalize hmidE : rest.take (j - i - 1) = mid at e2 hl2
  generalize hpost : rest.drop (j - i - 1 + 1) = post at e2
  have hmid : ∀ a ∈ mid, a ≠ .commitStore r id := by
    intro a ha e
    rw [← hmidE] at ha
    obtain ⟨k, hk, hg⟩ := mem_take_getElem? ha
    rw [← hrest, List.getElem?_drop, e] at hg
    exact hnext (i + 1 + k) (by omega) (by omega) hg
  have es : sched = pre ++ .commitCheck r id dig :: (mid ++ .commitStore r id :: post) := by
    rw [← e2]; exact e1
  have hok' : (astep H (arun H c pre) (.commitCheck r id dig)).2 = .okUnit := by
    have := aouts_at H c pre (.commitCheck r id dig) (mid ++ .commitStore r id :: post)
    rw [← es, hl1, hok] at this
    exact (Option.some.inj this).symm
  obtain ⟨rp, b, hb, hd, hout, rp2, hg2, hb2⟩ :=
    commit_reports_own_digest_split H c pre mid post r id dig (es ▸ hs) hok' hmid
  have hlen : (pre ++ .commitCheck r id dig :: mid).length = j := by
    simp [hl1, hl2]; omega
  have es' : sched = (pre ++ .commitCheck r id dig :: mid) ++ .commitStore r id :: post := by
    rw [es]; simp
  refine ⟨rp, b, hb, hd, ?_, rp2, ?_, hb2⟩
  · have := aouts_at H c (pre ++ .commitCheck r id dig :: mid) (.commitStore r id) post
    rw [← es', hlen] at this
    rw [this, hout]
  · have : sched.take (j + 1) = pre ++ .commitCheck r id dig :: (mid ++ [.commitStore r id]) := by
      rw [es', ← hlen, take_length_succ_append]; simp
    rw [this]; exact hg2

end

open DualCommit in
/-- **F33, why the lock is needed.** Without `Buffer.commitMu` the schedule `DualCommit.sched` can
occur (two handles on one upload session; the hash is the identity): `Commit(d1)` checks the
buffer `[1]`, the other handle writes `[2]` and its `Commit(d2)` checks `[1,2]`, then the two
callbacks run. Both checks succeed; the callback that stores answers with the descriptor of `d2`
and the other one has nothing to store — so whichever of the two belongs to `Commit(d1)`, that
commit does not report `d1` —; afterwards the repository holds `d2` and NO blob `d1`, although
`Commit(d1)` passed its check. The schedule is not `CommitSerial`: the hypothesis of
`commit_reports_own_digest` cannot be dropped. -/
theorem dual_commit_anomaly_without_the_lock :
    aouts Hid c0 sched =
      [.okUnit, .okN 1, .okUnit, .okDesc ⟨octetStream, d2, 2⟩, .err "NOT-CHECKED"] ∧
    (getRepo (arun Hid c0 sched).st rD).map (fun rp => (alookup d1 rp.blobs, alookup d2 rp.blobs)) =
      some (none, some ⟨octetStream, d2, [], []⟩) ∧
    ¬ CommitSerial Hid c0 sched := by
  refine ⟨?_, ?_, ?_⟩ <;> decide +kernel

open DualCommit in
/-- A `Cancel` between the two sections of a `Commit` is not `CommitSerial` either (in Go, before
the fix, that window made the callback store an empty blob; the model does not follow the
callback there, and with the lock it need not). -/
theorem cancel_inside_commit_not_serial : ¬ CommitSerial Hid c0 cancelSched := by decide +kernel

/-! `CommitSerial` is not vacuous: `DualCommit.serialSched` has a write to the very session, a size
query, a whole commit and a refused commit of another session, a cancel of that other session and
a delete between the two sections of `Commit(d1)`, then a second commit of the session and a
cancel. It respects the lock, and `commit_reports_own_digest` applies to both of its commits. -/

open DualCommit in
example : CommitSerial Hid c0 serialSched := by decide +kernel

open DualCommit in
example : ∃ rp b, getBuffer (arun Hid c0 (serialSched.take 0)).st rD uD = some (rp, b) ∧ Hid b.buf = d1 ∧
    (aouts Hid c0 serialSched)[9]? = some (.okDesc ⟨octetStream, d1, b.buf.length⟩) ∧
    ∃ rp2, getRepo (arun Hid c0 (serialSched.take (9 + 1))).st rD = some rp2 ∧
      alookup d1 rp2.blobs = some ⟨octetStream, b.buf, [], []⟩ :=
  commit_reports_own_digest Hid c0 serialSched (by decide +kernel) (i := 0) (j := 9) rfl (by decide +kernel)
    (by decide) rfl (by
      intro k h1 h2
      have : k = 1 ∨ k = 2 ∨ k = 3 ∨ k = 4 ∨ k = 5 ∨ k = 6 ∨ k = 7 ∨ k = 8 := by omega
      rcases this with rfl | rfl | rfl | rfl | rfl | rfl | rfl | rfl <;> simp [serialSched, uD, vD])

open DualCommit in
/-- the outputs of the serial schedule: each of the two commits of session `u` reports its own digest -/
example : aouts Hid c0 serialSched =
    [.okUnit, .okN 1, .okN 2, .okUnit, .okN 1, .okDesc ⟨octetStream, [9], 1⟩, .err "DIGEST_INVALID",
     .okUnit, .okUnit, .okDesc ⟨octetStream, d1, 1⟩, .okUnit, .okN 1, .okDesc ⟨octetStream, d2, 2⟩, .okUnit] := by
  decide +kernel

/-! ### Every concurrent history of the atomic-step model is linearizable

Histories (`MemLin.lean`) have events `inv client op` / `ret client out`; an execution (`IsExec`)
interleaves, for any number of clients, `inv c op`, `step c` — the atomic step `astep H · (.op op)` of `c`'s
pending call on the shared state — and `ret c out` with `out` the output of that step; `Linearizable H s0 h`
(defined on the history alone: `IsLinearization`) asks for a sequential order of the completed operations
(plus, possibly, operations still open) that respects real time and, run through `Mem.step H` from `s0`,
yields exactly the recorded outputs. The proof carries the invariant `MemLin.LInv` along the execution; that
the history of an execution is well formed (`WellFormedH`) is `execution_history_well_formed`.
(`realtime_respected` and `step_positions_injective` above speak of the abstract traces `MemConc.Ev` under
`MemConc.WellFormed`, which nothing here produces; the theorems of this section do not use them.)

Scope: operations that are ONE atomic step. By `registry_methods_atomic` these are all the methods of
`*Registry`, and the methods of a chunked writer other than `Commit` (each one critical section of the buffer
lock, `lockset_ok`); the sequential `wCommit` too is such an operation of the model.

REMARK (not a theorem) — how the chunked `Buffer.Commit`, which is TWO atomic steps, fits. In an execution it
would contribute `commitCheck r id dig` and, if that answered `okUnit`, later `commitStore r id`.
  * A `Commit` whose check refuses is a one-step operation, linearized at `commitCheck`: that step has the
    effect and the output of the sequential `wCommit` (`sequential_commit_refines`, second half).
  * A `Commit` whose check succeeds has its linearization point at `commitStore`: with the commit lock
    (`CommitSerial`, from `generated_commit_serialized`) no other `Commit` / `Cancel` of the session falls
    between its two steps (`MemConc.commitSerial_window`), the store step answers `⟨octet-stream, dig, n⟩` for
    the digest asked and publishes exactly the checked bytes (`commit_reports_own_digest`), and publishing
    the blob — at that one step — is the only change `Commit` makes that any operation can observe
    (`commitCheck` only sets the flag `committed`, which `Mem.step` never reads, and records the snapshot).
    With nothing between the two steps the pair IS the sequential `wCommit` (`sequential_commit_refines`,
    first half).
  * What is NOT proved, and is false as an unqualified statement: that the pair equals `wCommit` placed at
    `commitStore` when other steps come between. A `Write` to the very session inside the window is not part
    of the stored blob (the check was made on the snapshot), whereas `wCommit` at the store point would hash
    the longer buffer and refuse. The sequential specification that `Commit` is linearizable against is
    therefore "check and snapshot the buffer as of some instant of the call, publish the snapshot at the
    linearization point" — `wCommit` exactly when no write to the session falls in the window. Proving the
    general statement needs a commutation lemma — `commitCheck` moves right
    across every step that does not take the session's `commitMu` and does not write its buffer — over all
    22 operations; it is not done. `two_step_commit_is_not_wCommit` below is the counterexample, proved. -/

open DualCommit in
/-- The counterexamples behind the REMARK above (hash = identity, schedules that respect the commit lock).
(1) NOT `wCommit` at `commitStore`: in `serialSched` the `Commit(d1)` of session `u` checks `[1]`, a `Write [2]`
to `u` falls in the window, and the store step (position 9) answers `⟨octet-stream, d1, 1⟩`; the sequential
`wCommit d1` run at that very instant would hash `[1,2]` and answer DIGEST_INVALID.
(2) NOT `wCommit` at `commitCheck` either: a `ResolveBlob d1` between the two steps answers BLOB_UNKNOWN,
whereas after a `wCommit` placed at the check it finds the blob. So the blob is published at `commitStore`
(the linearization point) with the bytes as of `commitCheck`. -/
theorem two_step_commit_is_not_wCommit :
    (CommitSerial Hid c0 serialSched ∧
      (aouts Hid c0 serialSched)[9]? = some (.okDesc ⟨octetStream, d1, 1⟩) ∧
      (step Hid (arun Hid c0 (serialSched.take 9)).st (.wCommit rD uD d1)).2 = .err "DIGEST_INVALID") ∧
    (CommitSerial Hid c0 [.commitCheck rD uD d1, .op (.resolveBlob rD d1), .commitStore rD uD] ∧
      aouts Hid c0 [.commitCheck rD uD d1, .op (.resolveBlob rD d1), .commitStore rD uD] =
        [.okUnit, .err "BLOB_UNKNOWN", .okDesc ⟨octetStream, d1, 1⟩] ∧
      aouts Hid c0 [.op (.wCommit rD uD d1), .op (.resolveBlob rD d1)] =
        [.okDesc ⟨octetStream, d1, 1⟩, .okDesc ⟨octetStream, d1, 1⟩]) := by
  refine ⟨⟨?_, ?_, ?_⟩, ?_, ?_, ?_⟩ <;> decide +kernel

section
open OciModel.MemLin
variable (H : Bytes → Bytes)

/-- **Linearizability.** The history of EVERY execution of the atomic-step model — any number of clients,
any interleaving of their invocations, atomic steps and responses, from any shared state `c0`, for any hash,
operations possibly still open at the end — is linearizable with respect to the sequential semantics
`Mem.step H` started in `c0.st`. -/
theorem atomic_linearizable (c0 : CState) (ex : List XEv) (hex : IsExec H c0 ex) :
    Linearizable H c0.st (hist ex) := by
  unfold IsExec at hex
  cases hx : xrun H (xinit c0) ex with
  | none => rw [hx] at hex; cases hex
  | some x =>
    obtain ⟨lin, hl, _⟩ := exec_linearization H c0 ex hx
    exact ⟨lin, hl⟩

/-- In particular from the empty registry. -/
theorem atomic_linearizable_init (imm : Bool) (ex : List XEv) (hex : IsExec H ⟨Mem.init imm, []⟩ ex) :
    Linearizable H (Mem.init imm) (hist ex) :=
  atomic_linearizable H ⟨Mem.init imm, []⟩ ex hex

/-- **The linearization points are the atomic steps.** The witness is the order of the `step` events: the
operations that took their step, in that order (`stepOps ex`), are a linearization `lin` of the history;
their sequential run from `c0.st` ends in the registry state the execution ends in, and that execution's
shared state is the one the schedule of those atomic steps gives in `MemConc.arun`. -/
theorem atomic_linearizable_by_step_order (c0 : CState) (ex : List XEv) {x : XState}
    (hx : xrun H (xinit c0) ex = some x) :
    ∃ lin, IsLinearization H c0.st (hist ex) lin ∧ lin.map (·.op) = stepOps ex ∧
      (run H c0.st (stepOps ex)).1 = x.c.st ∧ x.c = arun H c0 ((stepOps ex).map .op) :=
  exec_linearization H c0 ex hx

/-- The history of an execution is well formed: every client alternates invocations and responses. -/
theorem execution_history_well_formed (c0 : CState) (ex : List XEv) (hex : IsExec H c0 ex) :
    WellFormedH (hist ex) := by
  unfold IsExec at hex
  cases hx : xrun H (xinit c0) ex with
  | none => rw [hx] at hex; cases hex
  | some x => exact wf_xrun H ex hx _ (fun _ => rfl)

end

/-! A concrete execution (`MemLin.Demo.ex`, three clients, the hash `TwoStep.Htoy`): client 1's `ResolveTag`
overlaps client 0's push and is ordered BEFORE it although it was called later; client 2's `ResolveTag`
is called after the push returned and is ordered after it; client 0's second push is still open but has
taken effect, client 1's `GetTag` is open and has not. -/

open OciModel.MemLin in
example : IsExec TwoStep.Htoy Demo.c0 Demo.ex := by decide +kernel

open OciModel.MemLin in
/-- the history of `Demo.ex` -/
example : hist Demo.ex = Demo.h := rfl

open OciModel.MemLin in
example : WellFormedH Demo.h := by decide +kernel

open OciModel.MemLin in
/-- the linearization order of `Demo.ex` is the order of its steps -/
example : stepOps Demo.ex = Demo.lin.map (·.op) := rfl

open OciModel.MemLin in
/-- the sequential run of that order yields exactly the recorded outputs (for the open push: the
output it is going to return) -/
example : (run TwoStep.Htoy Demo.c0.st (Demo.lin.map (·.op))).2 = Demo.lin.map (·.out) := by decide +kernel

open OciModel.MemLin in
example : Linearizable TwoStep.Htoy Demo.c0.st Demo.h :=
  atomic_linearizable TwoStep.Htoy Demo.c0 Demo.ex (by decide +kernel)

open OciModel.MemLin in
/-- the hypotheses of `atomic_linearizable_init` and `atomic_linearizable_by_step_order` on that execution -/
example : IsExec TwoStep.Htoy ⟨Mem.init false, []⟩ Demo.ex := by decide +kernel

open OciModel.MemLin in
example : ∃ x, xrun TwoStep.Htoy (xinit Demo.c0) Demo.ex = some x :=
  Option.isSome_iff_exists.1 (show IsExec TwoStep.Htoy Demo.c0 Demo.ex by decide +kernel)

open OciModel.MemLin in
/-- the shared state `Demo.ex` ends in is that of the sequential run of its step order -/
example : ∀ x, xrun TwoStep.Htoy (xinit Demo.c0) Demo.ex = some x →
    (run TwoStep.Htoy Demo.c0.st (Demo.lin.map (·.op))).1 = x.c.st := fun _ hx =>
  (atomic_linearizable_by_step_order TwoStep.Htoy Demo.c0 Demo.ex hx).choose_spec.2.2.1

open OciModel.MemLin in
/-- `Linearizable` is not vacuous: a history in which a push has returned before `ResolveTag` is called and
`ResolveTag` nevertheless answers NAME_UNKNOWN has no linearization — so, by `atomic_linearizable`, no
execution of the atomic-step model produces it. -/
theorem stale_read_not_linearizable : ¬ Linearizable TwoStep.Htoy Demo.c0.st Demo.bad := by
  intro ⟨lin, L⟩
  have hpos : ∀ e ∈ lin, e.inv = 0 ∨ e.inv = 2 := by
    intro e he
    obtain ⟨c, hc, _⟩ := L.isInv e he
    generalize e.inv = i at hc
    match i, hc with
    | 0, _ => exact Or.inl rfl
    | 2, _ => exact Or.inr rfl
    | 1, hc => cases hc
    | 3, hc => cases hc
    | n + 4, hc => cases hc
  have rA : Resp Demo.bad 0 0 1 (.okDesc TwoStep.d1) :=
    ⟨by omega, rfl, fun k e h1 h2 => by omega⟩
  have rB : Resp Demo.bad 2 1 3 (.err "NAME_UNKNOWN") :=
    ⟨by omega, rfl, fun k e h1 h2 => by omega⟩
  have hA := L.complete 0 0 _ 1 _ rfl rA
  have hB := L.complete 2 1 _ 3 _ rfl rB
  obtain ⟨p, hp⟩ := List.getElem?_of_mem hA
  obtain ⟨q, hq⟩ := List.getElem?_of_mem hB
  have hpq := L.realtime p q _ _ hp hq ⟨0, 1, _, rA, rfl, by decide⟩
  have hn := L.nodup
  have hs := L.sequential
  match lin, hp, hq, hpos, hn, hs with
  | [], hp, _, _, _, _ => simp at hp
  | [x], hp, hq, _, _, _ =>
    have hp' := get_lt hp
    have hq' := get_lt hq
    simp at hp' hq'
    omega
  | [x, y], hp, hq, _, _, hs =>
    have hp' := get_lt hp
    have hq' := get_lt hq
    simp at hp' hq'
    have h0 : p = 0 := by omega
    have h1 : q = 1 := by omega
    subst h0 h1
    simp at hp hq
    subst hp hq
    revert hs
    decide +kernel
  | x :: y :: z :: rest, _, _, hpos, hn, _ =>
    have hx := hpos x (by simp)
    have hy := hpos y (by simp)
    have hz := hpos z (by simp)
    simp at hn
    omega

end OciModel.Props.C08
