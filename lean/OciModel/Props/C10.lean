/-
C10 — The auth transport only uses tokens that are sufficient, fresh and its own.

Theorems about the model of `ociauth`'s transport (`OciModel/AuthTransport.lean`);
the scope algebra is the one of C09 (`contains_iff_subset`, `mem_union`,
`union_noop_returns_receiver`, `parseScope_wf`). The proofs assemble the lemmas of
`OciModel/AuthLemmas.lean`.

Every theorem is for ALL environments, times and requests. The per-section and per-call
statements hold for every state, so they hold under every interleaving of the sections
of concurrent calls; only `cached_bearer_covers_as_sets` assumes the invariant `J` (see
`Props/C11.lean`: it holds initially and each critical section preserves it). The
statements over histories quantify over all states reachable by such interleavings
(`Reach`).
Logical time is in milliseconds; the code's one-second margin is `marginMs`.
-/
import OciModel.AuthLemmas
import OciModel.AuthShapeLemmas
import OciModel.Props.C09
namespace OciModel.Props.C10
open OciModel OciModel.Auth OciModel.Scope

/-! ### Where a Bearer token comes from -/

/-- Where a Bearer token presented to the registry during a call comes from: the full
case analysis behind provenance, freshness and coverage, per call. -/
-- F39: second case (token acquired pre-emptively, before the first attempt): the scope
-- it is recorded under contains `requestable req.required`, which is `req.required`
-- whenever that is limited (`preemptive_bearer_covers_limited_required` below). An
-- unlimited required scope cannot be asked of a token server, and the cache does not
-- record the token delivered as covering it.
theorem bearer_covers (env : Env) (now : Nat) (st : HostSt) (req : ReqInfo)
    (hr : WF req.required) (hw : WF req.want) {host : Bytes} {a : Atom}
    (hm : Msg.registry host (.bearer a) ∈ (roundTrip env now st req).2.1) :
    (∃ t ∈ st.toks, t.tok = a ∧ now + marginMs ≤ t.expires ∧ contains t.scope req.required = true) ∨
    (∃ sc tk ac rf e, Delivered env 0 tk ac rf e ∧ a = ⟨st.host, .access, pickToken tk ac⟩ ∧
        contains sc (requestable req.required) = true ∧
        (⟨sc, a, now + lifeOf e * 1000⟩ : Tok) ∈ (section1 env now st req).1.toks) ∨
    (∃ hdrs ch sc tk ac rf e, env.reg 0 = .resp 401 hdrs ∧ chalOf st.host hdrs = some ch ∧
        ch.scheme = .bearer ∧ Delivered env 1 tk ac rf e ∧ a = ⟨st.host, .access, pickToken tk ac⟩ ∧
        contains sc (parseScope ch.scope) = true ∧
        (⟨sc, a, now + lifeOf e * 1000⟩ : Tok) ∈ (section2 env now (section1 env now st req).1 ch req).1.toks) := by
  rcases roundTrip_mem env now st req hm with h | ⟨h1, hh1, he⟩ | ⟨hdrs, ch, hreg, hch, h | ⟨h2, acq, hadd, he⟩⟩
  · cases section1_not_registry env now st req _ h
  · cases he
    rcases section1_bearer env now st req hh1 with ⟨t, ht, rfl, hexp, hcon, _⟩ |
      ⟨ch, sc, tk, ac, rf, e, _, _, _, hsc, hd, ha, htoks, _⟩
    · exact Or.inl ⟨t, ht, rfl, hexp, hcon⟩
    · refine Or.inr (Or.inl ⟨sc, tk, ac, rf, e, hd, ha, ?_, ?_⟩)
      · rcases hsc with rfl | rfl
        · exact contains_union_left _ _ (requestable_wf hr) (requestable_wf hw)
        · exact contains_refl _ (requestable_wf hr)
      · rw [htoks]; simp
  · cases section2_not_registry env now _ ch req _ h
  · cases he
    obtain ⟨hs, _, sc, tk, ac, rf, e, _, hd, ha, htoks, _, hcon⟩ := section2_bearer env now _ ch req hr hw hadd
    refine Or.inr (Or.inr ⟨hdrs, ch, sc, tk, ac, rf, e, hreg, hch, hs, hd, ?_, hcon, ?_⟩)
    · rw [ha, section1_host]
    · rw [htoks]; simp

/-! ### Provenance: the token is the transport's own, for that host -/

/-- Per call: a Bearer token presented to the registry is (a) a cached token, or
(b) one the token server just delivered in the first section, or (c) one it just
delivered in answer to the challenge of the first response. In every case it is
in the cache afterwards under the scope that was asked for. -/
theorem bearer_provenance (env : Env) (now : Nat) (st : HostSt) (req : ReqInfo)
    (hr : WF req.required) (hw : WF req.want) {host : Bytes} {a : Atom}
    (hm : Msg.registry host (.bearer a) ∈ (roundTrip env now st req).2.1) :
    (∃ t ∈ st.toks, t.tok = a) ∨
    (∃ ph tk ac rf e, Delivered env ph tk ac rf e ∧ a = ⟨st.host, .access, pickToken tk ac⟩) := by
  rcases bearer_covers env now st req hr hw hm with ⟨t, ht, h, _⟩ | ⟨_, tk, ac, rf, e, hd, ha, _⟩ |
    ⟨_, _, _, tk, ac, rf, e, _, _, _, hd, ha, _⟩
  · exact Or.inl ⟨t, ht, h⟩
  · exact Or.inr ⟨0, tk, ac, rf, e, hd, ha⟩
  · exact Or.inr ⟨1, tk, ac, rf, e, hd, ha⟩

/-- Over every history (any interleaving of critical sections, any environments):
every cached token is the configured access token of this host or was delivered
by a token server in answer to a token request made from this host's state. -/
theorem cache_provenance_history {host : Bytes} {e : ConfigEntry} {st : HostSt} {envs : List Env}
    (h : Reach host e st envs) : ∀ t ∈ st.toks, Known e envs t.tok.val := by
  intro t ht
  rcases reach_toks h t ht with ⟨hne, rfl⟩ | ⟨env, hm, ph, _, tk, ac, rf, ex, _, _, hd, rfl⟩
  · exact Or.inl ⟨rfl, hne⟩
  · exact Or.inr ⟨env, hm, ph, tk, ac, rf, ex, hd, rfl⟩

/-- Over every history: a Bearer token presented to the registry by the next call
is the configured access token of this host or was delivered, to this host's
state, by a token server in this or an earlier section; it is an access-token
atom of this host. -/
theorem bearer_provenance_history {host : Bytes} {e : ConfigEntry} {st : HostSt} {envs : List Env}
    (h : Reach host e st envs) (env : Env) (now : Nat) (req : ReqInfo)
    (hr : WF req.required) (hw : WF req.want) {dest : Bytes} {a : Atom}
    (hm : Msg.registry dest (.bearer a) ∈ (roundTrip env now st req).2.1) :
    dest = host ∧ a.origin = host ∧ a.kind = .access ∧ Known e (env :: envs) a.val := by
  obtain ⟨hJ, hh⟩ := reach_J h
  have hown := roundTrip_own env now st req hJ hr hw _ hm
  obtain ⟨hd, ho, hk⟩ := hown
  refine ⟨hd.trans hh, ho.trans hh, hk, ?_⟩
  rcases bearer_provenance env now st req hr hw hm with ⟨t, ht, rfl⟩ | ⟨ph, tk, ac, rf, ex, hdl, rfl⟩
  · exact (cache_provenance_history h t ht).mono env
  · exact Or.inr ⟨env, List.mem_cons_self, ph, tk, ac, rf, ex, hdl, rfl⟩

/-- A token recorded in the cache by a section was delivered in that section and
is recorded under the scope that was asked for in a token request of that section. -/
theorem cache_growth_section2 (env : Env) (now : Nat) (st : HostSt) (ch : Chal) (req : ReqInfo) :
    ∀ t ∈ (section2 env now st ch req).1.toks,
      t ∈ st.toks ∨ ∃ tk ac rf ex, Delivered env 1 tk ac rf ex ∧ t.tok.val = pickToken tk ac := by
  intro t ht
  rcases section2_toks env now st ch req t ht with h | ⟨_, tk, ac, rf, ex, _, hd, rfl⟩
  · exact Or.inl h
  · exact Or.inr ⟨tk, ac, rf, ex, hd, rfl⟩

theorem cache_growth_section1 (env : Env) (now : Nat) (st : HostSt) (req : ReqInfo) :
    ∀ t ∈ (section1 env now st req).1.toks,
      t ∈ st.toks ∨ ∃ tk ac rf ex, Delivered env 0 tk ac rf ex ∧ t.tok.val = pickToken tk ac := by
  intro t ht
  rcases section1_toks env now st req t ht with ⟨h, _⟩ | ⟨_, tk, ac, rf, ex, _, hd, rfl⟩
  · exact Or.inl h
  · exact Or.inr ⟨tk, ac, rf, ex, hd, rfl⟩

/-- A token cached in answer to a challenge is recorded under exactly the scope
whose text was sent in one of the token requests of that section (so the cache
never claims more than was asked of the token server); likewise for the
pre-emptive acquisition of the first section. -/
theorem cache_records_requested_scope (env : Env) (now : Nat) (st : HostSt) (ch : Chal) (req : ReqInfo)
    {sc : Scope} {a : Atom} {exp : Nat} :
    ((section2 env now st ch req).1.toks = st.toks ++ [⟨sc, a, exp⟩] →
      ∃ m ∈ (section2 env now st ch req).2.1, TokMsg (setChallenge st ch) ch sc m) ∧
    ((section1 env now st req).1.toks = (prune now st).toks ++ [⟨sc, a, exp⟩] →
      ∃ ch', st.challenge = some ch' ∧
        ∃ m ∈ (section1 env now st req).2.1, TokMsg (prune now st) ch' sc m) := by
  constructor
  · intro h
    rcases section2_cases env now st ch req with ⟨_, o, he, _, _, hrec⟩ | ⟨_, he, _⟩
    · rw [he] at h ⊢
      exact hrec _ _ _ h
    · rw [he] at h; simp at h
  · intro h
    rcases section1_cases env now st req with ⟨he, _⟩ | ⟨_, ch, hch, _, _, o, he, ha⟩
    · rw [he] at h; simp at h
    · rw [he] at h ⊢
      exact ⟨ch, hch, ha.recorded _ _ _ h⟩

/-! ### Freshness -/

/-- A token taken from the cache expires at least one second after `now`. -/
theorem bearer_fresh (env : Env) (now : Nat) (st : HostSt) (req : ReqInfo) {a : Atom}
    (h : (section1 env now st req).2.2 = some (.bearer a)) (hsilent : (section1 env now st req).2.1 = []) :
    ∃ t ∈ st.toks, t.tok = a ∧ now + marginMs ≤ t.expires := by
  rcases section1_bearer env now st req h with ⟨t, ht, h1, h2, _⟩ | ⟨_, _, _, _, _, _, _, _, _, _, _, _, _, hne⟩
  · exact ⟨t, ht, h1, h2⟩
  · exact absurd hsilent hne

/-- After the first section nothing in the cache expires within the next second
(expired tokens are dropped, new ones live at least one second). -/
theorem cache_fresh_after_section1 (env : Env) (now : Nat) (st : HostSt) (req : ReqInfo) :
    ∀ t ∈ (section1 env now st req).1.toks, now + marginMs ≤ t.expires := by
  intro t ht
  rcases section1_toks env now st req t ht with ⟨_, h⟩ | ⟨_, _, _, _, e, _, _, rfl⟩
  · exact h
  · exact Nat.add_le_add_left (margin_le_lifeOf e) now

/-! ### Coverage -/

/-- F39: `bearer_covers` with `req.required` itself in place of its requestable part, for
every limited required scope (for an unlimited one it cannot hold: the scope a token was
asked under is never unlimited, `token_server_never_asked_for_unlimited`). -/
theorem preemptive_bearer_covers_limited_required (env : Env) (now : Nat) (st : HostSt) (req : ReqInfo)
    (hr : WF req.required) (hw : WF req.want) (lr : req.required.unlimited = false) {host : Bytes} {a : Atom}
    (hm : Msg.registry host (.bearer a) ∈ (roundTrip env now st req).2.1) :
    (∃ t ∈ st.toks, t.tok = a ∧ now + marginMs ≤ t.expires ∧ contains t.scope req.required = true) ∨
    (∃ sc tk ac rf e, Delivered env 0 tk ac rf e ∧ a = ⟨st.host, .access, pickToken tk ac⟩ ∧
        contains sc req.required = true ∧
        (⟨sc, a, now + lifeOf e * 1000⟩ : Tok) ∈ (section1 env now st req).1.toks) ∨
    (∃ hdrs ch sc tk ac rf e, env.reg 0 = .resp 401 hdrs ∧ chalOf st.host hdrs = some ch ∧
        ch.scheme = .bearer ∧ Delivered env 1 tk ac rf e ∧ a = ⟨st.host, .access, pickToken tk ac⟩ ∧
        contains sc (parseScope ch.scope) = true ∧
        (⟨sc, a, now + lifeOf e * 1000⟩ : Tok) ∈ (section2 env now (section1 env now st req).1 ch req).1.toks) := by
  have h := bearer_covers env now st req hr hw hm
  rwa [requestable_of_limited lr] at h

/-- Coverage as set inclusion (C09's `contains_iff_subset`): a cached token of a
limited scope that is reused confers every resource scope the request requires. -/
theorem cached_bearer_covers_as_sets (env : Env) (now : Nat) (st : HostSt) (req : ReqInfo) (hJ : J st)
    (hr : WF req.required) (hl : req.required.unlimited = false) {a : Atom}
    (h : (section1 env now st req).2.2 = some (.bearer a)) (hsilent : (section1 env now st req).2.1 = []) :
    ∃ t ∈ st.toks, t.tok = a ∧ (t.scope.unlimited = true ∨ ∀ r, Mem r req.required → Mem r t.scope) := by
  rcases section1_bearer env now st req h with ⟨t, ht, h1, _, hc, _⟩ | ⟨_, _, _, _, _, _, _, _, _, _, _, _, _, hne⟩
  · refine ⟨t, ht, h1, ?_⟩
    cases hu : t.scope.unlimited with
    | true => exact Or.inl rfl
    | false => exact Or.inr ((C09.contains_iff_subset t.scope req.required (hJ.tok_wf t ht) hr hu hl).mp hc)
  · exact absurd hsilent hne

/-- A token acquired in answer to a challenge is recorded under a scope that
contains the challenge's scope (`mem_union`), was delivered by the token server
in this section, and `tokenAcquired` is reported. -/
theorem fresh_bearer_covers_challenge (env : Env) (now : Nat) (st : HostSt) (ch : Chal) (req : ReqInfo)
    (hr : WF req.required) (hw : WF req.want) {a : Atom} {acq : Bool}
    (h : (section2 env now st ch req).2.2 = .added (.bearer a) acq) :
    ∃ sc tk ac rf e, Delivered env 1 tk ac rf e ∧ a = ⟨st.host, .access, pickToken tk ac⟩ ∧
      (section2 env now st ch req).1.toks = st.toks ++ [⟨sc, a, now + lifeOf e * 1000⟩] ∧
      contains sc (parseScope ch.scope) = true := by
  obtain ⟨_, _, sc, tk, ac, rf, e, _, hd, ha, ht, _, hc⟩ := section2_bearer env now st ch req hr hw h
  exact ⟨sc, tk, ac, rf, e, hd, ha, ht, hc⟩

/-! ### A cache hit is silent -/

/-- With a cached token that is valid one second from now and whose scope
contains the required scope, `setAuthorization` sends nothing and uses such a
token. -/
theorem cache_hit_is_silent_section (env : Env) (now : Nat) (st : HostSt) (req : ReqInfo)
    (h : ∃ t ∈ st.toks, now + marginMs ≤ t.expires ∧ contains t.scope req.required = true) :
    ∃ t' ∈ st.toks, now + marginMs ≤ t'.expires ∧ contains t'.scope req.required = true ∧
      section1 env now st req = (prune now st, [], some (.bearer t'.tok)) := by
  obtain ⟨t, ht, hexp, hcon⟩ := h
  -- `tokenFor` finds a token, since `t` is still there after pruning and covers the required scope
  rcases section1_cases env now st req with ⟨hst, hms, ⟨t', ht', hexp', hcon', hh⟩ | ⟨hn, _⟩⟩ | ⟨hn, _⟩
  · exact ⟨t', ht', hexp', hcon', Prod.ext hst (Prod.ext hms hh)⟩
  all_goals
    have := tokenFor_none hn t ((mem_prune_toks now st t).mpr ⟨ht, hexp⟩)
    rw [hcon] at this; cases this

/-- With such a cached token the call starts with the forwarded request carrying it; unless the
registry answers 401 with an acceptable challenge, that request is the only
message of the call: no token request, no second round trip. -/
theorem cache_hit_is_silent (env : Env) (now : Nat) (st : HostSt) (req : ReqInfo)
    (h : ∃ t ∈ st.toks, now + marginMs ≤ t.expires ∧ contains t.scope req.required = true) :
    ∃ t' ∈ st.toks, now + marginMs ≤ t'.expires ∧ contains t'.scope req.required = true ∧
      (∃ rest, (roundTrip env now st req).2.1 = Msg.registry st.host (.bearer t'.tok) :: rest) ∧
      (NoChallenge env st.host →
        (roundTrip env now st req).2.1 = [Msg.registry st.host (.bearer t'.tok)] ∧
        (roundTrip env now st req).1 = prune now st) := by
  obtain ⟨t', ht', hexp, hcon, hs1⟩ := cache_hit_is_silent_section env now st req h
  have hh : (section1 env now st req).2.2 = some (.bearer t'.tok) := by rw [hs1]
  refine ⟨t', ht', hexp, hcon, ?_, fun hnc => ?_⟩
  · obtain ⟨rest, hr⟩ := roundTrip_first_msg env now st req hh
    rw [hs1] at hr
    exact ⟨rest, hr⟩
  · obtain ⟨st', tail, r, he, hc⟩ := roundTrip_cases env now st req
    rcases hc with ⟨hn, _⟩ | ⟨h1, hh1, ⟨_, rfl, rfl, _⟩ | ⟨hdrs, ch, hreg, hch, _⟩⟩
    · rw [hh] at hn; cases hn
    · rw [hh] at hh1; cases hh1
      rw [he, hs1]; exact ⟨rfl, rfl⟩
    · exact absurd hnc (not_noChallenge hreg hch)

/-! ### What a token request asks for -/

/-- In answer to a Bearer challenge every token request asks for
`challenge scope ∪ (want ∪ required)` or, after a 401 from the token server, for
the challenge scope alone; it goes to the challenge's realm with its service. -/
-- F39: `want` and `required` enter with their requestable parts (themselves when
-- limited, nothing when unlimited: `mem_requestable`), so the challenge scope is
-- always in the request.
theorem token_request_scope (env : Env) (now : Nat) (st : HostSt) (ch : Chal) (req : ReqInfo) :
    ∀ m ∈ (section2 env now st ch req).2.1,
      ch.scheme = .bearer ∧
      (TokMsg (setChallenge st ch) ch
          (union (parseScope ch.scope) (union (requestable req.want) (requestable req.required))) m ∨
        TokMsg (setChallenge st ch) ch (parseScope ch.scope) m) := by
  intro m hm
  obtain ⟨h1, h2, _⟩ := section2_tokmsgs env now st ch req m hm
  exact ⟨h1, h2⟩

/-- A pre-emptive token request (refresh-token flow of the first section) asks for
`required ∪ want`, or `required` alone after a 401. -/
-- F39: with their requestable parts.
theorem token_request_scope_preemptive (env : Env) (now : Nat) (st : HostSt) (req : ReqInfo) :
    ∀ m ∈ (section1 env now st req).2.1,
      ∃ ch, st.challenge = some ch ∧ ch.scheme = .bearer ∧
        (TokMsg (prune now st) ch (union (requestable req.required) (requestable req.want)) m ∨
          TokMsg (prune now st) ch (requestable req.required) m) := by
  intro m hm
  obtain ⟨ch, h1, h2, _, h4, _⟩ := section1_tokmsgs env now st req m hm
  exact ⟨ch, h1, h2, h4⟩

/-- The printed scope of the wide request is the union as a set
(`mem_union`) and, when `want ∪ required` adds nothing to the challenge's scope,
it is the challenge's own scope text, byte for byte (`union_noop_returns_receiver`). -/
-- F39: for EVERY required and desired scope, limited or not; the scope printed is the
-- one of `token_request_scope`, and it is never the unlimited scope.
theorem token_request_text (ch : Chal) (req : ReqInfo) (hr : WF req.required) (hw : WF req.want) :
    (∀ r, Mem r (union (parseScope ch.scope) (union (requestable req.want) (requestable req.required))) ↔
      Mem r (parseScope ch.scope) ∨ Mem r req.want ∨ Mem r req.required) ∧
    ((∀ r, Mem r req.want ∨ Mem r req.required → Mem r (parseScope ch.scope)) →
      toStr (union (parseScope ch.scope) (union (requestable req.want) (requestable req.required))) = ch.scope) ∧
    (union (parseScope ch.scope) (union (requestable req.want) (requestable req.required))).unlimited = false := by
  have lw := requestable_limited req.want
  have lr := requestable_limited req.required
  have hw' := requestable_wf hw
  have hr' := requestable_wf hr
  have lu := union_requestable_limited req.want req.required
  have wu := C09.union_wf _ _ hw' hr'
  refine ⟨?_, ?_, ?_⟩
  · intro r
    rw [C09.mem_union _ _ (C09.parseScope_wf _) wu (parseScope_unlimited _) lu,
      C09.mem_union _ _ hw' hr' lw lr, mem_requestable, mem_requestable]
  · intro hsub
    rw [C09.union_noop_returns_receiver _ _ (C09.parseScope_wf _) wu (parseScope_unlimited _) lu, toStr_parseScope]
    intro r hr''
    have h := (C09.mem_union _ _ hw' hr' lw lr r).mp hr''
    rw [mem_requestable, mem_requestable] at h
    exact hsub r h
  · exact section2_scope_limited (Or.inl rfl)

/-- F39: the same for the pre-emptive request of the first section: as a set it is
`required ∪ want`, whatever the two scopes, and it is never the unlimited scope;
the retry after a 401 asks for `required` as a set. -/
theorem token_request_text_preemptive (req : ReqInfo) (hr : WF req.required) (hw : WF req.want) :
    (∀ r, Mem r (union (requestable req.required) (requestable req.want)) ↔ Mem r req.required ∨ Mem r req.want) ∧
    (union (requestable req.required) (requestable req.want)).unlimited = false ∧
    (∀ r, Mem r (requestable req.required) ↔ Mem r req.required) ∧
    (requestable req.required).unlimited = false := by
  refine ⟨?_, union_requestable_limited _ _, mem_requestable _, requestable_limited _⟩
  intro r
  rw [C09.mem_union _ _ (requestable_wf hr) (requestable_wf hw) (requestable_limited _) (requestable_limited _),
    mem_requestable, mem_requestable]

/-- F39: no token request of either section asks for the unlimited scope (whose
text would be `*`): the scope it was made for is limited. -/
theorem token_server_never_asked_for_unlimited (env : Env) (now : Nat) (st : HostSt) (ch : Chal) (req : ReqInfo) :
    (∀ m ∈ (section2 env now st ch req).2.1,
      ∃ sc, sc.unlimited = false ∧ TokMsg (setChallenge st ch) ch sc m) ∧
    (∀ m ∈ (section1 env now st req).2.1,
      ∃ ch' sc, st.challenge = some ch' ∧ sc.unlimited = false ∧ TokMsg (prune now st) ch' sc m) := by
  constructor
  · intro m hm
    obtain ⟨_, h | h, _⟩ := section2_tokmsgs env now st ch req m hm
    · exact ⟨_, section2_scope_limited (Or.inl rfl), h⟩
    · exact ⟨_, parseScope_unlimited _, h⟩
  · intro m hm
    obtain ⟨ch', h1, _, _, h | h, _⟩ := section1_tokmsgs env now st req m hm
    · exact ⟨ch', _, h1, section1_scope_limited (Or.inl rfl), h⟩
    · exact ⟨ch', _, h1, requestable_limited _, h⟩

/-- F39: a token delivered by a token server is never cached as good for every
scope: whatever a section adds to the cache has a limited scope. -/
theorem cache_never_records_unlimited (env : Env) (now : Nat) (st : HostSt) (ch : Chal) (req : ReqInfo) :
    (∀ t ∈ (section2 env now st ch req).1.toks, t ∈ st.toks ∨ t.scope.unlimited = false) ∧
    (∀ t ∈ (section1 env now st req).1.toks, t ∈ st.toks ∨ t.scope.unlimited = false) :=
  ⟨fun t ht => (section2_toks env now st ch req t ht).imp id fun ⟨_, _, _, _, _, hsc, _, ht⟩ =>
      ht ▸ section2_scope_limited hsc,
   fun t ht => (section1_toks env now st req t ht).imp And.left fun ⟨_, _, _, _, _, hsc, _, ht⟩ =>
      ht ▸ section1_scope_limited hsc⟩

/-- Over every history the only cached token that covers every scope is the
access token configured for this host. -/
theorem unlimited_token_is_the_configured_one {host : Bytes} {e : ConfigEntry} {st : HostSt} {envs : List Env}
    (h : Reach host e st envs) :
    ∀ t ∈ st.toks, t.scope.unlimited = true → t.tok = ⟨host, .access, e.accessToken⟩ ∧ e.accessToken ≠ [] := by
  intro t ht hu
  rcases reach_toks h t ht with ⟨hne, rfl⟩ | ⟨_, _, _, _, _, _, _, _, _, hl, _, rfl⟩
  · exact ⟨rfl, hne⟩
  · rw [hl] at hu; cases hu

/-- The fallback request prints the challenge's scope text unchanged. -/
theorem token_request_fallback_text (ch : Chal) : toStr (parseScope ch.scope) = ch.scope :=
  toStr_parseScope ch.scope

/-! ### Facts regenerated from the source -/

theorem shape_known : Generated.AuthFacts.shapeKnown = true := rfl

/-- The functions of the token cache have the fingerprints of the functions the model
mirrors (checked together, see `AuthShapeLemmas.lean`). -/
structure SourceFingerprints : Prop where
  accessTokenForScope :
    AuthShape.fingerprint "registry.accessTokenForScope" = some AuthShape.registry_accessTokenForScope
  deleteExpiredTokens :
    AuthShape.fingerprint "registry.deleteExpiredTokens" = some AuthShape.registry_deleteExpiredTokens
  acquireAccessToken :
    AuthShape.fingerprint "registry.acquireAccessToken" = some AuthShape.registry_acquireAccessToken
  requestableScope : AuthShape.fingerprint "requestableScope" = some AuthShape.requestableScope

theorem source_fingerprints : SourceFingerprints where
  accessTokenForScope := rfl
  deleteExpiredTokens := rfl
  acquireAccessToken := rfl
  requestableScope := rfl

theorem shape_accessTokenForScope :
    AuthShape.fingerprint "registry.accessTokenForScope" = some AuthShape.registry_accessTokenForScope :=
  source_fingerprints.accessTokenForScope
theorem shape_deleteExpiredTokens :
    AuthShape.fingerprint "registry.deleteExpiredTokens" = some AuthShape.registry_deleteExpiredTokens :=
  source_fingerprints.deleteExpiredTokens
theorem shape_acquireAccessToken :
    AuthShape.fingerprint "registry.acquireAccessToken" = some AuthShape.registry_acquireAccessToken :=
  source_fingerprints.acquireAccessToken
theorem shape_setAuthorization :
    AuthShape.fingerprint "registry.setAuthorization" = some AuthShape.registry_setAuthorization :=
  AuthShape.authorization_fingerprints.registry_setAuthorization
theorem shape_setAuthorizationFromChallenge :
    AuthShape.fingerprint "registry.setAuthorizationFromChallenge" =
      some AuthShape.registry_setAuthorizationFromChallenge :=
  AuthShape.authorization_fingerprints.registry_setAuthorizationFromChallenge
theorem shape_init : AuthShape.fingerprint "registry.init" = some AuthShape.registry_init :=
  AuthShape.authorization_fingerprints.registry_init
/-- F39: the helper the model's `requestable` mirrors. -/
theorem shape_requestableScope :
    AuthShape.fingerprint "requestableScope" = some AuthShape.requestableScope :=
  source_fingerprints.requestableScope
/-- The constants the model uses for the margin and the default lifetime are the
ones in the fingerprinted calls (`Add(time.Second)`, `Add(60 * time.Second)`).
F41: the other lifetime is `seconds` (the clamped `expires_in`: `consumer_as_modelled` in
`Props/C10T.lean` pins the clamp, `maxExpirySec` is `math.MaxInt64 / int64(time.Second)`)
times `time.Second`. -/
theorem time_constants :
    marginMs = 1000 ∧ defaultExpirySec = 60 ∧ maxExpirySec = 9223372036854775807 / 1000000000 ∧
    "r.deleteExpiredTokens(time.Now().UTC().Add(time.Second))" ∈ AuthShape.registry_setAuthorization.calls ∧
    "now.Add(60 * time.Second)" ∈ AuthShape.registry_acquireAccessToken.calls ∧
    "now.Add(time.Duration(seconds) * time.Second)" ∈ AuthShape.registry_acquireAccessToken.calls := by decide +kernel

/-! ### The hypotheses are satisfiable by non-trivial values -/

/-- "repository:foo:pull". -/
def exPull : Scope := parseScope (strBytes "repository:foo:pull")
/-- "repository:foo:pull,push". -/
def exBoth : Scope := parseScope (strBytes "repository:foo:pull,push")

/-- Host "r" with a cached token "T" for pull+push valid until t = 5000 and a
stored Bearer challenge. -/
def exSt : HostSt :=
  { host := [114]
    challenge := some ⟨[114], .bearer, [98], [], strBytes "repository:foo:pull"⟩
    toks := [⟨exBoth, ⟨[114], .access, [84]⟩, 5000⟩]
    refresh := none
    basic := none }

example : WF exPull ∧ WF exBoth := ⟨parseScope_wf _, parseScope_wf _⟩
example : J exSt := by
  refine ⟨?_, ?_, ?_, ?_, ?_⟩
  · intro t ht; simp [exSt] at ht; subst ht; exact ⟨rfl, rfl⟩
  · intro t ht; simp [exSt] at ht; subst ht; exact parseScope_wf _
  · intro a h; simp [exSt] at h
  · intro u p h; simp [exSt] at h
  · intro ch h; simp [exSt] at h; subst h; rfl
/-- The premise of `cache_hit_is_silent` holds of `exSt` at t = 1000 for a pull request. -/
example : ∃ t ∈ exSt.toks, 1000 + marginMs ≤ t.expires ∧ contains t.scope exPull = true :=
  ⟨_, List.mem_cons_self, by decide +kernel, by decide +kernel⟩
/-- At t = 4001 less than a second is left and the token of `exSt` is dropped; at t = 4000 it is kept. -/
example : (prune 4001 exSt).toks = [] ∧ (prune 4000 exSt).toks = exSt.toks := by decide +kernel
/-- The premise of the second conjunct of `token_request_text` holds for challenge
scope "repository:foo:pull,push", want = pull, required = pull. -/
example : ∀ r, Mem r exPull ∨ Mem r exPull → Mem r exBoth := by
  intro r h
  have := (C09.contains_iff_subset exBoth exPull (parseScope_wf _) (parseScope_wf _)
    (parseScope_unlimited _) (parseScope_unlimited _)).mp (by decide +kernel) r
  rcases h with h | h <;> exact this h
/-- For challenge scope "repository:foo:pull,push", want = pull, required = pull the request
prints the challenge's own text. -/
example : toStr (union exBoth (union (requestable exPull) (requestable exPull))) = strBytes "repository:foo:pull,push" :=
  (token_request_text ⟨[114], .bearer, [98], [], strBytes "repository:foo:pull,push"⟩ ⟨exPull, exPull⟩
    (parseScope_wf _) (parseScope_wf _)).2.1 (by
      intro r h
      have := (C09.contains_iff_subset exBoth exPull (parseScope_wf _) (parseScope_wf _)
        (parseScope_unlimited _) (parseScope_unlimited _)).mp (by decide +kernel) r
      rcases h with h | h <;> exact this h)
/-- F39: the same with an UNLIMITED desired scope (`ContextWithScope(ctx, UnlimitedScope())`),
required = pull: the request still prints the challenge's own text, not `*`. -/
example : toStr (union exBoth (union (requestable unlimitedScope) (requestable exPull))) =
    strBytes "repository:foo:pull,push" :=
  (token_request_text ⟨[114], .bearer, [98], [], strBytes "repository:foo:pull,push"⟩ ⟨exPull, unlimitedScope⟩
    (parseScope_wf _) wf_unlimitedScope).2.1 (by
      intro r h
      have := (C09.contains_iff_subset exBoth exPull (parseScope_wf _) (parseScope_wf _)
        (parseScope_unlimited _) (parseScope_unlimited _)).mp (by decide +kernel) r
      rcases h with h | h
      · exact absurd h (by simp [Mem, iter, unlimitedScope])
      · exact this h)
/-- F39: when the challenge names less than is required (challenge pull, required
pull+push, desired unlimited) the request is the text of challenge ∪ required; with the
unlimited scope itself in the union it would be `*` (`toStr unlimitedScope`). -/
example : toStr (union exPull (union (requestable unlimitedScope) (requestable exBoth))) =
    strBytes "repository:foo:pull,push" ∧ toStr (union exPull (union unlimitedScope exBoth)) = [42] := by
  decide +kernel
/-- The first request is answered 401 with a Bearer challenge for scope
"repository:foo:pull", later ones 200; the token server delivers "T" for 3600 s. -/
def exEnv : Env :=
  { reg := fun i => if i = 0 then .resp 401 [strBytes "Bearer realm=\"b\",scope=\"repository:foo:pull\""] else .resp 200 []
    tok := fun _ _ _ => .json [84] [] [] 3600
    realmOk := fun _ => true }
/-- Host "r", no credentials, nothing cached. -/
def exFresh : HostSt := { host := [114], challenge := none, toks := [], refresh := none, basic := none }
/-- F39 as a run of the model from `exFresh` (required pull, desired unlimited): the token
request carries the challenge's scope text, and "T" is cached under the challenge's scope,
not under the unlimited scope. -/
example :
    (roundTrip exEnv 0 exFresh ⟨exPull, unlimitedScope⟩).2.1 =
      [Msg.registry [114] .none,
       Msg.tokenGET [98] [114] none (strBytes "repository:foo:pull") [],
       Msg.registry [114] (.bearer ⟨[114], .access, [84]⟩)] ∧
    (roundTrip exEnv 0 exFresh ⟨exPull, unlimitedScope⟩).1.toks =
      [⟨exPull, ⟨[114], .access, [84]⟩, 3600000⟩] := by decide +kernel

end OciModel.Props.C10
