/-
C02J (part of C02 and C14): what a pushed manifest references is decided by a JSON decoder.
The decoder is part of the model (`Json.lean`, `ManifestDecode.lean`); these are its properties, for
ALL byte strings / value trees.

The correspondence with Go's `encoding/json` + `ocimem/desciter.go` is checked by differential
execution (`harness/c02j.go`); the theorems below are about the model.
-/
import OciModel.ManifestDecodeLemmas
import OciModel.Generated.DescIter
namespace OciModel.Props.C02J
open OciModel OciModel.Json OciModel.Mem OciModel.ManifestDecode

/-! ## The reader -/

/-- The reader is a total function (plain structural recursion: no fuel, no partiality): every
byte string is either rejected or yields exactly one value tree. -/
theorem reader_total (b : Bytes) : parse b = none ∨ ∃ v, parse b = some v := by
  cases parse b with
  | none => exact Or.inl rfl
  | some v => exact Or.inr ⟨v, rfl⟩

/-- So is the decoder: opaque, malformed, or a list of references. -/
theorem decoder_total (mt data : Bytes) :
    decodeRefs mt data = .opaque ∨ decodeRefs mt data = .malformed ∨ ∃ rs, decodeRefs mt data = .refs rs := by
  generalize decodeRefs mt data = r
  cases r <;> simp

/-- Round trip on the model's own documents: reading the canonical rendering of a tree gives
the tree back (strings well-formed UTF-8, numbers number literals, at most 10000 levels). -/
theorem parse_print_roundtrip (v : JVal) (hwf : WF v) (hd : depth v ≤ maxDepth) :
    parse (print v) = some v :=
  parse_print v hwf hd

/-- The round trip also holds with white space around the rendering. -/
theorem surrounding_whitespace_accepted (v : JVal) (hwf : WF v) (hd : depth v ≤ maxDepth) (ws1 ws2 : Bytes)
    (h1 : ws1.all isWs = true) (h2 : ws2.all isWs = true) : parse (ws1 ++ print v ++ ws2) = some v :=
  parse_print_ws v hwf hd ws1 ws2 h1 h2

/-- Whatever the reader yields satisfies the hypotheses of the round trip: its strings are well-formed
UTF-8 (ill-formed input bytes have been replaced), its numbers are number literals, it is at most 10000 deep. -/
theorem reader_output_well_formed (b : Bytes) (v : JVal) (h : parse b = some v) : WF v ∧ depth v ≤ maxDepth :=
  parse_wf b v h

/-- Reading is stable: the canonical rendering of ANY document that was read reads back as the same
tree. -/
theorem rereading_is_stable (b : Bytes) (v : JVal) (h : parse b = some v) : parse (print v) = some v :=
  parse_print v (parse_wf b v h).1 (parse_wf b v h).2

/-- The hypotheses are satisfiable by a tree with every kind of node, escapes and non-ASCII text. -/
example : WF (.obj [(strBytes "k\"\n", .arr [.null, .bool true, .num (strBytes "-1.5e+3"), .str (strBytes "é\\€😀")]),
      (strBytes "", .obj [])]) ∧
    depth (.obj [(strBytes "k\"\n", .arr [.null, .bool true, .num (strBytes "-1.5e+3"), .str (strBytes "é\\€😀")]),
      (strBytes "", .obj [])]) ≤ maxDepth := by decide +kernel

/-- Nothing but white space may follow the value: a document that the reader accepts, followed by
anything that is not white space and does not start like the continuation of a number literal
(digits, `.`, `e`, `E`, `+`, `-`), is rejected. -/
theorem nothing_after_the_value (d junk : Bytes) (v : JVal) (h : parse d = some v)
    (hj : junk.all isWs = false) (hb : NoCont junk) : parse (d ++ junk) = none :=
  parse_append_none d junk v h hj (Or.inr hb)

/-- When the value is not a bare number (every manifest is an object) anything but white space after it
is rejected, with no condition on how the extra bytes start. -/
theorem nothing_after_a_container (d junk : Bytes) (v : JVal) (h : parse d = some v) (hv : ∀ t, v ≠ .num t)
    (hj : junk.all isWs = false) : parse (d ++ junk) = none :=
  parse_append_none d junk v h hj (Or.inl hv)

example : parse (strBytes "{\"a\":[1]} ") = some (.obj [(strBytes "a", .arr [.num (strBytes "1")])]) ∧
    (strBytes "}garbage").all isWs = false ∧ NoCont (strBytes "}garbage") := by
  refine ⟨rfl, by decide, by decide +kernel⟩

/-! ## The decoder -/

/-- A manifest that decodes to references stops decoding as soon as anything but white space is
appended: `json.Unmarshal` validates the whole input (a `json.Decoder` would not). -/
theorem trailing_bytes_malformed (mt d junk : Bytes) (rs : List RefInfo) (h : decodeRefs mt d = .refs rs)
    (hj : junk.all isWs = false) : decodeRefs mt (d ++ junk) = .malformed := by
  rcases decodeRefs_refs h with ⟨h1, h⟩ | ⟨h1, h⟩
  · rw [h1, decodeRefs_imageMT]; exact decodeWith_trailing _ _ d junk rs h hj
  · rw [h1, decodeRefs_indexMT]; exact decodeWith_trailing _ _ d junk rs h hj

example : decodeRefs imageMT (strBytes "{\"config\":{\"digest\":\"d\"}}") =
    .refs [⟨0, ⟨[], strBytes "d", 0⟩⟩] := by decide +kernel

/-- Media types other than the two OCI ones are opaque: nothing is decoded, nothing referenced. -/
theorem other_media_types_opaque (mt data : Bytes) (h1 : mt ≠ imageMT) (h2 : mt ≠ indexMT) :
    decodeRefs mt data = .opaque := by
  simp [decodeRefs, h1, h2]

/-- Members whose name selects no field (exactly or under case folding) are ignored, whatever
their value, in the manifest / index object. -/
theorem unknown_members_ignored (table : List (Bytes × TopField)) (refs : Top → List RefInfo)
    (l₁ l₂ : List (Bytes × JVal)) (k : Bytes) (v : JVal) (hk : lookupField table k = none) :
    refsOfVal table refs (.obj (l₁ ++ (k, v) :: l₂)) = refsOfVal table refs (.obj (l₁ ++ l₂)) := by
  simp only [refsOfVal, decodeTop_unknown table l₁ l₂ k v hk]

/-- Members of a descriptor object whose name selects no field are ignored in the same way. -/
theorem unknown_descriptor_members_ignored (base : Desc) (l₁ l₂ : List (Bytes × JVal)) (k : Bytes) (v : JVal)
    (hk : lookupField descTable k = none) :
    mergeDesc base (.obj (l₁ ++ (k, v) :: l₂)) = mergeDesc base (.obj (l₁ ++ l₂)) :=
  foldlM_skip descStep (k, v) (fun d => by simp only [descStep, hk]) l₁ l₂ base

example : lookupField manifestTable (strBytes "layer") = none ∧ lookupField descTable (strBytes "size ") = none ∧
    lookupField descTable (strBytes "sıze") = none := by decide +kernel

/-- What does select a field: the exact name, any other case, and the non-ASCII letter `ſ` (U+017F),
which folds to `s`. -/
example : lookupField descTable (strBytes "size") = some .size ∧ lookupField descTable (strBytes "SiZe") = some .size ∧
    lookupField descTable (strBytes "ſIZE") = some .size ∧ lookupField manifestTable (strBytes "LAYERſ") = some .items ∧
    lookupField platTable (strBytes "OS.Version") = some .osVersion := by decide +kernel

instance {F : Type} [DecidableEq F] (table : List (Bytes × F)) : DecidableRel (Indep table) :=
  fun _ _ => inferInstanceAs (Decidable (_ ∨ _))

/-- Member order does not matter, as long as no two members select the same field (members that
select no field may repeat), in the manifest / index object. -/
theorem member_order_irrelevant (table : List (Bytes × TopField)) (refs : Top → List RefInfo)
    {l₁ l₂ : List (Bytes × JVal)} (p : l₁.Perm l₂) (hp : l₁.Pairwise (Indep table)) :
    refsOfVal table refs (.obj l₁) = refsOfVal table refs (.obj l₂) := by
  simp only [refsOfVal, decodeTop_perm table p hp]

/-- Member order does not matter in a descriptor object either, under the same condition. -/
theorem descriptor_member_order_irrelevant (base : Desc) {l₁ l₂ : List (Bytes × JVal)} (p : l₁.Perm l₂)
    (hp : l₁.Pairwise (Indep descTable)) : mergeDesc base (.obj l₁) = mergeDesc base (.obj l₂) :=
  foldlM_perm_indep descTable descStep (fun kv h d => by simp only [descStep, h]) descStep_comm p hp base

example : [(strBytes "size", JVal.num (strBytes "3")), (strBytes "x", .null), (strBytes "Digest", .str (strBytes "d")),
      (strBytes "x", .bool true)].Pairwise (Indep descTable) := by decide +kernel

/-- Without that condition order DOES matter (a later member is decoded into what an earlier one
left), which is why the condition is there. -/
example : mergeDesc zeroDesc (.obj [(strBytes "size", .num (strBytes "1")), (strBytes "Size", .num (strBytes "2"))]) ≠
    mergeDesc zeroDesc (.obj [(strBytes "Size", .num (strBytes "2")), (strBytes "size", .num (strBytes "1"))]) := by decide +kernel

/-- Completeness on canonical documents: the canonical rendering of an image manifest (config,
layers, optional subject; any white space around it) decodes to exactly its references, in
ocimem's order: layers, config, subject. -/
theorem canonical_manifest_complete (m : Manifest) (h : m.OK) (ws1 ws2 : Bytes)
    (h1 : ws1.all isWs = true) (h2 : ws2.all isWs = true) :
    decodeRefs imageMT (ws1 ++ print (manifestJ m) ++ ws2) = .refs m.refs :=
  decodeRefs_manifest m h ws1 ws2 h1 h2

/-- The same for an image index: manifests, then the subject. -/
theorem canonical_index_complete (m : Index) (h : m.OK) (ws1 ws2 : Bytes)
    (h1 : ws1.all isWs = true) (h2 : ws2.all isWs = true) :
    decodeRefs indexMT (ws1 ++ print (indexJ m) ++ ws2) = .refs m.refs :=
  (decodeRefs_indexMT _).trans
    (decodeWith_print _ _ _ _ (wf_indexJ m h) (Nat.le_trans (depth_indexJ m) (by decide)) (decodeTop_indexJ m h)
      ws1 ws2 h1 h2)

example : Manifest.OK ⟨⟨strBytes "application/octet-stream", strBytes "sha256:é", 7⟩,
    [⟨strBytes "a", strBytes "b", 0⟩, ⟨[], [], -1⟩], some ⟨strBytes "m", strBytes "sha256:0", 9223372036854775807⟩⟩ := by
  refine ⟨by decide, ?_, ?_⟩
  · intro d hd; simp at hd; rcases hd with rfl | rfl <;> decide +kernel
  · intro d hd; cases hd; decide +kernel

/-- Soundness, for EVERY byte string: whatever the decoder returns as a reference was written in
the document — each of its three fields is either the zero value (an absent member) or occurs in
the parsed document as a string value, resp. as a number whose text is that `int64`. Nothing is
made up, also not by the merging of repeated members. -/
theorem references_occur_in_document (mt data : Bytes) (rs : List RefInfo) (h : decodeRefs mt data = .refs rs) :
    ∃ doc, parse data = some doc ∧ ∀ r ∈ rs,
      (r.desc.mediaType = [] ∨ HasStr r.desc.mediaType doc) ∧ (r.desc.digest = [] ∨ HasStr r.desc.digest doc) ∧
      (r.desc.size = 0 ∨ ∃ t, HasNum t doc ∧ parseInt64 t = some r.desc.size) := by
  rcases decodeRefs_refs h with ⟨_, h⟩ | ⟨_, h⟩
  · exact decodeWith_from _ _ (fun _ _ => imageRefs_from) data rs h
  · exact decodeWith_from _ _ (fun _ _ => indexRefs_from) data rs h

/-- The kinds of the references are fixed by the media type: an image manifest references blobs
(kind 0) and at most one subject (kind 2), an index manifests (kind 1) and at most one subject. -/
theorem reference_kinds (mt data : Bytes) (rs : List RefInfo) (h : decodeRefs mt data = .refs rs) :
    (mt = imageMT ∧ ∀ r ∈ rs, r.kind = 0 ∨ r.kind = 2) ∨ (mt = indexMT ∧ ∀ r ∈ rs, r.kind = 1 ∨ r.kind = 2) := by
  rcases decodeRefs_refs h with ⟨h1, h⟩ | ⟨h1, h⟩ <;> obtain ⟨V, m, _, _, rfl⟩ := decodeWith_refs h
  · exact Or.inl ⟨h1, imageRefs_kind m⟩
  · exact Or.inr ⟨h1, indexRefs_kind m⟩

/-! ## The quirks, pinned (each one observed on the Go decoder by the differential check) -/

set_option maxRecDepth 20000 in
/-- A repeated list member reuses the backing array: elements are merged into what an earlier,
longer occurrence left behind, even after the list was cut short in between. -/
example : decodeRefs imageMT (strBytes
    "{\"layers\":[{\"digest\":\"A\"},{\"digest\":\"B\"},{\"digest\":\"C\"}],\"layers\":[{\"size\":1}],\"layers\":[{},{}]}") =
    .refs [⟨0, ⟨[], strBytes "A", 1⟩⟩, ⟨0, ⟨[], strBytes "B", 0⟩⟩, ⟨0, zeroDesc⟩] := by decide +kernel

/-- An empty array starts afresh: nothing of the earlier occurrence is left. -/
example : decodeRefs imageMT (strBytes "{\"layers\":[{\"digest\":\"A\"}],\"layers\":[],\"layers\":[{}]}") =
    .refs [⟨0, zeroDesc⟩, ⟨0, zeroDesc⟩] := by decide +kernel

/-- `null` as the document: nothing set, no error. Sizes must be plain integers within `int64`. -/
example : decodeRefs indexMT (strBytes "null") = .refs [] ∧
    decodeRefs imageMT (strBytes "{\"config\":{\"size\":1.0}}") = .malformed ∧
    decodeRefs imageMT (strBytes "{\"config\":{\"size\":9223372036854775808}}") = .malformed ∧
    decodeRefs imageMT (strBytes "{\"config\":{\"size\":-9223372036854775808}}") =
      .refs [⟨0, ⟨[], [], -9223372036854775808⟩⟩] := by decide +kernel

/-- A type error in a field ocimem never reads still makes the manifest malformed; under a name
no field has, anything goes. -/
example : decodeRefs imageMT (strBytes "{\"annotations\":{\"a\":1}}") = .malformed ∧
    decodeRefs imageMT (strBytes "{\"annotation\":{\"a\":1},\"config\":{\"data\":\"QQ==\"}}") = .refs [⟨0, zeroDesc⟩] ∧
    decodeRefs imageMT (strBytes "{\"config\":{\"data\":\"QQ=\"}}") = .malformed := by decide +kernel

/-! ## The source has the shape the model mirrors (facts regenerated from the working tree) -/

open OciModel.Generated in
/-- `desciter.go`: the two OCI media types and nothing else are looked into, an unknown media type
yields nothing, and the bytes are decoded with `json.Unmarshal` (which validates the WHOLE input),
failing closed. -/
theorem desciter_decoding_as_modelled :
    DescIter.iteratorTable = [("ocispec.MediaTypeImageManifest", "imageDescIter"), ("ocispec.MediaTypeImageIndex", "indexDescIter")] ∧
    DescIter.iteratorTableKnown = true ∧ DescIter.manifestReferencesKnown = true ∧
    DescIter.decodeCall = "json.Unmarshal(data, &x)" ∧ DescIter.decodeShapeKnown = true := ⟨rfl, rfl, rfl, rfl, rfl⟩

open OciModel.Generated in
/-- `imageDescIter` yields every layer and the config as blobs, then the subject if there is one;
`indexDescIter` every manifest, then the subject: unconditionally, in this order. -/
theorem desciter_yields_as_modelled :
    DescIter.imageDescIterYields = [("each", "Layers", "kindBlob", ""), ("one", "Config", "kindBlob", ""),
      ("ptr", "Subject", "kindSubjectManifest", "m.Subject != nil")] ∧ DescIter.imageDescIterKnown = true ∧
    DescIter.indexDescIterYields = [("each", "Manifests", "kindManifest", ""),
      ("ptr", "Subject", "kindSubjectManifest", "m.Subject != nil")] ∧ DescIter.indexDescIterKnown = true ∧
    DescIter.imageDescIterParam = "ociregistry.Manifest" ∧ DescIter.manifestAlias = "ocispec.Manifest" ∧
    DescIter.indexDescIterParam = "ocispec.Index" ∧ DescIter.descriptorAlias = "ocispec.Descriptor" := ⟨rfl, rfl, rfl, rfl, rfl, rfl, rfl, rfl⟩

/-- The reference kind a yield carries, as `checkManifest` / `refersTo` treat it (`Mem.lean`:
0 looked up among the blobs, 1 among the manifests, 2 the subject, which may dangle). -/
def kindNo : String → Nat
  | "kindBlob" => 0
  | "kindManifest" => 1
  | "kindSubjectManifest" => 2
  | _ => 99

/-- What one extracted yield statement contributes to the references of a decoded struct. -/
def yieldRefs (m : Top) (y : String × String × String × String) : List RefInfo :=
  if y.1 = "each" then m.items.vis.map (fun d => ⟨kindNo y.2.2.1, d⟩)
  else if y.1 = "one" then [⟨kindNo y.2.2.1, m.config⟩]
  else if y.1 = "ptr" then (match m.subject with | some d => [⟨kindNo y.2.2.1, d⟩] | none => [])
  else []

open OciModel.Generated in
/-- The model's reference lists are the extracted yield sequences, read off one by one. -/
theorem model_refs_follow_the_yields (m : Top) :
    imageRefs m = DescIter.imageDescIterYields.flatMap (yieldRefs m) ∧
    indexRefs m = DescIter.indexDescIterYields.flatMap (yieldRefs m) := by
  constructor
  · simp [imageRefs, DescIter.imageDescIterYields, yieldRefs, kindNo]
    cases m.subject <;> rfl
  · simp [indexRefs, DescIter.indexDescIterYields, yieldRefs, kindNo]
    cases m.subject <;> rfl

open OciModel.Generated in
/-- The structs `json.Unmarshal` fills (image-spec as pinned by go.mod): fields, JSON names and Go
types are the ones the model's `descStep` / `okPlatMember` / `topStep` mirror, and no
type involved decodes itself (`digest.Digest` is a plain string). -/
theorem decoded_types_as_modelled :
    DescIter.structDescriptor = [("MediaType", "mediaType", "string"), ("Digest", "digest", "digest.Digest"),
      ("Size", "size", "int64"), ("URLs", "urls", "[]string"), ("Annotations", "annotations", "map[string]string"),
      ("Data", "data", "[]byte"), ("Platform", "platform", "*Platform"), ("ArtifactType", "artifactType", "string")] ∧
    DescIter.structPlatform = [("Architecture", "architecture", "string"), ("OS", "os", "string"),
      ("OSVersion", "os.version", "string"), ("OSFeatures", "os.features", "[]string"), ("Variant", "variant", "string")] ∧
    DescIter.structVersioned = [("SchemaVersion", "schemaVersion", "int")] ∧
    DescIter.structManifest = [("<embedded>", "", "specs.Versioned"), ("MediaType", "mediaType", "string"),
      ("ArtifactType", "artifactType", "string"), ("Config", "config", "Descriptor"), ("Layers", "layers", "[]Descriptor"),
      ("Subject", "subject", "*Descriptor"), ("Annotations", "annotations", "map[string]string")] ∧
    DescIter.structIndex = [("<embedded>", "", "specs.Versioned"), ("MediaType", "mediaType", "string"),
      ("ArtifactType", "artifactType", "string"), ("Manifests", "manifests", "[]Descriptor"),
      ("Subject", "subject", "*Descriptor"), ("Annotations", "annotations", "map[string]string")] ∧
    DescIter.digestType = "string" ∧ DescIter.customUnmarshal = false ∧ DescIter.specSourcesRead = true := ⟨rfl, rfl, rfl, rfl, rfl, rfl, rfl, rfl⟩

open OciModel.Generated in
/-- The model's member-name tables are exactly the JSON names of those structs, in declaration
order (the embedded `specs.Versioned` contributing its field first). -/
theorem model_tables_are_the_struct_tags :
    descTable.map (·.1) = DescIter.structDescriptor.map (fun f => strBytes f.2.1) ∧
    platTable.map (·.1) = DescIter.structPlatform.map (fun f => strBytes f.2.1) ∧
    manifestTable.map (·.1) = (DescIter.structVersioned ++ DescIter.structManifest.tail).map (fun f => strBytes f.2.1) ∧
    indexTable.map (·.1) = (DescIter.structVersioned ++ DescIter.structIndex.tail).map (fun f => strBytes f.2.1) := by decide +kernel

end OciModel.Props.C02J
