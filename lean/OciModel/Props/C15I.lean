/-
C15I (sub-check of C15) — the composite upload ID of `ociunify` with its REAL encoding.

A chunked upload through the unifier runs on both members; it is named by
`base64url(JSON [id0, id1])` (`unifiedBlobWriter.ID`), and `PushBlobChunkedResume` takes every
resumed call back to member `i`'s session `ids[i]`. C15's "members that start equal stay equal" rests,
for chunked uploads, on this ID: here the encoder (`encoding/json`'s string encoder, byte for byte) and
the decoder (base64url without padding, the JSON reader, `[]string` decoding, the length check) are the
model, and the properties are proved for ALL byte strings.

Trusted base of this file: that `UnifyID.lean` transcribes `writer.go` and the two standard-library
codecs (checked on every run by differential execution against `ociunify.New` over recording members,
`harness/c15i.go`); the JSON reader `Json.lean` and base64url `B64Url.lean` are shared with C02J / C03.
Only statements and short proofs live here; lemmas are in `UnifyIDLemmas.lean`, `UnifyIDStandin.lean`,
`UnifyIDSim.lean` (§5, the two readings of a step) and `UnifyIDResp.lean` (§7).
-/
import OciModel.UnifyID
import OciModel.UnifyIDLemmas
import OciModel.UnifyIDStandin
import OciModel.UnifyIDSim
import OciModel.UnifyIDResp
import OciModel.ReqCodecLemmas
import OciModel.Props.C15
import OciModel.Generated.UnifyID

namespace OciModel.Props.C15I
open OciModel OciModel.Json OciModel.UnifyID OciModel.Unify OciModel.ReqCodec

/-! ### 1. Resuming with the reported ID reaches the two member sessions -/

/-- For ANY two member IDs: the ID the unified writer reports is accepted on resumption, and member `i`
is resumed with the image of its ID under `sanitize` (every byte that is not part of a well-formed
UTF-8 sequence replaced by U+FFFD) — nothing else is lost, whatever the bytes (`"`, `\`, `<`, `&`,
control characters, U+2028/9, `/`, `?`, the empty string, any length). -/
theorem decode_encode (a b : Bytes) : decodeID (encodeID a b) = some (sanitize a, sanitize b) :=
  decodeID_encodeID a b

/-- `sanitize` is the identity exactly on well-formed UTF-8; its image is well-formed; it is idempotent. -/
theorem sanitize_spec (s : Bytes) :
    (sanitize s = s ↔ ValidUtf8 s) ∧ ValidUtf8 (sanitize s) ∧ sanitize (sanitize s) = sanitize s :=
  ⟨sanitize_eq_iff s, valid_sanitize s, sanitize_idem s⟩

/-- Member IDs that are well-formed UTF-8 (what registries issue) survive unchanged. -/
theorem decode_encode_valid (a b : Bytes) (ha : ValidUtf8 a) (hb : ValidUtf8 b) :
    decodeID (encodeID a b) = some (a, b) := by
  rw [decode_encode, sanitize_valid a ha, sanitize_valid b hb]

/-- Only well-formed UTF-8 survives: the resumed call goes back to the sessions `(a, b)` iff both IDs are well-formed
UTF-8. (A member that hands out an ID that is not UTF-8 cannot be resumed through the unifier.) -/
theorem roundtrip_exact_iff (a b : Bytes) :
    decodeID (encodeID a b) = some (a, b) ↔ ValidUtf8 a ∧ ValidUtf8 b := by
  rw [decode_encode]
  constructor
  · intro h
    simp only [Option.some.injEq, Prod.mk.injEq] at h
    exact ⟨(sanitize_eq_iff a).mp h.1, (sanitize_eq_iff b).mp h.2⟩
  · rintro ⟨ha, hb⟩
    rw [sanitize_valid a ha, sanitize_valid b hb]

/-- The hypotheses are satisfiable by IDs full of characters the encoder escapes. -/
example : ValidUtf8 (strBytes "a\"b\\c<d>&e/f?g\n") ∧ ValidUtf8 [0xE2, 0x80, 0xA8, 0xC3, 0xA9, 0xF0, 0x9F, 0x98, 0x80] := by decide +kernel
example : decodeID (encodeID (strBytes "a\"b\\c<d>&e/f?g\n") [0xE2, 0x80, 0xA8, 0xC3, 0xA9]) =
    some (strBytes "a\"b\\c<d>&e/f?g\n", [0xE2, 0x80, 0xA8, 0xC3, 0xA9]) := by decide +kernel
/-- What is lost: `FF 41` comes back as `U+FFFD A`, a truncated sequence `E2 80` as two U+FFFD. -/
example : decodeID (encodeID [0xFF, 0x41] [0xE2, 0x80]) =
    some ([0xEF, 0xBF, 0xBD, 0x41], [0xEF, 0xBF, 0xBD, 0xEF, 0xBF, 0xBD]) := by decide +kernel
example : encodeID (strBytes "a") (strBytes "b") = strBytes "WyJhIiwiYiJd" := by decide +kernel

/-! ### 2. Two different pairs of sessions never share an ID -/

/-- Equal IDs name the same pair up to `sanitize`. -/
theorem encodeID_eq_imp (a b a' b' : Bytes) (h : encodeID a b = encodeID a' b') :
    sanitize a = sanitize a' ∧ sanitize b = sanitize b' := by
  have h1 := decode_encode a b
  rw [h, decode_encode] at h1
  simpa [eq_comm] using h1

/-- On well-formed UTF-8 the encoding is injective. -/
theorem encodeID_injective (a b a' b' : Bytes) (ha : ValidUtf8 a) (hb : ValidUtf8 b)
    (ha' : ValidUtf8 a') (hb' : ValidUtf8 b') (h : encodeID a b = encodeID a' b') : a = a' ∧ b = b' := by
  have := encodeID_eq_imp a b a' b' h
  rwa [sanitize_valid a ha, sanitize_valid b hb, sanitize_valid a' ha', sanitize_valid b' hb'] at this

example : ValidUtf8 (strBytes "a,b") ∧ ValidUtf8 (strBytes "\",\"") ∧ encodeID (strBytes "a\",\"b") [] ≠ encodeID (strBytes "a") (strBytes "b") := by
  decide +kernel

/-- The hypothesis cannot be dropped: two IDs that are not UTF-8 collide. -/
theorem encodeID_collision : encodeID [0xFF] [] = encodeID [0xFE] [] ∧ ([0xFF] : Bytes) ≠ [0xFE] := by decide +kernel

/-! ### 3. The decoder is total and accepts nothing but two-element arrays of strings -/

/-- Every byte string has an answer (`decodeIDE` says why an ID is refused). -/
theorem decodeID_total (id : Bytes) : ∃ r : Except IDErr (Bytes × Bytes), decodeIDE id = r ∧
    decodeID id = (match r with | .ok p => some p | .error _ => none) :=
  ⟨_, rfl, rfl⟩

/-- An ID is accepted iff it is base64url (no padding) of a JSON document that is an array of exactly
two elements, each a string (taken as it is read) or `null` (taken as the empty string, as
`encoding/json` leaves the zero value). -/
theorem decodeID_accepts_iff (id a b : Bytes) :
    decodeID id = some (a, b) ↔
      ∃ data x y, B64Url.decode id = some data ∧ Json.parse data = some (.arr [x, y]) ∧
        elemStr x = some a ∧ elemStr y = some b :=
  decodeID_some_iff id a b

/-- The refusals, check by check. -/
theorem decodeID_refuses (id : Bytes) :
    (B64Url.decode id = none → decodeIDE id = .error .base64) ∧
    (∀ data, B64Url.decode id = some data →
      (Json.parse data = none → decodeIDE id = .error .json) ∧
      (∀ v, Json.parse data = some v → (∀ xs, v ≠ .arr xs) → v ≠ .null → decodeIDE id = .error .json) ∧
      (Json.parse data = some .null → decodeIDE id = .error .length) ∧
      (∀ xs, Json.parse data = some (.arr xs) → (∃ x ∈ xs, elemStr x = none) → decodeIDE id = .error .json) ∧
      (∀ xs, Json.parse data = some (.arr xs) → (∀ x ∈ xs, elemStr x ≠ none) → xs.length ≠ 2 →
        decodeIDE id = .error .length)) := by
  refine ⟨fun h => by simp [decodeIDE, h], fun data hd => ⟨?_, ?_, ?_, ?_, ?_⟩⟩
  · intro hp; simp [decodeIDE, hd, decodeStrList, hp]
  · intro v hp hna hnn
    cases v with
    | arr xs => exact absurd rfl (hna xs)
    | null => exact absurd rfl hnn
    | _ => simp [decodeIDE, hd, decodeStrList, hp]
  · intro hp; simp [decodeIDE, hd, decodeStrList, hp]
  · intro xs hp hex
    simp [decodeIDE, hd, decodeStrList, hp, mapM_elemStr_none xs hex]
  · intro xs hp hall hlen
    obtain ⟨l, hm⟩ := mapM_elemStr_some xs hall
    have hl := mapM_elemStr_length xs l hm
    simp only [decodeIDE, hd, decodeStrList, hp, hm]
    match l, hl with
    | [], _ => rfl
    | [_], _ => rfl
    | [_, _], hl => exact absurd hl.symm hlen
    | _ :: _ :: _ :: _, _ => rfl

/-- Whatever the members are resumed with is well-formed UTF-8, and resuming with the ID the new
unified writer reports leads to the same two sessions again. -/
theorem decodeID_stable (id a b : Bytes) (h : decodeID id = some (a, b)) :
    ValidUtf8 a ∧ ValidUtf8 b ∧ decodeID (encodeID a b) = some (a, b) :=
  have hv := decodeID_valid h
  ⟨hv.1, hv.2, decode_encode_valid a b hv.1 hv.2⟩

/-! Each refusal happens. (`WyJhIl0` is `["a"]`, `WyJhIiwiYiIsImMiXQ` is `["a","b","c"]`, `WyJhIiwxXQ` is
`["a",1]`, `eyJhIjoiYiJ9` is `{"a":"b"}`, `bnVsbA` is `null`, `WyJhIiwiYiJd=` is a padded ID, `WyJhIiwiYiJ` is
truncated base64 of a truncated document, `W251bGwsImEiXQ` is `[null,"a"]`.) -/

example : decodeIDE (strBytes "WyJhIl0") = .error .length ∧
    decodeIDE (strBytes "WyJhIiwiYiIsImMiXQ") = .error .length ∧
    decodeIDE (strBytes "WyJhIiwxXQ") = .error .json ∧
    decodeIDE (strBytes "eyJhIjoiYiJ9") = .error .json ∧
    decodeIDE (strBytes "bnVsbA") = .error .length := by decide +kernel
example : decodeIDE (strBytes "WyJhIiwiYiJd=") = .error .base64 ∧
    decodeIDE (strBytes "WyJhIiwiYiJ") = .error .json ∧
    decodeIDE (strBytes "myid") = .error .json ∧
    decodeIDE [] = .error .json := by decide +kernel
example : decodeIDE (strBytes "W251bGwsImEiXQ") = .ok ([], strBytes "a") ∧
    decodeIDE (strBytes "WyJhIiwiYiJd") = .ok (strBytes "a", strBytes "b") := by decide +kernel

/-! ### 4. The ID survives the HTTP layer -/

/-- A composite ID is a non-empty string over `A–Z a–z 0–9 - _`: a URL path segment as it stands (no
`/`, `?`, `#`, `%`, no padding `=`), and well-formed UTF-8. -/
theorem encodeID_path_segment (a b : Bytes) :
    encodeID a b ≠ [] ∧ (∀ c ∈ encodeID a b, isB64UrlChar c = true) ∧ (47 : UInt8) ∉ encodeID a b ∧
    B64Url.validUTF8 (encodeID a b) = true :=
  ⟨B64Url.encode_ne_nil _ (goStrList_ne_nil _), encode_alphabet _, B64Url.encode_no_slash _,
    validUTF8_ascii _ (fun c hc => isB64UrlChar_ascii (encode_alphabet _ c hc))⟩

/-- It is an upload ID the request codec accepts (`ValidReq` of C03) for the three upload routes. -/
theorem encodeID_valid_request (repo a b dig : Bytes) (hr : Ref.isRepo repo = true) (hd : Ref.isDigest dig = true) :
    ValidReq B64Url.validUTF8 { kind := .blobUploadInfo, repo := repo, uploadID := encodeID a b } ∧
    ValidReq B64Url.validUTF8 { kind := .blobUploadChunk, repo := repo, uploadID := encodeID a b } ∧
    ValidReq B64Url.validUTF8 { kind := .blobCompleteUpload, repo := repo, uploadID := encodeID a b, digest := dig } := by
  obtain ⟨hne, _, _, hv⟩ := encodeID_path_segment a b
  exact ⟨⟨hr, hne, hv, rfl⟩, ⟨hr, hne, hv, rfl⟩, ⟨hr, hne, hv, hd, rfl⟩⟩

/-- By `ReqCodec.construct_parse_aux` (which C03's `construct_parse_b64url` instantiates, with the real base64url codec) the server classifies the request the
client built as the same request, hands the unifier the same composite ID, and the unifier resumes the
two member sessions: the whole chain client → server → unifier → members, for every upload route. -/
theorem encodeID_survives_http (r : Request) (a b : Bytes) (hk : r.kind.isUpload = true)
    (hid : r.uploadID = encodeID a b) (hv : ValidReq B64Url.validUTF8 r) :
    ∃ r', parse B64Url.decode B64Url.validUTF8 (construct B64Url.encode r).1 (construct B64Url.encode r).2.1
        (qget (construct B64Url.encode r).2.2) = .ok r' ∧ r' = r ∧
      decodeID r'.uploadID = some (sanitize a, sanitize b) := by
  have hN : r.listN ≤ maxInt64 := by
    cases hkind : r.kind <;> simp [hkind, Kind.isUpload] at hk <;> simp only [ValidReq, hkind] at hv
    · rw [hv.2.2.2]; exact (by decide : (0 : Int) ≤ maxInt64)
    · rw [hv.2.2.2]; exact (by decide : (0 : Int) ≤ maxInt64)
    · rw [hv.2.2.2.2]; exact (by decide : (0 : Int) ≤ maxInt64)
  exact ⟨r, construct_parse_aux B64Url.encode B64Url.decode B64Url.validUTF8 B64Url.decode_encode
    B64Url.encode_ne_nil B64Url.encode_no_slash r hv hN, rfl, by rw [hid, decode_encode]⟩

/-- The hypotheses are satisfiable: a repository made of routing words, member IDs with `/`, `?`, `"`. -/
def exChunk : Request :=
  { kind := .blobUploadChunk, repo := strBytes "foo/blobs/uploads", uploadID := encodeID (strBytes "a/b?c") (strBytes "\"") }

example : Ref.isRepo (strBytes "foo/blobs/uploads") = true ∧ ValidReq B64Url.validUTF8 exChunk ∧
    exChunk.kind.isUpload = true :=
  ⟨by decide +kernel, (encodeID_valid_request _ _ _ (Ref.sha256 ++ Ref.cColon :: List.replicate 64 97) (by decide +kernel) (by decide +kernel)).2.1, rfl⟩

/-! ### 5. The stand-in codec of the C15 protocol and the real one -/

/-- The real codec IS an instance of the abstract `Codec` of `Unify.lean`: every C15 theorem stated for
an arbitrary codec (`step_members`, `mem_members_stay_equal_partial`, `fresh_upload_id_diagonal`, …) holds
for the model with the real encoding. -/
theorem real_codec_is_the_model (a b id : Bytes) :
    joinID realCodec a b = encodeID a b ∧ splitID realCodec id = decodeID id :=
  ⟨joinID_real a b, splitID_real id⟩

/-- C15's hypothesis `CodecLawful` does NOT hold of the real codec (ill-formed UTF-8 does not come back). -/
theorem real_codec_not_lawful : ¬ C15.CodecLawful realCodec := by
  intro h
  have := h.2 [[0xFF]]
  revert this
  decide +kernel

/-- `CodecLawful` holds of the real codec on well-formed UTF-8, which is where C15's `split_join` is used. -/
theorem real_codec_lawful_on_valid :
    (∀ x, realCodec.b64dec (realCodec.b64enc x) = some x) ∧
    (∀ l : List Bytes, (∀ p ∈ l, ValidUtf8 p) → realCodec.jsonDec (realCodec.jsonEnc l) = some l) := by
  refine ⟨B64Url.decode_encode, fun l hl => ?_⟩
  show decodeStrList (goStrList l) = some l
  rw [decodeStrList_goStrList, map_sanitize_valid l hl]

/-- C15 `split_join` for the real codec. -/
theorem real_split_join (a b : Bytes) (ha : ValidUtf8 a) (hb : ValidUtf8 b) :
    splitID realCodec (joinID realCodec a b) = some (a, b) := by
  rw [joinID_real, splitID_real, decode_encode_valid a b ha hb]

/-- The stand-in (`&a&b`) is lawful on `&`-free IDs. -/
theorem standin_split_join (a b : Bytes) (ha : NoAmp a) (hb : NoAmp b) :
    splitID standin (joinID standin a b) = some (a, b) := by
  have h := standin_dec_enc_pair a b ha hb
  have e : joinID standin a b = standin.jsonEnc [a, b] := rfl
  rw [e, splitID_standin_of_dec h]; rfl

/-- The harness's translation `toReal` (`c15Composite`: `&a&b…` ↦ base64url(JSON [a,b,…])) commutes with
splitting, on every stand-in ID whose parts are well-formed UTF-8 — two parts or not. -/
theorem translation_commutes_split (x : Bytes) (hx : Dom x) : decodeID (toReal x) = splitID standin x :=
  toReal_split hx

/-- The translation `toReal` commutes with joining. -/
theorem translation_commutes_join (a b : Bytes) (ha : NoAmp a) (hb : NoAmp b) :
    toReal (joinID standin a b) = encodeID a b :=
  toReal_join a b ha hb

/-- The translation `toReal` is injective on stand-in IDs whose parts are well-formed UTF-8. -/
theorem translation_injective (x y : Bytes) (hx : Dom x) (hy : Dom y) (h : toReal x = toReal y) : x = y :=
  toReal_inj hx hy h

/-- The translation `toReal` is onto the real IDs of `&`-free well-formed pairs: a bijection between the IDs of the protocol
and the IDs of the real unifier, under which split and join correspond. -/
theorem translation_onto (a b : Bytes) (ha : NoAmp a) (hb : NoAmp b) (hva : ValidUtf8 a) (hvb : ValidUtf8 b) :
    ∃ x, Dom x ∧ toReal x = encodeID a b ∧ splitID standin x = some (a, b) := by
  have h := standin_dec_enc_pair a b ha hb
  refine ⟨joinID standin a b, ⟨[a, b], h, ?_⟩, toReal_join a b ha hb, standin_split_join a b ha hb⟩
  intro p hp; simp at hp; rcases hp with rfl | rfl <;> assumption

/-- Every operation of a C15 history fans out to the same two member calls under either reading. -/
theorem translation_fan (op : Mem.Op) (h : ∀ id, opID op = some id → Dom id) :
    fan realCodec (UnifyID.mapID toReal op) = fan standin op :=
  fan_toReal op h

/-- ONE STEP of the unifier model under both readings (`Good`: a protocol ID without NUL; `Rel`: the
same two member states, and tables of live writers that correspond under the translation): the real
reading of the translated operation gives the translated output and related states. With
`translation_run` below this is what makes the C15 correspondence check (which runs the real code on
`toReal` of the protocol's IDs and the model on the protocol's IDs) a check of the real encoding. -/
theorem translation_step (H : Bytes → Bytes) (pol : Policy) (f : Bool) (s s' : UState) (op : Mem.Op)
    (hrel : Rel s s') (hop : ∀ id, opID op = some id → Good id) :
    Rel (step H standin pol f s op).1 (step H realCodec pol f s' (UnifyID.mapID toReal op)).1 ∧
    (step H realCodec pol f s' (UnifyID.mapID toReal op)).2 = trOutFor op (step H standin pol f s op).2 :=
  step_translation H pol f s s' op hrel hop

/-- A whole history: the members end in the SAME states under both readings (so every C15 statement
about the members — observable equality above all — holds of one reading iff it holds of the other). -/
theorem translation_run (H : Bytes → Bytes) (pol : Policy) (imm : Bool) (ops : List Mem.Op)
    (hg : ∀ op ∈ ops, ∀ id, opID op = some id → Good id) :
    (run H realCodec pol (uinit imm) (ops.map (UnifyID.mapID toReal))).m0 = (run H standin pol (uinit imm) ops).m0 ∧
    (run H realCodec pol (uinit imm) (ops.map (UnifyID.mapID toReal))).m1 = (run H standin pol (uinit imm) ops).m1 :=
  have h := run_translation H pol ops _ _ (rel_refl_init imm) hg
  ⟨h.m0, h.m1⟩

/-- The hypotheses are satisfiable: the composite IDs of the C15 generator, and a fresh `ocimem` ID. -/
example : Good (strBytes "&myid&other-id") ∧ Good (strBytes "&@0&@0") ∧ Plain (Mem.freshID 17) ∧
    Rel (uinit false) (uinit false) :=
  ⟨⟨⟨_, rfl, by decide⟩, by decide⟩, ⟨⟨_, rfl, by decide⟩, by decide⟩, freshID_plain 17, rel_refl_init false⟩

/-- The IDs of the C15 generator are in the domain; the malformed ones it uses are malformed under both
readings. -/
example : Dom (strBytes "&myid&other-id") ∧ Dom (strBytes "&x&x") ∧ Dom (strBytes "&solo") ∧ Dom (strBytes "&a&b&c") ∧
    Dom (strBytes "&@0&@0") :=
  ⟨⟨_, rfl, by decide⟩, ⟨_, rfl, by decide⟩, ⟨_, rfl, by decide⟩, ⟨_, rfl, by decide⟩, ⟨_, rfl, by decide⟩⟩
example : (∀ x ∈ [strBytes "myid", [], strBytes "%%"], toReal x = x ∧ decodeID x = none ∧ splitID standin x = none) ∧
    decodeID (toReal (strBytes "&solo")) = none ∧ decodeID (toReal (strBytes "&a&b&c")) = none ∧
    decodeID (toReal (strBytes "&myid&other-id")) = some (strBytes "myid", strBytes "other-id") := by decide +kernel
example : NoAmp (strBytes "@17") ∧ ValidUtf8 (strBytes "@17") := by decide +kernel

/-! ### 6. C15 for the model with the real encoding -/

/-- An ID the unified writer of equal members reports (`encodeID id id`, `id` well-formed) is diagonal:
both members receive the same call. -/
theorem real_reported_id_diagonal (r id d dg : Bytes) (off : Int) (hv : ValidUtf8 id) :
    C15.Diagonal realCodec (.wWrite r (encodeID id id) d) ∧ C15.Diagonal realCodec (.resume r (encodeID id id) off) ∧
    C15.Diagonal realCodec (.wCommit r (encodeID id id) dg) ∧ C15.Diagonal realCodec (.wCancel r (encodeID id id)) := by
  have h := real_split_join id id hv hv
  rw [joinID_real] at h
  refine ⟨?_, ?_, ?_, ?_⟩ <;> intro x y hf <;> simp [fan, h] at hf <;> rw [← hf.1, ← hf.2]

/-- C15 `mem_members_stay_equal_partial` with the real encoding: two equal `ocimem` members remain equal
under any history through the unifier whose composite IDs name the same upload in both members. -/
theorem real_members_stay_equal (H : Bytes → Bytes) (pol : Policy) (s : UState) (hs : s.m0 = s.m1)
    (ops : List Mem.Op) (hd : ∀ op ∈ ops, C15.Diagonal realCodec op) :
    (run H realCodec pol s ops).m0 = (run H realCodec pol s ops).m1 :=
  C15.mem_members_stay_equal_partial H realCodec pol s hs ops hd

/-- The ID of a fresh upload over equal members has the form `encodeID a a`. -/
theorem real_fresh_id (H : Bytes → Bytes) (pol : Policy) (f : Bool) (s : UState) (hs : s.m0 = s.m1) (r id : Bytes)
    (h : (step H realCodec pol f s (.pushChunked r)).2 = .out (.okWriter id)) : ∃ a, id = encodeID a a := by
  obtain ⟨a, ha⟩ := C15.fresh_upload_id_diagonal H realCodec pol f s hs r id h
  exact ⟨a, by rw [ha, joinID_real]⟩

/-! ### 7. The string encoder and the one of the response codec -/

/-- `goStr` agrees with `RespCodec.jsonStr` (C03R: tag and repository lists) on every string of bytes
below 0x80 — one encoder for both sub-checks, generalised here to all byte strings. -/
theorem goStr_extends_jsonStr (s : Bytes) (h : ∀ c ∈ s, c.toNat < 0x80) : goStr s = RespCodec.jsonStr s :=
  goStr_eq_jsonStr s h

/-- Beyond ASCII they differ where Go escapes: U+2028, and bytes that are not UTF-8. -/
example : goStr [0xE2, 0x80, 0xA8] ≠ RespCodec.jsonStr [0xE2, 0x80, 0xA8] ∧ goStr [0xFF] ≠ RespCodec.jsonStr [0xFF] ∧
    goStr (strBytes "a<\"") = RespCodec.jsonStr (strBytes "a<\"") := by decide +kernel

/-! ### 8. Obligation on the facts regenerated from `ociunify/writer.go` -/

/-- The choices `UnifyID.lean` transcribes are the ones in the source: the ID is
`base64.RawURLEncoding` of `json.Marshal([]string{w.w[0].ID(), w.w[1].ID()})` and nothing else; a
resumption decodes with the same encoding, unmarshals into a `[]string`, insists on exactly two
elements — each failing check returns an error before any member is called, in this order — and calls
member `i` with `ids[i]`. -/
theorem generated_id_codec :
    Generated.UnifyID.idShape = true ∧
    Generated.UnifyID.idMarshalArg = "[]string{w.w[0].ID(), w.w[1].ID()}" ∧
    Generated.UnifyID.idEncoding = "RawURLEncoding" ∧
    Generated.UnifyID.resumeHead =
      ["data, err := base64.RawURLEncoding.DecodeString(id)", "if err != nil => return-error",
       "var ids []string", "if err := json.Unmarshal(data, &ids); err != nil => return-error",
       "if len(ids) != 2 => return-error"] ∧
    Generated.UnifyID.resumeMemberArgs = ["ctx", "repo", "ids[i]", "offset", "chunkSize"] := by decide +kernel

end OciModel.Props.C15I
