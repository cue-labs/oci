/-
Lemmas about the JSON compaction model (`ErrCodec.compactAux`): compacting twice is compacting once.
-/
import OciModel.ErrCodecInst

namespace OciModel.ErrCodec

theorem hex_lt : hexDigit ((60 : UInt8) >>> 4) = 51 ∧ hexDigit ((60 : UInt8) &&& 15) = 99 := by decide
theorem hex_gt : hexDigit ((62 : UInt8) >>> 4) = 51 ∧ hexDigit ((62 : UInt8) &&& 15) = 101 := by decide
theorem hex_amp : hexDigit ((38 : UInt8) >>> 4) = 50 ∧ hexDigit ((38 : UInt8) &&& 15) = 54 := by decide
theorem hex_ls : hexDigit ((0xA8 : UInt8) &&& 15) = 56 ∧ hexDigit ((0xA9 : UInt8) &&& 15) = 57 := by decide

theorem lsAhead_cons_ne (c : UInt8) (r : Bytes) (h : c ≠ 0x80) : lsAhead (c :: r) = none := by
  cases r with
  | nil => rfl
  | cons d r => simp [lsAhead, h]

theorem lsAhead_80_cons_ne (c : UInt8) (r : Bytes) (h : c ≠ 0xA8 ∧ c ≠ 0xA9) : lsAhead (0x80 :: c :: r) = none := by
  simp [lsAhead, h]

theorem lsAhead_80_nil : lsAhead [0x80] = none := rfl

theorem compact_str_head (c : UInt8) (r : Bytes) :
    ∃ d t, compactAux .str 0 (c :: r) = d :: t ∧ (d = c ∨ d = 92) := by
  rw [compactAux]
  by_cases h1 : c = 60 ∨ c = 62 ∨ c = 38
  · rw [if_pos h1]; exact ⟨_, _, rfl, .inr rfl⟩
  rw [if_neg h1]
  by_cases h2 : c = 0xE2
  · rw [if_pos h2]
    cases lsAhead r
    · exact ⟨_, _, rfl, .inl rfl⟩
    · exact ⟨_, _, rfl, .inr rfl⟩
  rw [if_neg h2]
  by_cases h3 : c = 92
  · rw [if_pos h3]; exact ⟨_, _, rfl, .inl rfl⟩
  rw [if_neg h3]
  by_cases h4 : c = 34
  · rw [if_pos h4]; exact ⟨_, _, rfl, .inl rfl⟩
  · rw [if_neg h4]; exact ⟨_, _, rfl, .inl rfl⟩

theorem lsAhead_compact_str (rest : Bytes) (h : lsAhead rest = none) :
    lsAhead (compactAux .str 0 rest) = none := by
  cases rest with
  | nil => simp [compactAux, lsAhead]
  | cons c1 r =>
    by_cases h1 : c1 = 0x80
    · subst h1
      have e : compactAux .str 0 ((0x80 : UInt8) :: r) = 0x80 :: compactAux .str 0 r := by
        simp [compactAux]
      rw [e]
      cases r with
      | nil => simp [compactAux, lsAhead]
      | cons c2 r2 =>
        have hc2 : c2 ≠ 0xA8 ∧ c2 ≠ 0xA9 := by
          constructor <;> intro hh <;> subst hh <;> simp [lsAhead] at h
        obtain ⟨d, t, hd, hor⟩ := compact_str_head c2 r2
        rw [hd]
        apply lsAhead_80_cons_ne
        rcases hor with hh | hh <;> subst hh
        · exact hc2
        · decide
    · obtain ⟨d, t, hd, hor⟩ := compact_str_head c1 r
      rw [hd]
      apply lsAhead_cons_ne
      rcases hor with hh | hh <;> subst hh
      · exact h1
      · decide

theorem lsAhead_some {r : Bytes} {c : UInt8} (h : lsAhead r = some c) : c = 0xA8 ∨ c = 0xA9 := by
  unfold lsAhead at h
  split at h
  · split at h
    · next hh => cases h; exact hh.2
    · cases h
  · cases h

/-- Every block the scanner writes is read back as itself and leaves the scanner in the mode it
went on in; the one branch that looks ahead needs `lsAhead_compact_str`. -/
theorem compactAux_idem (m : CMode) (k : Nat) (b : Bytes) :
    compactAux m 0 (compactAux m k b) = compactAux m k b := by
  fun_induction compactAux m k b
  case case9 c rest h ih =>     -- `<`, `>`, `&` in a string, written `\u00XX`
    rcases h with rfl | rfl | rfl <;> simp [compactAux, hex_lt, hex_gt, hex_amp, ih]
  case case10 rest c2 hc2 _ ih =>   -- U+2028/9, written `\u202X`, two bytes skipped
    rcases lsAhead_some hc2 with rfl | rfl <;> simp [compactAux, hex_ls, ih]
  case case11 rest hn _ ih =>   -- 0xE2 not followed by the rest of U+2028/9
    simp [compactAux, lsAhead_compact_str rest hn, ih]
  all_goals simp [compactAux, *]

end OciModel.ErrCodec
