/-
The atomic steps of the concurrent view `MemConc` in closed form, shared by `MemConcLemmas`
(digest invariant, commit lock) and `MemConcImmutable` (immutable tags under
concurrency): the snapshot list as a map, `astep` case by case for the two halves of a commit,
that pending snapshots keep hashing to their digests, and induction over schedules.

`H` stays a parameter; nothing is assumed about it.
-/
import OciModel.MemConc
import OciModel.MemStep

namespace OciModel.MemConc
open OciModel OciModel.Mem

/-! ### Snapshots -/

theorem lookupSnap_eraseSnap_eq (k : Bytes × Bytes) (sn : Snaps) : lookupSnap k (eraseSnap k sn) = none := by
  induction sn with
  | nil => rfl
  | cons p rest ih =>
    obtain ⟨k', v⟩ := p
    by_cases h : k' = k
    · simp [eraseSnap, h, ih]
    · simp [eraseSnap, lookupSnap, h, ih]

theorem lookupSnap_eraseSnap_ne {k k' : Bytes × Bytes} (hne : k ≠ k') (sn : Snaps) :
    lookupSnap k' (eraseSnap k sn) = lookupSnap k' sn := by
  induction sn with
  | nil => rfl
  | cons p rest ih =>
    obtain ⟨k'', v⟩ := p
    by_cases h : k'' = k
    · subst h
      simp only [eraseSnap, lookupSnap, if_true, if_neg hne]
      exact ih
    · by_cases h2 : k'' = k'
      · subst h2
        simp only [eraseSnap, lookupSnap, if_neg h, if_true]
      · simp only [eraseSnap, lookupSnap, if_neg h, if_neg h2]
        exact ih

theorem lookupSnap_cons_eq (k : Bytes × Bytes) (v : Bytes × Bytes) (sn : Snaps) :
    lookupSnap k ((k, v) :: sn) = some v := by
  simp [lookupSnap]

theorem lookupSnap_cons_ne {k k' : Bytes × Bytes} (hne : k ≠ k') (v : Bytes × Bytes) (sn : Snaps) :
    lookupSnap k' ((k, v) :: sn) = lookupSnap k' sn := by
  simp [lookupSnap, hne]

theorem eraseSnap_idem (k : Bytes × Bytes) (sn : Snaps) : eraseSnap k (eraseSnap k sn) = eraseSnap k sn := by
  induction sn with
  | nil => rfl
  | cons p rest ih =>
    obtain ⟨k', v⟩ := p
    by_cases h : k' = k
    · simp [eraseSnap, h, ih]
    · simp [eraseSnap, h, ih]

section
variable (H : Bytes → Bytes)

theorem snapsOk_nil : SnapsOk H [] := by
  intro k dig data h; simp [lookupSnap] at h

theorem snapsOk_erase {sn : Snaps} (k : Bytes × Bytes) (h : SnapsOk H sn) : SnapsOk H (eraseSnap k sn) := by
  intro k' dig data hl
  by_cases hk : k = k'
  · subst hk; rw [lookupSnap_eraseSnap_eq] at hl; cases hl
  · rw [lookupSnap_eraseSnap_ne hk] at hl; exact h k' dig data hl

theorem snapsOk_cons {sn : Snaps} {k : Bytes × Bytes} {dig data : Bytes} (hd : H data = dig)
    (h : SnapsOk H sn) : SnapsOk H ((k, (dig, data)) :: sn) := by
  intro k' dig' data' hl
  by_cases hk : k = k'
  · subst hk
    rw [lookupSnap_cons_eq] at hl
    cases hl; exact hd
  · rw [lookupSnap_cons_ne hk] at hl; exact h k' dig' data' hl

/-! ### `astep` in closed form -/

theorem astep_op (c : CState) (o : Op) :
    astep H c (.op o) = ({ c with st := (step H c.st o).1 }, (step H c.st o).2) := rfl

theorem arun_cons (c : CState) (a : AStep) (rest : List AStep) :
    arun H c (a :: rest) = arun H (astep H c a).1 rest := rfl

theorem arun_append (c : CState) (l1 l2 : List AStep) :
    arun H c (l1 ++ l2) = arun H (arun H c l1) l2 := by
  induction l1 generalizing c with
  | nil => rfl
  | cons a rest ih => simp only [List.cons_append, arun_cons]; exact ih _

theorem commitCheck_spec (c : CState) (r id dig : Bytes) :
    (getBuffer c.st r id = none ∧ astep H c (.commitCheck r id dig) = (c, .err "NO-WRITER"))
    ∨ (∃ rp b e, getBuffer c.st r id = some (rp, b) ∧ b.commitErr = some e ∧
        astep H c (.commitCheck r id dig) = (c, .err e))
    ∨ (∃ rp b, getBuffer c.st r id = some (rp, b) ∧ b.commitErr = none ∧ H b.buf ≠ dig ∧
        astep H c (.commitCheck r id dig) =
          ({ c with st := putBuffer c.st r rp id { b with commitErr := some "DIGEST_INVALID" } },
           .err "DIGEST_INVALID"))
    ∨ (∃ rp b, getBuffer c.st r id = some (rp, b) ∧ b.commitErr = none ∧ H b.buf = dig ∧
        astep H c (.commitCheck r id dig) =
          ({ st := putBuffer c.st r rp id { b with committed := true },
             snaps := ((r, id), (dig, b.buf)) :: eraseSnap (r, id) c.snaps }, .okUnit)) := by
  cases hb : getBuffer c.st r id with
  | none => exact Or.inl ⟨rfl, by simp [astep, hb]⟩
  | some p =>
    obtain ⟨rp, b⟩ := p
    cases he : b.commitErr with
    | some e => exact Or.inr (Or.inl ⟨rp, b, e, rfl, he, by simp [astep, hb, he]⟩)
    | none =>
      by_cases hd : H b.buf = dig
      · exact Or.inr (Or.inr (Or.inr ⟨rp, b, rfl, he, hd, by simp [astep, hb, he, hd]⟩))
      · exact Or.inr (Or.inr (Or.inl ⟨rp, b, rfl, he, hd, by simp [astep, hb, he, hd]⟩))

theorem commitStore_spec (c : CState) (r id : Bytes) :
    (lookupSnap (r, id) c.snaps = none ∧ astep H c (.commitStore r id) = (c, .err "NOT-CHECKED"))
    ∨ (∃ dig data, lookupSnap (r, id) c.snaps = some (dig, data) ∧ getRepo c.st r = none ∧
        astep H c (.commitStore r id) = (c, .err "NAME_UNKNOWN"))
    ∨ (∃ dig data rp, lookupSnap (r, id) c.snaps = some (dig, data) ∧ getRepo c.st r = some rp ∧
        astep H c (.commitStore r id) =
          ({ st := putRepo c.st r { rp with blobs := ainsert dig ⟨octetStream, data, [], []⟩ rp.blobs },
             snaps := eraseSnap (r, id) c.snaps }, .okDesc ⟨octetStream, dig, data.length⟩)) := by
  cases hl : lookupSnap (r, id) c.snaps with
  | none => exact Or.inl ⟨rfl, by simp [astep, hl]⟩
  | some p =>
    obtain ⟨dig, data⟩ := p
    cases hg : getRepo c.st r with
    | none => exact Or.inr (Or.inl ⟨dig, data, rfl, rfl, by simp [astep, hl, hg]⟩)
    | some rp => exact Or.inr (Or.inr ⟨dig, data, rp, rfl, rfl, by simp [astep, hl, hg]⟩)

/-- Pending snapshots keep hashing to their digests: a registry operation does not touch them,
`commitCheck` adds one it has just compared, `commitStore` removes one. -/
theorem snapsOk_astep (c : CState) (a : AStep) (h : SnapsOk H c.snaps) : SnapsOk H (astep H c a).1.snaps := by
  cases a with
  | op o => exact h
  | commitCheck r id dig =>
    rcases commitCheck_spec H c r id dig with ⟨_, e⟩ | ⟨_, _, _, _, _, e⟩ | ⟨_, _, _, _, _, e⟩ | ⟨_, _, _, _, hd, e⟩
    · rw [e]; exact h
    · rw [e]; exact h
    · rw [e]; exact h
    · rw [e]; exact snapsOk_cons H hd (snapsOk_erase H _ h)
  | commitStore r id =>
    rcases commitStore_spec H c r id with ⟨_, e⟩ | ⟨_, _, _, _, e⟩ | ⟨_, _, _, _, _, e⟩
    · rw [e]; exact h
    · rw [e]; exact h
    · rw [e]; exact snapsOk_erase H _ h

theorem arun_induction_sched {P : CState → Prop} {Q : AStep → Prop}
    (hstep : ∀ c a, Q a → P c → P (astep H c a).1)
    (c : CState) (h : P c) (sched : List AStep) (hs : ∀ a, a ∈ sched → Q a) : P (arun H c sched) := by
  induction sched generalizing c with
  | nil => exact h
  | cons a rest ih =>
    rw [arun_cons]
    exact ih _ (hstep c a (hs a List.mem_cons_self) h) fun b hb => hs b (List.mem_cons_of_mem _ hb)

theorem arun_induction {P : CState → Prop} (hstep : ∀ c a, P c → P (astep H c a).1)
    (c : CState) (h : P c) (sched : List AStep) : P (arun H c sched) :=
  arun_induction_sched H (Q := fun _ => True) (fun c a _ => hstep c a) c h sched fun _ _ => trivial

theorem snapsOk_arun (c : CState) (sched : List AStep) (h : SnapsOk H c.snaps) :
    SnapsOk H (arun H c sched).snaps :=
  arun_induction H (P := fun c => SnapsOk H c.snaps) (fun c a hc => snapsOk_astep H c a hc) c h sched

end

end OciModel.MemConc
