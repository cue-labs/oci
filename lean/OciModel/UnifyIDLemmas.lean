/-
Lemmas about the composite upload ID (`UnifyID.lean`): Go's string encoder read back by the JSON
reader, the array of strings, base64url on top.
-/
import OciModel.UnifyID
import OciModel.JsonLemmas
import OciModel.B64UrlLemmas
namespace OciModel.UnifyID
open OciModel OciModel.Json

/-- Induction on a byte string where the step may go back to any string no longer than the tail. -/
theorem bytes_ind {P : Bytes → Prop} (nil : P []) (cons : ∀ c bs, (∀ t : Bytes, t.length ≤ bs.length → P t) → P (c :: bs)) :
    ∀ s, P s := by
  suffices h : ∀ n (s : Bytes), s.length ≤ n → P s from fun s => h s.length s (Nat.le_refl _)
  intro n
  induction n with
  | zero => intro s hs; cases s with | nil => exact nil | cons _ _ => simp at hs
  | succ n ih =>
    intro s hs
    cases s with
    | nil => exact nil
    | cons c bs => exact cons c bs fun t ht => ih t (by simp at hs; omega)

/-! ## Counters -/

theorem goEsc_copy (pre t : Bytes) : goEsc pre.length 0 (pre ++ t) = pre ++ goEsc 0 0 t := by
  induction pre with
  | nil => simp
  | cons c pre ih => simp [goEsc, ih]

theorem sanGo_copy (pre t : Bytes) : sanGo pre.length (pre ++ t) = pre ++ sanGo 0 t := by
  induction pre with
  | nil => simp
  | cons c pre ih => simp [sanGo, ih]

theorem unqGo_skip (pre t : Bytes) : unqGo pre.length (pre ++ t) = unqGo 0 t := by
  rw [unqGo_drop]; simp

/-! ## One escaped unit read back -/

theorem asciiEsc_cases (c : UInt8) (h80 : c.toNat < 0x80) :
    (∃ e, asciiEsc c = [0x5C, e] ∧ e.toNat ≠ 0x75 ∧ isSimpleEsc e = true ∧ simpleEsc e = c) ∨
    asciiEsc c = [0x5C, 0x75, 0x30, 0x30, hexDigit (c.toNat / 16), hexDigit (c.toNat % 16)] ∨
    (asciiEsc c = [c] ∧ c.toNat ≠ 0x22 ∧ c.toNat ≠ 0x5C ∧ 0x20 ≤ c.toNat) := by
  -- evaluated for the 128 bytes `UInt8.ofNat n`; the `e` of the first case is written as the second byte of the escape
  have key : ∀ n, n < 0x80 →
      (asciiEsc (UInt8.ofNat n) = [0x5C, ((asciiEsc (UInt8.ofNat n)).drop 1).headD 0] ∧
        (((asciiEsc (UInt8.ofNat n)).drop 1).headD 0).toNat ≠ 0x75 ∧
        isSimpleEsc (((asciiEsc (UInt8.ofNat n)).drop 1).headD 0) = true ∧
        simpleEsc (((asciiEsc (UInt8.ofNat n)).drop 1).headD 0) = UInt8.ofNat n) ∨
      asciiEsc (UInt8.ofNat n) = [0x5C, 0x75, 0x30, 0x30, hexDigit ((UInt8.ofNat n).toNat / 16), hexDigit ((UInt8.ofNat n).toNat % 16)] ∨
      (asciiEsc (UInt8.ofNat n) = [UInt8.ofNat n] ∧ (UInt8.ofNat n).toNat ≠ 0x22 ∧ (UInt8.ofNat n).toNat ≠ 0x5C ∧ 0x20 ≤ (UInt8.ofNat n).toNat) := by
    decide +kernel
  have := key c.toNat h80
  simp only [UInt8.ofNat_toNat] at this
  rcases this with h | h | h
  · exact Or.inl ⟨_, h⟩
  · exact Or.inr (Or.inl h)
  · exact Or.inr (Or.inr h)

theorem unq_esc (e out X : Bytes) (h : escAt (e ++ X) = (out, e.length)) :
    unqGo 0 (0x5C :: e ++ X) = out ++ unqGo 0 X := by
  rw [List.cons_append, unqGo_esc, h, unqGo_skip]

theorem unq_asciiEsc (c : UInt8) (h80 : c.toNat < 0x80) (X : Bytes) :
    unqGo 0 (asciiEsc c ++ X) = c :: unqGo 0 X := by
  rcases asciiEsc_cases c h80 with ⟨e, he, hu, hs, hv⟩ | he | ⟨he, hq, hb, _⟩
  · rw [he]; exact unq_esc [e] [c] X (by rw [← hv]; exact escAt_simple _ _ hu hs)
  · rw [he]; exact unq_esc _ [c] X (escAt_u00 c h80 X)
  · rw [he]; exact unqGo_ascii h80 hb X

theorem unq_escFFFD (X : Bytes) : unqGo 0 (escFFFD ++ X) = replacement ++ unqGo 0 X :=
  unq_esc _ _ X (by simp [escAt, hex4, hexVal, encodeRune, replacement])

theorem unq_escSep (d b2 : UInt8) (h : (d = 0x38 ∧ b2 = 0xA8) ∨ (d = 0x39 ∧ b2 = 0xA9)) (X : Bytes) :
    unqGo 0 (escSep d ++ X) = 0xE2 :: 0x80 :: b2 :: unqGo 0 X :=
  unq_esc _ [0xE2, 0x80, b2] X (by rcases h with ⟨rfl, rfl⟩ | ⟨rfl, rfl⟩ <;> simp [escAt, hex4, hexVal, encodeRune])

theorem sepDigit_spec {c : UInt8} {bs : Bytes} {d : UInt8} (h : sepDigit c bs = some d) :
    c = 0xE2 ∧ ∃ b2 t, bs = 0x80 :: b2 :: t ∧ ((d = 0x38 ∧ b2 = 0xA8) ∨ (d = 0x39 ∧ b2 = 0xA9)) := by
  unfold sepDigit at h
  split at h
  · rename_i hc
    have hc' : c = 0xE2 := UInt8.toNat_inj.mp (by simpa using hc)
    refine ⟨hc', ?_⟩
    split at h
    · rename_i b1 b2 t
      split at h
      · rename_i h1
        have h1' : b1 = 0x80 := UInt8.toNat_inj.mp (by simpa using h1)
        subst h1'
        refine ⟨b2, t, rfl, ?_⟩
        split at h
        · rename_i h2
          left; exact ⟨by simpa using h.symm, UInt8.toNat_inj.mp (by simpa using h2)⟩
        · split at h
          · rename_i h2
            right; exact ⟨by simpa using h.symm, UInt8.toNat_inj.mp (by simpa using h2)⟩
          · simp at h
      · simp at h
    · simp at h
  · simp at h

/-! ## The scanner's view of an encoded string -/

/-- `u` is passed over by the string scanner as a whole, whatever follows. -/
def SpanUnit (u : Bytes) : Prop := ∀ X, spanGo 0 (u ++ X) = (spanGo 0 X).map (· + u.length)

theorem spanUnit_high (pre : Bytes) (h : ∀ x ∈ pre, 0x80 ≤ x.toNat) : SpanUnit pre := by
  intro X
  induction pre with
  | nil => simp
  | cons c pre ih =>
    have hc := h c (by simp)
    have ih' := ih (fun x hx => h x (by simp [hx]))
    simp only [List.cons_append]
    rw [spanGo]
    have h1 : ¬ c.toNat = 0x22 := by omega
    have h2 : ¬ c.toNat = 0x5C := by omega
    have h3 : ¬ c.toNat < 0x20 := by omega
    simp only [h1, h2, h3, if_false, ih', Option.map_map, List.length_cons]
    congr 1   -- the two functions under `map` are `· + n + 1` and `· + (n + 1)`

theorem spanUnit_esc (e : Bytes) (h : ∀ X, escLen (e ++ X) = some e.length) : SpanUnit (0x5C :: e) := by
  intro X
  rw [List.cons_append, spanGo]
  simp only [show (0x5C : UInt8).toNat = 0x5C from by decide, if_true, h X, spanGo_skip, Option.map_map,
    List.length_cons]
  congr 1   -- the two functions under `map` are `· + n + 1` and `· + (n + 1)`

theorem spanUnit_asciiEsc (c : UInt8) (h80 : c.toNat < 0x80) : SpanUnit (asciiEsc c) := by
  rcases asciiEsc_cases c h80 with ⟨e, he, hu, hs, _⟩ | he | ⟨he, hq, hb, h20⟩
  · rw [he]; exact spanUnit_esc [e] fun X => by simp [escLen, hu, hs]
  · rw [he]; exact spanUnit_esc _ fun X => by simp [escLen, hex4_u00 c]
  · intro X
    rw [he]
    simp only [List.cons_append, List.nil_append]
    rw [spanGo]
    have h3 : ¬ c.toNat < 0x20 := by omega
    simp only [hq, hb, h3, if_false, List.length_cons, List.length_nil]

theorem spanUnit_escFFFD : SpanUnit escFFFD :=
  spanUnit_esc _ fun X => by simp [escLen, hex4, hexVal]

theorem spanUnit_escSep (d : UInt8) (h : d = 0x38 ∨ d = 0x39) : SpanUnit (escSep d) :=
  spanUnit_esc _ fun X => by rcases h with rfl | rfl <;> simp [escLen, hex4, hexVal]

/-! ## The string encoder read back by the JSON reader -/

/-- One step of the encoder: a unit `u` that the scanner passes over as a whole and that is read back as `v`, the
bytes `sanitize` keeps at this place; then the encoding of a shorter rest. -/
theorem goEsc_step (c : UInt8) (bs : Bytes) :
    ∃ u v t, goEsc 0 0 (c :: bs) = u ++ goEsc 0 0 t ∧ sanGo 0 (c :: bs) = v ++ sanGo 0 t ∧ t.length ≤ bs.length ∧
      SpanUnit u ∧ ∀ X, unqGo 0 (u ++ X) = v ++ unqGo 0 X := by
  cases hsd : sepDigit c bs with
  | some d =>
    -- U+2028/9: the sequence is E2 80 b2
    obtain ⟨rfl, b2, t, rfl, hd⟩ := sepDigit_spec hsd
    have h3 : seqLen 0xE2 (0x80 :: b2 :: t) = 3 := by
      rcases hd with ⟨_, rfl⟩ | ⟨_, rfl⟩ <;> simp [seqLen, isCont]
    exact ⟨escSep d, [0xE2, 0x80, b2], t, by simp [goEsc, h3, hsd], by simp [sanGo, h3], by simp; omega,
      spanUnit_escSep d (by rcases hd with ⟨h, _⟩ | ⟨h, _⟩ <;> simp [h]), unq_escSep d b2 hd⟩
  | none =>
    rcases seqLen_cases c bs with ⟨h80, h1⟩ | ⟨h80, h0⟩ | ⟨h80, pre, t, rfl, -, hplain, hall⟩
    · exact ⟨asciiEsc c, [c], bs, by simp [goEsc, h80], by simp [sanGo, h1], Nat.le_refl _,
        spanUnit_asciiEsc c h80, unq_asciiEsc c h80⟩
    · exact ⟨escFFFD, replacement, bs, by simp [goEsc, Nat.not_lt.2 h80, h0], by simp [sanGo, h0], Nat.le_refl _,
        spanUnit_escFFFD, unq_escFFFD⟩
    · refine ⟨c :: pre, c :: pre, t, ?_, ?_, by simp, spanUnit_high (c :: pre) ?_, fun X => ?_⟩
      · simp only [goEsc, Nat.not_lt.2 h80, if_false, hall t, hsd]
        rw [goEsc_copy]; rfl
      · simp only [sanGo, hall t]
        rw [sanGo_copy]; rfl
      · intro x hx
        rcases List.mem_cons.1 hx with rfl | hx
        · exact h80
        · exact hplain x hx
      · rw [List.cons_append, unqGo_seq (by omega) (hall X), unqGo_skip]; rfl

theorem unq_goEsc (s : Bytes) : unqGo 0 (goEsc 0 0 s) = sanGo 0 s := by
  induction s using bytes_ind with
  | nil => simp [goEsc, unqGo, sanGo]
  | cons c bs ih =>
    obtain ⟨u, v, t, he, hv, hlt, -, hu⟩ := goEsc_step c bs
    rw [he, hv, hu, ih t hlt]

theorem unquote_goEscape (s : Bytes) : unquote (goEscape s) = sanitize s :=
  unq_goEsc s

theorem span_goEsc (s : Bytes) : ∀ r, spanGo 0 (goEsc 0 0 s ++ 0x22 :: r) = some (goEsc 0 0 s).length := by
  induction s using bytes_ind with
  | nil => simp [goEsc, spanGo]
  | cons c bs ih =>
    intro r
    obtain ⟨u, -, t, he, -, hlt, hu, -⟩ := goEsc_step c bs
    rw [he, List.append_assoc, hu, ih t hlt r]
    simp [Nat.add_comm]

theorem spanStr_goEscape (s r : Bytes) : spanStr (goEscape s ++ 0x22 :: r) = some (goEscape s).length :=
  span_goEsc s r

theorem lexGo_goStr (s r : Bytes) : lexGo 0 (goStr s ++ r) = consTok (.str (sanitize s)) (lexGo 0 r) := by
  unfold goStr
  simp only [List.cons_append, List.append_assoc, List.nil_append]
  rw [lexGo_quote (by decide)]
  simp only [spanStr_goEscape, List.take_left', unquote_goEscape]
  -- the lexer resumes after the content and the closing quote
  have := lexGo_skip (goEscape s ++ [0x22]) r
  simp only [List.length_append, List.length_cons, List.length_nil, List.append_assoc, List.cons_append, List.nil_append] at this
  simp [this]

/-! ## `sanitize` -/

theorem sanGo_valid (s : Bytes) : validGo 0 s = true → sanGo 0 s = s := by
  induction s using bytes_ind with
  | nil => simp [sanGo]
  | cons c bs ih =>
    intro hv
    rcases seqLen_cases c bs with ⟨h80, h1⟩ | ⟨_, h0⟩ | ⟨_, pre, t, rfl, -, -, hall⟩
    · rw [validGo_ascii c bs h80] at hv
      simp only [sanGo, h1]
      rw [ih bs (Nat.le_refl _) hv]
    · simp [validGo, h0] at hv
    · rw [validGo_chunk c pre t (hall t)] at hv
      simp only [sanGo, hall t]
      rw [sanGo_copy, ih t (by simp) hv]

theorem sanitize_valid (s : Bytes) (h : ValidUtf8 s) : sanitize s = s := sanGo_valid s h

theorem valid_sanitize (s : Bytes) : ValidUtf8 (sanitize s) := by
  rw [← unquote_goEscape]; exact valid_unquote _

theorem sanitize_eq_iff (s : Bytes) : sanitize s = s ↔ ValidUtf8 s :=
  ⟨fun h => h ▸ valid_sanitize s, sanitize_valid s⟩

theorem sanitize_idem (s : Bytes) : sanitize (sanitize s) = sanitize s :=
  sanitize_valid _ (valid_sanitize s)

/-! ## The array of strings -/

/-- What the reader makes of a marshalled `[]string`. -/
def strVals (l : List Bytes) : List JVal := l.map fun s => .str (sanitize s)

theorem lex_goStrTail : ∀ (xs : List Bytes) (r : Bytes),
    lexGo 0 (goStrTail xs ++ r) = (lexGo 0 r).map (toksTail (strVals xs) ++ ·)
  | [], r => by
    simp only [goStrTail, strVals, List.map_nil, toksTail, List.cons_append, List.nil_append]
    rw [lexGo_punct 0x5D .rbrack _ (by decide)]
    simpa using consTok_map .rbrack [] (lexGo 0 r)
  | x :: xs, r => by
    simp only [goStrTail, strVals, List.map_cons, toksTail, toks, List.cons_append, List.append_assoc]
    rw [lexGo_punct 0x2C .comma _ (by decide), lexGo_goStr, lex_goStrTail xs r, consTok_map, consTok_map]
    rfl

theorem lex_goStrList (xs : List Bytes) (r : Bytes) :
    lexGo 0 (goStrList xs ++ r) = (lexGo 0 r).map (toks (.arr (strVals xs)) ++ ·) := by
  cases xs with
  | nil =>
    simp only [goStrList, strVals, List.map_nil, toks, List.cons_append, List.nil_append]
    rw [lexGo_punct 0x5B .lbrack _ (by decide), lexGo_punct 0x5D .rbrack _ (by decide)]
    cases lexGo 0 r <;> simp [consTok]
  | cons x xs =>
    simp only [goStrList, strVals, List.map_cons, toks, List.cons_append, List.append_assoc]
    rw [lexGo_punct 0x5B .lbrack _ (by decide), lexGo_goStr, lex_goStrTail xs r, consTok_map, consTok_map]
    rfl

theorem depthL_strVals (xs : List Bytes) : depthL (strVals xs) = 0 := by
  induction xs with
  | nil => simp [strVals, depthL]
  | cons x xs ih => simp [strVals, depthL, depth] at ih ⊢; exact ih

theorem parse_goStrList (xs : List Bytes) : Json.parse (goStrList xs) = some (.arr (strVals xs)) := by
  have h := lex_goStrList xs []
  simp only [List.append_nil, lexGo, Option.map_some] at h
  have hd : depth (.arr (strVals xs)) ≤ maxDepth := by simp [depth, depthL_strVals, maxDepth]
  simp [Json.parse, lex, h, parseToks_toks _ hd]

theorem mapM_elemStr_strVals (xs : List Bytes) : (strVals xs).mapM elemStr = some (xs.map sanitize) := by
  induction xs with
  | nil => rfl
  | cons x xs ih =>
    simp only [strVals, List.map_cons, List.mapM_cons, elemStr] at ih ⊢
    rw [ih]; rfl

theorem decodeStrList_goStrList (xs : List Bytes) : decodeStrList (goStrList xs) = some (xs.map sanitize) := by
  simp [decodeStrList, parse_goStrList, mapM_elemStr_strVals]

theorem decodeIDE_encode_list (xs : List Bytes) :
    decodeIDE (B64Url.encode (goStrList xs)) =
      match xs.map sanitize with
      | [a, b] => .ok (a, b)
      | _ => .error .length := by
  simp only [decodeIDE, B64Url.decode_encode, decodeStrList_goStrList]
  split <;> rename_i h <;> simp_all

theorem decodeID_encodeID (a b : Bytes) : decodeID (encodeID a b) = some (sanitize a, sanitize b) := by
  simp [decodeID, encodeID, decodeIDE_encode_list]

/-! ## What `decodeID` accepts -/

theorem mapM_elemStr_length : ∀ (xs : List JVal) (l : List Bytes), xs.mapM elemStr = some l → l.length = xs.length
  | [], l, h => by simp [List.mapM_nil] at h; subst h; rfl
  | x :: xs, l, h => by
    simp only [List.mapM_cons] at h
    cases hx : elemStr x with
    | none => simp [hx] at h
    | some a =>
      cases hm : xs.mapM elemStr with
      | none => simp [hx, hm] at h
      | some l' =>
        simp [hx, hm] at h
        subst h
        simp [mapM_elemStr_length xs l' hm]

theorem mapM_elemStr_none : ∀ (xs : List JVal), (∃ x ∈ xs, elemStr x = none) → xs.mapM elemStr = none
  | [], h => by simp at h
  | y :: ys, h => by
    simp only [List.mapM_cons]
    cases hy : elemStr y with
    | none => rfl
    | some a =>
      have : ∃ x ∈ ys, elemStr x = none := by
        obtain ⟨x, hx, hxn⟩ := h
        simp at hx
        rcases hx with rfl | hx
        · rw [hy] at hxn; cases hxn
        · exact ⟨x, hx, hxn⟩
      simp [mapM_elemStr_none ys this]

theorem mapM_elemStr_some : ∀ (xs : List JVal), (∀ x ∈ xs, elemStr x ≠ none) → ∃ l, xs.mapM elemStr = some l
  | [], _ => ⟨[], rfl⟩
  | y :: ys, h => by
    obtain ⟨l, hl⟩ := mapM_elemStr_some ys (fun x hx => h x (by simp [hx]))
    cases hy : elemStr y with
    | none => exact absurd hy (h y (by simp))
    | some a => exact ⟨a :: l, by simp [List.mapM_cons, hy, hl]⟩

deriving instance DecidableEq for Except

theorem decodeStrList_pair (data a b : Bytes) :
    decodeStrList data = some [a, b] ↔
      ∃ x y, Json.parse data = some (.arr [x, y]) ∧ elemStr x = some a ∧ elemStr y = some b := by
  unfold decodeStrList
  cases Json.parse data with
  | none => simp
  | some v =>
    cases v with
    | arr xs =>
      simp only [Option.some.injEq, JVal.arr.injEq]
      constructor
      · intro h
        match xs, mapM_elemStr_length xs _ h with
        | [x, y], _ =>
          refine ⟨x, y, rfl, ?_⟩
          cases hx : elemStr x <;> cases hy : elemStr y <;> simp_all [List.mapM_cons, List.mapM_nil]
      · rintro ⟨x, y, rfl, hx, hy⟩
        simp [List.mapM_cons, List.mapM_nil, hx, hy]
    | _ => simp

theorem decodeIDE_ok_iff (id a b : Bytes) :
    decodeIDE id = .ok (a, b) ↔ ∃ data, B64Url.decode id = some data ∧ decodeStrList data = some [a, b] := by
  unfold decodeIDE
  cases B64Url.decode id with
  | none => simp
  | some data =>
    simp only [Option.some.injEq, exists_eq_left']
    cases decodeStrList data with
    | none => simp
    | some l =>
      match l with
      | [] | [_] | _ :: _ :: _ :: _ => simp
      | [u, v] => simp

theorem decodeID_some_iff (id a b : Bytes) :
    decodeID id = some (a, b) ↔
      ∃ data x y, B64Url.decode id = some data ∧ Json.parse data = some (.arr [x, y]) ∧
        elemStr x = some a ∧ elemStr y = some b := by
  have h1 : decodeID id = some (a, b) ↔ decodeIDE id = .ok (a, b) := by
    unfold decodeID
    cases decodeIDE id <;> simp
  simp only [h1, decodeIDE_ok_iff, decodeStrList_pair]
  exact ⟨fun ⟨data, hd, x, y, h⟩ => ⟨data, x, y, hd, h⟩, fun ⟨data, x, y, hd, h⟩ => ⟨data, hd, x, y, h⟩⟩

theorem elemStr_valid {x : JVal} {a : Bytes} (hw : WF x) (h : elemStr x = some a) : ValidUtf8 a := by
  cases x <;> simp [elemStr] at h
  · subst h; decide
  · subst h; simpa [WF] using hw

theorem decodeID_valid {id a b : Bytes} (h : decodeID id = some (a, b)) : ValidUtf8 a ∧ ValidUtf8 b := by
  obtain ⟨data, x, y, _, hp, hx, hy⟩ := (decodeID_some_iff id a b).mp h
  have hw := (parse_wf data _ hp).1
  simp only [WF, WFL] at hw
  exact ⟨elemStr_valid hw.1 hx, elemStr_valid hw.2.1 hy⟩

/-! ## The ID as a path segment -/

theorem encChar_b64url : ∀ n, n < 64 → isB64UrlChar (B64Url.encChar n) = true := by decide

theorem encode_alphabet (x : Bytes) : ∀ c ∈ B64Url.encode x, isB64UrlChar c = true := by
  intro c hc
  rw [B64Url.encode_eq_map] at hc
  obtain ⟨n, hn, rfl⟩ := List.mem_map.mp hc
  exact encChar_b64url n (B64Url.vals_lt x n hn)

theorem isB64UrlChar_ascii {c : UInt8} (h : isB64UrlChar c = true) : c < 0x80 := by
  have : c.toNat < 0x80 := by
    simp [isB64UrlChar] at h
    omega
  exact UInt8.lt_iff_toNat_lt.mpr this

theorem validUTF8_ascii (s : Bytes) (h : ∀ c ∈ s, c < 0x80) : B64Url.validUTF8 s = true := by
  induction s with
  | nil => rfl
  | cons c s ih =>
    have hc := h c (by simp)
    unfold B64Url.validUTF8
    rw [if_pos hc]
    exact ih (fun x hx => h x (by simp [hx]))

theorem goStrList_ne_nil (xs : List Bytes) : goStrList xs ≠ [] := by
  cases xs <;> simp [goStrList]

end OciModel.UnifyID
