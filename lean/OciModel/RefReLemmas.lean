/-
The hand-written recognisers of `OciModel/Ref.lean` accept exactly the languages of the regular
expressions that the translator regenerates from ociref/reference.go (`Generated/RefRe.lean`):
helper lemmas for `Props/C17R.lean`.
Core Lean only.
-/
import OciModel.Ref
import OciModel.RefLemmas
import OciModel.RegexLemmas
import OciModel.Generated.RefRe

namespace OciModel.RefRe
open OciModel.Regex OciModel.Ref OciModel.Generated.RefRe

/-! ### Byte classes of the patterns are the character predicates of the model

The order on `UInt8` is by definition the order of `toNat`, so a range test of `inClass` and the
corresponding comparison in a predicate of `Ref.lean` are definitionally equal: once the ranges
stand in the order of the predicate's disjuncts, `rfl` closes the goal. -/

theorem inClass_under (b : UInt8) : inClass [(95, 95)] b = (b == cUnder) := inClass_byte cUnder rfl b
theorem inClass_dash (b : UInt8) : inClass [(45, 45)] b = (b == cDash) := inClass_byte cDash rfl b
theorem inClass_dot (b : UInt8) : inClass [(46, 46)] b = (b == cDot) := inClass_byte cDot rfl b
theorem inClass_colon (b : UInt8) : inClass [(58, 58)] b = (b == cColon) := inClass_byte cColon rfl b
theorem inClass_lbracket (b : UInt8) : inClass [(91, 91)] b = (b == 91) := inClass_byte 91 rfl b
theorem inClass_rbracket (b : UInt8) : inClass [(93, 93)] b = (b == 93) := inClass_byte 93 rfl b
theorem inClass_notAt (b : UInt8) : inClass [(0, 63), (65, 255)] b = (b != cAt) :=
  inClass_compl cAt rfl b
theorem inClass_notNL (b : UInt8) : inClass [(0, 9), (11, 255)] b = (b != cNL) :=
  inClass_compl cNL rfl b

theorem inClass_digit (b : UInt8) : inClass [(48, 57)] b = isDigit b := inClass_one _ b
theorem inClass_alnumLower (b : UInt8) : inClass [(48, 57), (97, 122)] b = isAlnumLower b := by
  rw [inClass_cons, inClass_one, isAlnumLower, Bool.or_comm]; rfl
theorem inClass_alnum (b : UInt8) : inClass [(48, 57), (65, 90), (97, 122)] b = isAlnum b := by
  rw [inClass_cons, inClass_cons, inClass_one, isAlnum, Bool.or_comm, Bool.or_comm (isLower b)]; rfl
theorem inClass_alnumDash (b : UInt8) :
    inClass [(45, 45), (48, 57), (65, 90), (97, 122)] b = (isAlnum b || b == cDash) := by
  rw [inClass_cons, inClass_alnum, Bool.or_comm, ← inClass_one, inClass_dash]
theorem inClass_dotUnder (b : UInt8) :
    inClass [(46, 46), (95, 95)] b = (b == cDot || b == cUnder) := by
  rw [inClass_cons, inClass_under, ← inClass_one, inClass_dot]
/-- `[a-fA-F0-9:]`: the class joins the digits and the colon next to them into one range, so
here the two sides agree only as conditions on `b.toNat`. -/
theorem inClass_ipv6 (b : UInt8) : inClass [(48, 58), (65, 70), (97, 102)] b = isIPv6Char b := by
  rw [Bool.eq_iff_iff]
  simp only [inClass_cons, inClass_nil, Bool.false_eq_true, or_false, isIPv6Char, isDigit,
    Bool.or_eq_true, Bool.and_eq_true, decide_eq_true_eq, beq_iff_eq, UInt8.le_iff_toNat_le,
    ← UInt8.toNat_inj, UInt8.toNat_ofNat]
  omega

/-! ### `splitOn` and separated lists -/

theorem split_first (sep : UInt8) (s : Bytes) :
    sep ∉ s ∨ ∃ x y, s = x ++ sep :: y ∧ sep ∉ x := by
  rcases span_ne_cases sep s with ⟨h, _, _⟩ | ⟨x, y, e, hx, _, _⟩
  · exact Or.inl h
  · exact Or.inr ⟨x, y, e, hx⟩

/-- The forward half of `splitOn_forall_iff_star`, by recursion on the part after the first
separator. -/
theorem lang_of_splitOn_forall {sep : UInt8} {r q : Re} (hq : ∀ s, lang q s ↔ s = [sep]) (s : Bytes)
    (h : ∀ p ∈ splitOn sep s, lang r p) : lang (.cat r (.star (.cat q r))) s := by
  rcases split_first sep s with hs | ⟨x, y, rfl, hx⟩
  · rw [splitOn_of_not_mem hs] at h
    exact ⟨s, [], by simp, h s (by simp), lang_star_nil _⟩
  · rw [splitOn_append_cons y hx] at h
    obtain ⟨x', y', rfl, hx', hy'⟩ :=
      lang_of_splitOn_forall hq y fun p hp => h p (List.mem_cons_of_mem _ hp)
    exact ⟨x, (sep :: x') ++ y', by simp, h x List.mem_cons_self,
      lang_star_append ⟨[sep], x', rfl, (hq _).mpr rfl, hx'⟩ hy'⟩
termination_by s.length
decreasing_by subst_vars; simp only [List.length_append, List.length_cons]; omega

/-- All parts of `splitOn sep s` are in `r`  iff  `s` is in `r (sep r)*`. -/
theorem splitOn_forall_iff_star {sep : UInt8} {r q : Re} (hq : ∀ s, lang q s ↔ s = [sep])
    (hr : ∀ p, lang r p → sep ∉ p) (s : Bytes) :
    (∀ p ∈ splitOn sep s, lang r p) ↔ lang (.cat r (.star (.cat q r))) s := by
  constructor
  · exact lang_of_splitOn_forall hq s
  · rintro ⟨x, y, rfl, hx, hy⟩
    revert x
    refine lang_star_induction (P := fun y => ∀ x, lang r x → ∀ p ∈ splitOn sep (x ++ y), lang r p)
      ?_ ?_ y hy
    · intro x hx p hp
      rw [List.append_nil, splitOn_of_not_mem (hr x hx)] at hp
      simp only [List.mem_singleton] at hp
      subst hp; exact hx
    · rintro u v ⟨u1, x', rfl, hu1, hx'⟩ _ ih x hx p hp
      rw [(hq u1).mp hu1] at hp
      have e : x ++ ([sep] ++ x' ++ v) = x ++ sep :: (x' ++ v) := by simp
      rw [e, splitOn_append_cons _ (hr x hx)] at hp
      rcases List.mem_cons.mp hp with rfl | hp
      · exact hx
      · exact ih x' hx' p hp

theorem splitOn_forall_iff_plus {sep : UInt8} {r q : Re} (hq : ∀ s, lang q s ↔ s = [sep])
    (hr : ∀ p, lang r p → sep ∉ p) (s : Bytes) :
    ((splitOn sep s).length ≥ 2 ∧ ∀ p ∈ splitOn sep s, lang r p) ↔
      lang (.cat r (.plus (.cat q r))) s := by
  constructor
  · rintro ⟨hl, h⟩
    rcases split_first sep s with hs | ⟨x, y, rfl, hx⟩
    · rw [splitOn_of_not_mem hs] at hl; simp at hl
    · rw [splitOn_append_cons y hx] at h
      have hy := (splitOn_forall_iff_star hq hr y).mp
        (fun p hp => h p (List.mem_cons_of_mem _ hp))
      obtain ⟨x', y', rfl, hx', hy'⟩ := hy
      refine ⟨x, (sep :: x') ++ y', by simp, h x List.mem_cons_self, ?_⟩
      exact lang_plus_iff.mpr ⟨sep :: x', y', rfl, ⟨[sep], x', rfl, (hq _).mpr rfl, hx'⟩, hy'⟩
  · rintro ⟨x, y, rfl, hx, hy⟩
    refine ⟨?_, (splitOn_forall_iff_star hq hr _).mpr ⟨x, y, rfl, hx, lang_star_of_plus hy⟩⟩
    obtain ⟨u, v, rfl, ⟨u1, x', rfl, hu1, _⟩, _⟩ := lang_plus_iff.mp hy
    rw [(hq u1).mp hu1, show x ++ ([sep] ++ x' ++ v) = x ++ sep :: (x' ++ v) by simp,
      splitOn_append_cons _ (hr x hx)]
    exact Nat.succ_le_succ (List.length_pos_iff.mpr (splitOn_ne_nil sep _))

/-! ### The repository pattern -/

/-- `[a-z0-9]` -/
def alnumLowerCls : Re := .cls [(48, 57), (97, 122)]
/-- `alphanumeric` = `[a-z0-9]+` -/
def alphanumericRe : Re := .plus alnumLowerCls
/-- `separator` = `[._]|__|-+` -/
def separatorRe : Re :=
  .alt (.cls [(46, 46), (95, 95)]) (.alt (.cat (.cls [(95, 95)]) (.cls [(95, 95)])) (.plus (.cls [(45, 45)])))
/-- `separator alphanumeric` -/
def sepAlnumRe : Re := .cat separatorRe alphanumericRe
/-- `pathComponent` = `alphanumeric (separator alphanumeric)*` -/
def pathComponentRe : Re := .cat alphanumericRe (.star sepAlnumRe)
def slashCls : Re := .cls [(47, 47)]
/-- What `pathTail` recognises: `[a-z0-9]* (separator alphanumeric)*`. -/
def pathTailRe : Re := .cat (.star alnumLowerCls) (.star sepAlnumRe)

/-- The regenerated tree, with its subtrees named (regexp/syntax flattens concatenations). -/
theorem repoPatRe_eq : repoPatRe =
    .cat alphanumericRe (.cat (.star sepAlnumRe)
      (.star (.cat slashCls (.cat alphanumericRe (.star sepAlnumRe))))) := rfl

theorem repoPatRe_equiv :
    Equiv repoPatRe (.cat pathComponentRe (.star (.cat slashCls pathComponentRe))) := by
  rw [repoPatRe_eq]
  exact Equiv.cat_assoc _ _ _

theorem lang_alnumLower_star {s : Bytes} :
    lang (.star alnumLowerCls) s ↔ ∀ b ∈ s, isAlnumLower b = true := by
  simp only [alnumLowerCls, lang_star_cls_iff, inClass_alnumLower]

theorem lang_alphanumeric {s : Bytes} :
    lang alphanumericRe s ↔ s ≠ [] ∧ ∀ b ∈ s, isAlnumLower b = true := by
  simp only [alphanumericRe, alnumLowerCls, lang_plus_cls_iff, inClass_alnumLower]

theorem lang_separator {s : Bytes} : lang separatorRe s ↔ isSeparator s = true := by
  simp only [separatorRe, lang_alt_iff, lang_plus_cls_iff, lang_cat_cls_iff, lang_cls_iff,
    inClass_dotUnder, inClass_under, inClass_dash, isSeparator, Bool.or_eq_true, beq_iff_eq,
    Bool.and_eq_true, bne_iff_ne, ne_eq, List.all_eq_true]
  constructor
  · rintro (⟨b, rfl, rfl | rfl⟩ | ⟨c, t, rfl, rfl, b, rfl, rfl⟩ | ⟨hne, hall⟩)
    · simp
    · simp
    · simp
    · exact Or.inr ⟨hne, hall⟩
  · rintro (((rfl | rfl) | rfl) | ⟨hne, hall⟩)
    · exact Or.inl ⟨cDot, rfl, Or.inl rfl⟩
    · exact Or.inl ⟨cUnder, rfl, Or.inr rfl⟩
    · exact Or.inr (Or.inl ⟨cUnder, [cUnder], rfl, rfl, cUnder, rfl, rfl⟩)
    · exact Or.inr (Or.inr ⟨hne, hall⟩)

theorem isSeparator_spec {r : Bytes} (h : isSeparator r = true) :
    r ≠ [] ∧ ∀ c ∈ r, (!isAlnumLower c) = true := by
  refine ⟨by rintro rfl; revert h; decide, fun c hc => ?_⟩
  have := isSeparator_bytes h c hc
  simp only [Bool.or_eq_true, beq_iff_eq] at this
  rcases this with (rfl | rfl) | rfl <;> decide

theorem lang_pathTail_nil : lang pathTailRe [] :=
  ⟨[], [], rfl, lang_star_nil _, lang_star_nil _⟩

theorem lang_sepAlnum {s : Bytes} (h : lang sepAlnumRe s) :
    ∃ sp a al, s = sp ++ a :: al ∧ isSeparator sp = true ∧ isAlnumLower a = true ∧
      ∀ b ∈ al, isAlnumLower b = true := by
  obtain ⟨sp, al, rfl, hsp, hal⟩ := h
  obtain ⟨hne, hall⟩ := lang_alphanumeric.mp hal
  cases al with
  | nil => exact absurd rfl hne
  | cons a al' =>
    exact ⟨sp, a, al', rfl, lang_separator.mp hsp, hall a List.mem_cons_self,
      fun b hb => hall b (List.mem_cons_of_mem _ hb)⟩

theorem not_lang_sepAlnum_star_cons {c : UInt8} {t : Bytes} (hc : isAlnumLower c = true) :
    ¬ lang (.star sepAlnumRe) (c :: t) := by
  intro h
  obtain ⟨u, v, rfl, hu, _⟩ := lang_star_cons_iff.mp h
  obtain ⟨sp, a, al, e, hsp, _, _⟩ := lang_sepAlnum hu
  obtain ⟨hne, hna⟩ := isSeparator_spec hsp
  cases sp with
  | nil => exact hne rfl
  | cons d sp' =>
    cases e
    have := hna c List.mem_cons_self
    rw [hc] at this; cases this

theorem lang_pathTail_cons_alnum {c : UInt8} {t : Bytes} (hc : isAlnumLower c = true) :
    lang pathTailRe (c :: t) ↔ lang pathTailRe t := by
  rw [pathTailRe, lang_cat_cons_iff]
  simp only [lang_alnumLower_star, List.forall_mem_cons, hc, true_and,
    not_lang_sepAlnum_star_cons hc, and_false, or_false, lang_cat_iff]

theorem lang_pathTail_cons_sep {c : UInt8} {t : Bytes} (hc : isAlnumLower c = false) :
    lang pathTailRe (c :: t) ↔
      ∃ sp a u, c :: t = sp ++ a :: u ∧ isSeparator sp = true ∧ isAlnumLower a = true ∧
        lang pathTailRe u := by
  -- the `[a-z0-9]*` factor cannot take `c`, so it is empty and `c :: t` is in the star
  rw [pathTailRe, lang_cat_cons_iff]
  simp only [lang_alnumLower_star, List.forall_mem_cons, hc, Bool.false_eq_true, false_and,
    and_false, exists_false, false_or, List.not_mem_nil, false_imp_iff, implies_true, true_and]
  constructor
  · intro h
    obtain ⟨u, v, rfl, hu, hv⟩ := lang_star_cons_iff.mp h
    obtain ⟨sp, a, al, e, hsp, ha, hal⟩ := lang_sepAlnum hu
    exact ⟨sp, a, al ++ v, by rw [← List.cons_append, e]; simp, hsp, ha, al, v, rfl,
      lang_alnumLower_star.mpr hal, hv⟩
  · rintro ⟨sp, a, u, e, hsp, ha, x, y, rfl, hx, hy⟩
    rw [e, ← List.cons_append, ← List.append_assoc]
    refine lang_star_append ⟨sp, a :: x, rfl, lang_separator.mpr hsp,
      lang_alphanumeric.mpr ⟨by simp, ?_⟩⟩ hy
    exact List.forall_mem_cons.mpr ⟨ha, lang_alnumLower_star.mp hx⟩

theorem pathTail_iff : ∀ (fuel : Nat) (s : Bytes), s.length ≤ fuel →
    (pathTail fuel s = true ↔ lang pathTailRe s)
  | _, [], _ => by simp [pathTail, lang_pathTail_nil]
  | 0, _ :: _, h => by simp at h
  | fuel + 1, c :: rest, hl => by
    have hl' : rest.length ≤ fuel := by simpa using hl
    unfold pathTail
    by_cases hc : isAlnumLower c = true
    · simp only [hc, if_true]
      rw [lang_pathTail_cons_alnum hc]
      exact pathTail_iff fuel rest hl'
    · have hc' : isAlnumLower c = false := by simpa using hc
      simp only [hc', Bool.false_eq_true, if_false]
      rw [lang_pathTail_cons_sep hc']
      have hlen : ∀ {sp : Bytes} {a : UInt8} {u : Bytes}, c :: rest = sp ++ a :: u →
          u.length ≤ fuel := by
        intro sp a u e
        have := congrArg List.length e
        simp only [List.length_cons, List.length_append] at this
        omega
      constructor
      · intro h
        rcases span_cases (fun c => !isAlnumLower c) (c :: rest) with
          ⟨_, _, hd⟩ | ⟨sep, a, after, e, _, ha, ht, hd⟩
        · simp [hd] at h
        · have ha : isAlnumLower a = true := by simpa using ha
          simp only [ht, hd, Bool.and_eq_true, List.drop_succ_cons, List.drop_zero] at h
          exact ⟨sep, a, after, e, h.1.1, ha, (pathTail_iff fuel after (hlen e)).mp h.2⟩
      · rintro ⟨sp, a, u, e, hsp, ha, hu⟩
        have hspP := (isSeparator_spec hsp).2
        have haP : (!isAlnumLower a) = false := by simp [ha]
        rw [e, takeWhile_append_cons _ hspP haP, dropWhile_append_cons _ hspP haP]
        simp [hsp, (pathTail_iff fuel u (hlen e)).mpr hu]

theorem pathComponentRe_equiv : Equiv pathComponentRe (.cat alnumLowerCls pathTailRe) := by
  unfold pathComponentRe pathTailRe alphanumericRe
  exact (Equiv.cat (Equiv.plus_unfold _) (Equiv.refl _)).trans (Equiv.cat_assoc _ _ _).symm

theorem isPathComponent_iff (s : Bytes) : isPathComponent s = true ↔ lang pathComponentRe s := by
  rw [pathComponentRe_equiv s]
  cases s with
  | nil => exact ⟨fun h => (by cases h), fun ⟨_, _, e, ⟨_, rfl, _⟩, _⟩ => (by cases e)⟩
  | cons c rest =>
    rw [alnumLowerCls, lang_cat_cls_cons_iff, inClass_alnumLower, ← pathTail_iff _ _ (Nat.le_refl _),
      isPathComponent, Bool.and_eq_true]

theorem lang_slashCls (s : Bytes) : lang slashCls s ↔ s = [cSlash] :=
  lang_cls_byte cSlash rfl s

theorem isRepo_iff (s : Bytes) : isRepo s = true ↔ lang repoPatRe s := by
  rw [repoPatRe_equiv s, ← splitOn_forall_iff_star lang_slashCls fun _ h => not_mem_of_avoids (by decide) h]
  simp only [isRepo, List.all_eq_true, isPathComponent_iff]

/-! ### The host pattern -/

/-- `[a-zA-Z0-9]` -/
def alnumCls : Re := .cls [(48, 57), (65, 90), (97, 122)]
/-- `[a-zA-Z0-9-]` -/
def alnumDashCls : Re := .cls [(45, 45), (48, 57), (65, 90), (97, 122)]
/-- `(?:[a-zA-Z0-9-]*[a-zA-Z0-9])?` -/
def dcTailRe : Re := .opt (.cat (.star alnumDashCls) alnumCls)
/-- `domainNameComponent` -/
def domainComponentRe : Re := .cat alnumCls dcTailRe
def dotCls : Re := .cls [(46, 46)]
def colonCls : Re := .cls [(58, 58)]
/-- `port` = `[0-9]+` -/
def portRe : Re := .plus (.cls [(48, 57)])
/-- `:port` -/
def colonPortRe : Re := .cat colonCls portRe
/-- `domainName` as regexp/syntax flattens it. -/
def domainNameRawRe : Re :=
  .cat alnumCls (.cat dcTailRe (.plus (.cat dotCls (.cat alnumCls dcTailRe))))
/-- `domainName` = `domainNameComponent (\. domainNameComponent)+` -/
def domainNameRe : Re := .cat domainComponentRe (.plus (.cat dotCls domainComponentRe))
/-- `ipv6address` = `\[[a-fA-F0-9:]+\]` -/
def ipv6Re : Re :=
  .cat (.cls [(91, 91)]) (.cat (.plus (.cls [(48, 58), (65, 70), (97, 102)])) (.cls [(93, 93)]))

theorem hostPatRe_eq : hostPatRe =
    .alt (.cat (.alt domainNameRawRe ipv6Re) (.opt colonPortRe))
      (.cat alnumCls (.cat dcTailRe colonPortRe)) := rfl

theorem domainNameRaw_equiv : Equiv domainNameRawRe domainNameRe :=
  Equiv.cat_assoc alnumCls dcTailRe _

/-- `hostPat` = `domainName(:port)? | ipv6address(:port)? | domainNameComponent:port`. -/
theorem lang_hostPatRe (s : Bytes) : lang hostPatRe s ↔
    (lang (.cat domainNameRe (.opt colonPortRe)) s ∨ lang (.cat ipv6Re (.opt colonPortRe)) s) ∨
      lang (.cat domainComponentRe colonPortRe) s := by
  rw [hostPatRe_eq, lang_alt_iff, lang_cat_alt_left,
    Equiv.cat domainNameRaw_equiv (Equiv.refl _) s,
    Equiv.cat_assoc alnumCls dcTailRe colonPortRe s]
  rfl

theorem lang_dcTail (rest : Bytes) : lang dcTailRe rest ↔
    (rest.all (fun c => isAlnum c || c == cDash) &&
      (match rest.getLast? with | .none => true | .some l => isAlnum l)) = true := by
  rcases List.eq_nil_or_concat rest with rfl | ⟨x, l, rfl⟩
  · simp [dcTailRe, lang_opt_iff]
  · rw [List.concat_eq_append]
    simp only [dcTailRe, alnumCls, alnumDashCls, lang_opt_iff, lang_cat_cls_right_iff,
      lang_star_cls_iff, inClass_alnum, inClass_alnumDash, List.getLast?_concat,
      List.all_append, List.all_cons, List.all_nil, Bool.and_true, Bool.and_eq_true,
      List.all_eq_true]
    constructor
    · rintro (h | ⟨x', l', e, hx, hl⟩)
      · simp at h
      · obtain ⟨rfl, e2⟩ := List.append_inj' e rfl
        cases e2
        exact ⟨⟨hx, by simp [hl]⟩, hl⟩
    · rintro ⟨⟨hx, _⟩, hl⟩
      exact Or.inr ⟨x, l, rfl, hx, hl⟩

theorem lang_domainComponent (s : Bytes) :
    lang domainComponentRe s ↔ isDomainComponent s = true := by
  cases s with
  | nil => simp [domainComponentRe, alnumCls, lang_cat_cls_iff, isDomainComponent]
  | cons c rest =>
    simp only [domainComponentRe, alnumCls, lang_cat_cls_cons_iff, inClass_alnum]
    rw [lang_dcTail]
    simp only [isDomainComponent, Bool.and_eq_true]
    exact ⟨fun ⟨a, b, c⟩ => ⟨⟨a, b⟩, c⟩, fun ⟨⟨a, b⟩, c⟩ => ⟨a, b, c⟩⟩

theorem lang_port (s : Bytes) : lang portRe s ↔ isPort s = true := by
  simp only [portRe, lang_plus_cls_iff, inClass_digit, isPort, Bool.and_eq_true, bne_iff_ne,
    ne_eq, List.all_eq_true]

theorem lang_colonPort (s : Bytes) :
    lang colonPortRe s ↔ ∃ p, s = cColon :: p ∧ isPort p = true := by
  simp only [colonPortRe, colonCls, lang_cat_cls_iff, inClass_colon, beq_iff_eq, lang_port]
  constructor
  · rintro ⟨c, t, rfl, rfl, h⟩; exact ⟨t, rfl, h⟩
  · rintro ⟨p, rfl, h⟩; exact ⟨cColon, p, rfl, rfl, h⟩

theorem lang_optColonPort (s : Bytes) :
    lang (.opt colonPortRe) s ↔ s = [] ∨ ∃ p, s = cColon :: p ∧ isPort p = true := by
  rw [lang_opt_iff, lang_colonPort]

theorem lang_ipv6 (s : Bytes) : lang ipv6Re s ↔
    ∃ body, s = 91 :: (body ++ [93]) ∧ body ≠ [] ∧ ∀ b ∈ body, isIPv6Char b = true := by
  simp only [ipv6Re, lang_cat_cls_iff, lang_cat_cls_right_iff, lang_plus_cls_iff,
    inClass_lbracket, inClass_rbracket, inClass_ipv6, beq_iff_eq]
  constructor
  · rintro ⟨c, t, rfl, rfl, x, d, rfl, ⟨hne, hall⟩, rfl⟩; exact ⟨x, rfl, hne, hall⟩
  · rintro ⟨body, rfl, hne, hall⟩; exact ⟨91, _, rfl, rfl, body, 93, rfl, ⟨hne, hall⟩, rfl⟩

theorem lang_dotCls (s : Bytes) : lang dotCls s ↔ s = [cDot] := lang_cls_byte cDot rfl s

theorem domainComponent_no_dot (p : Bytes) (h : lang domainComponentRe p) : cDot ∉ p :=
  not_mem_of_avoids (by decide) h

/-- The two domain alternatives of `hostPat`, in the form of `isHost_nobracket_iff`. -/
theorem lang_domainAlternatives (s : Bytes) :
    (lang (.cat domainNameRe (.opt colonPortRe)) s ∨ lang (.cat domainComponentRe colonPortRe) s) ↔
    ∃ hp, cColon ∉ hp ∧ (∀ p ∈ splitOn cDot hp, isDomainComponent p = true) ∧
      ((s = hp ∧ (splitOn cDot hp).length ≥ 2) ∨ ∃ p, s = hp ++ cColon :: p ∧ isPort p = true) := by
  have hstar := splitOn_forall_iff_star lang_dotCls domainComponent_no_dot
  have hplus := splitOn_forall_iff_plus lang_dotCls domainComponent_no_dot
  simp only [← lang_domainComponent]
  constructor
  · rintro (⟨x, y, rfl, hx, hy⟩ | ⟨x, y, rfl, hx, hy⟩)
    · have hcol : cColon ∉ x := not_mem_of_avoids (by decide) hx
      obtain ⟨hlen, hall⟩ := (hplus x).mpr hx
      rcases (lang_optColonPort y).mp hy with rfl | ⟨p, rfl, hp⟩
      · exact ⟨x, hcol, hall, Or.inl ⟨by simp, hlen⟩⟩
      · exact ⟨x, hcol, hall, Or.inr ⟨p, rfl, hp⟩⟩
    · have hcol : cColon ∉ x := not_mem_of_avoids (by decide) hx
      obtain ⟨p, rfl, hp⟩ := (lang_colonPort y).mp hy
      refine ⟨x, hcol, (hstar x).mpr ⟨x, [], by simp, hx, lang_star_nil _⟩, Or.inr ⟨p, rfl, hp⟩⟩
  · rintro ⟨hp, _, hall, ⟨rfl, hlen⟩ | ⟨p, rfl, hport⟩⟩
    · left
      exact ⟨s, [], by simp, (hplus s).mp ⟨hlen, hall⟩, Or.inl rfl⟩
    · have hcp : lang colonPortRe (cColon :: p) := (lang_colonPort _).mpr ⟨p, rfl, hport⟩
      rcases lang_cat_star_cases ((hstar hp).mp hall) with h | h
      · right; exact ⟨hp, _, rfl, h, hcp⟩
      · left; exact ⟨hp, _, rfl, h, Or.inr hcp⟩

/-- The `[` alternative of `hostPat`, in the form of `isHost_bracket_iff`. -/
theorem lang_ipv6Alternative (s : Bytes) : lang (.cat ipv6Re (.opt colonPortRe)) s ↔
    ∃ rest, s = 91 :: rest ∧ ∃ body after, rest = body ++ 93 :: after ∧ body ≠ [] ∧
      (∀ b ∈ body, isIPv6Char b = true) ∧
      (after = [] ∨ ∃ p, after = cColon :: p ∧ isPort p = true) := by
  constructor
  · rintro ⟨x, y, rfl, hx, hy⟩
    obtain ⟨body, rfl, hne, hall⟩ := (lang_ipv6 x).mp hx
    exact ⟨body ++ 93 :: y, by simp, body, y, rfl, hne, hall, (lang_optColonPort y).mp hy⟩
  · rintro ⟨_, rfl, body, after, rfl, hne, hall, hafter⟩
    exact ⟨91 :: (body ++ [93]), after, by simp, (lang_ipv6 _).mpr ⟨body, rfl, hne, hall⟩,
      (lang_optColonPort after).mpr hafter⟩

theorem isHost_iff (s : Bytes) : isHost s = true ↔ lang hostPatRe s := by
  rw [lang_hostPatRe]
  cases s with
  | nil =>
    have h1 : ¬ lang (.cat domainNameRe (.opt colonPortRe)) [] := by decide
    have h2 : ¬ lang (.cat ipv6Re (.opt colonPortRe)) [] := by decide
    have h3 : ¬ lang (.cat domainComponentRe colonPortRe) [] := by decide
    simp [isHost_nil, h1, h2, h3]
  | cons c rest =>
    by_cases hc : c = 91
    · subst hc
      have h1 : ¬ lang (.cat domainNameRe (.opt colonPortRe)) (91 :: rest) :=
        fun h => not_mem_of_avoids (c := 91) (by decide) h List.mem_cons_self
      have h3 : ¬ lang (.cat domainComponentRe colonPortRe) (91 :: rest) :=
        fun h => not_mem_of_avoids (c := 91) (by decide) h List.mem_cons_self
      rw [isHost_bracket_iff, lang_ipv6Alternative]
      simp only [h1, h3, false_or, or_false, List.cons.injEq, true_and, exists_eq_left']
    · have h2 : ¬ lang (.cat ipv6Re (.opt colonPortRe)) (c :: rest) := by
        rw [lang_ipv6Alternative]
        rintro ⟨_, e, _⟩
        simp only [List.cons.injEq] at e
        exact hc e.1
      rw [isHost_nobracket_iff hc, ← lang_domainAlternatives]
      simp only [h2, or_false]

/-! ### The reference pattern -/

def atCls : Re := .cls [(64, 64)]
/-- `[^@]+` (capture 3) -/
def tagRe : Re := .plus (.cls [(0, 63), (65, 255)])
/-- `.+` (capture 4; `.` does not match a newline) -/
def digestRe : Re := .plus (.cls [(0, 9), (11, 255)])
/-- `(repoName)(?::([^@]+))?(?:@(.+))?` — `referencePat` after its optional host. -/
def restRe : Re :=
  .cat (.grp 2 repoPatRe)
    (.cat (.opt (.cat colonCls (.grp 3 tagRe))) (.opt (.cat atCls (.grp 4 digestRe))))

theorem referencePatRe_eq :
    referencePatRe = .cat (.opt (.cat (.grp 1 hostPatRe) slashCls)) restRe := rfl

/-- An absent tag is `[]`, a present one is in `[^@]+`. -/
theorem nil_or_lang_tag {t : Bytes} : (t = [] ∨ lang tagRe t) ↔ ∀ c ∈ t, c ≠ cAt := by
  simp only [tagRe, ← lang_star_iff_nil_or_plus, lang_star_cls_iff, inClass_notAt, bne_iff_ne]

theorem nil_or_lang_digest {d : Bytes} : (d = [] ∨ lang digestRe d) ↔ ∀ c ∈ d, c ≠ cNL := by
  simp only [digestRe, ← lang_star_iff_nil_or_plus, lang_star_cls_iff, inClass_notNL, bne_iff_ne]

theorem lang_restRe (s : Bytes) : lang restRe s ↔
    ∃ p t d, isRepo p = true ∧ (∀ c ∈ t, c ≠ cAt) ∧ (∀ c ∈ d, c ≠ cNL) ∧
      s = p ++ (if t ≠ [] then cColon :: t else []) ++ (if d ≠ [] then cAt :: d else []) := by
  have htag : ¬ lang (.grp 3 tagRe) [] := fun h => (lang_plus_cls_iff.mp h).1 rfl
  have hdig : ¬ lang (.grp 4 digestRe) [] := fun h => (lang_plus_cls_iff.mp h).1 rfl
  simp only [restRe, colonCls, atCls, lang_cat_iff, lang_grp_iff, ← isRepo_iff,
    lang_opt_sep (n := 58) (c := cColon) rfl htag, lang_opt_sep (n := 64) (c := cAt) rfl hdig,
    nil_or_lang_tag, nil_or_lang_digest]
  constructor
  · rintro ⟨p, _, rfl, hp, _, _, rfl, ⟨t, ht, rfl⟩, d, hd, rfl⟩
    exact ⟨p, t, d, hp, ht, hd, (List.append_assoc _ _ _).symm⟩
  · rintro ⟨p, t, d, hp, ht, hd, rfl⟩
    exact ⟨p, _, List.append_assoc _ _ _, hp, _, _, rfl, ⟨t, ht, rfl⟩, d, hd, rfl⟩

theorem parseRest_isSome_iff (s : Bytes) : (parseRest s).isSome = true ↔ lang restRe s := by
  simp only [lang_restRe, Option.isSome_iff_exists, Prod.exists, parseRest_eq_some_iff]

theorem lang_referencePatRe (s : Bytes) : lang referencePatRe s ↔
    lang restRe s ∨ ∃ h rest, s = h ++ cSlash :: rest ∧ lang hostPatRe h ∧ lang restRe rest := by
  rw [referencePatRe_eq, lang_cat_opt_left]
  refine or_congr Iff.rfl ?_
  constructor
  · rintro ⟨_, rest, rfl, ⟨h, sl, rfl, hh, hsl⟩, hrest⟩
    rw [(lang_slashCls sl).mp hsl]
    exact ⟨h, rest, by simp, hh, hrest⟩
  · rintro ⟨h, rest, rfl, hh, hrest⟩
    exact ⟨h ++ [cSlash], rest, by simp, ⟨h, [cSlash], rfl, hh, (lang_slashCls _).mpr rfl⟩, hrest⟩

theorem matchRef_isSome_iff (s : Bytes) : (matchRef s).isSome = true ↔ lang referencePatRe s := by
  rw [lang_referencePatRe]
  constructor
  · intro h
    obtain ⟨r, hr⟩ := Option.isSome_iff_exists.mp h
    rcases matchRef_cases hr with ⟨_, hp⟩ | ⟨hh, rest, hs, hp⟩
    · exact Or.inl ((parseRest_isSome_iff s).mp (by rw [hp]; rfl))
    · exact Or.inr ⟨r.host, rest, hs, (isHost_iff _).mp hh,
        (parseRest_isSome_iff rest).mp (by rw [hp]; rfl)⟩
  · rintro (h | ⟨h, rest, rfl, hh, hrest⟩)
    · have hp := (parseRest_isSome_iff s).mpr h
      unfold matchRef
      simp only
      split
      · rfl
      · simpa using hp
    · obtain ⟨⟨p, t, d⟩, hp⟩ := Option.isSome_iff_exists.mp ((parseRest_isSome_iff rest).mpr hrest)
      rw [matchRef_host ((isHost_iff h).mpr hh) hp]; rfl

/-- The groups of a successful `matchRef` satisfy the pattern's groups. -/
theorem matchRef_groups {s : Bytes} {r : Reference} (h : matchRef s = some r) :
    print r = s ∧ (r.host = [] ∨ lang hostPatRe r.host) ∧ lang repoPatRe r.repo ∧
      (r.tag = [] ∨ lang tagRe r.tag) ∧ (r.digest = [] ∨ lang digestRe r.digest) := by
  obtain ⟨hhost, hrepo, htag, hdigest, hprint⟩ := matchRef_some h
  exact ⟨hprint, hhost.imp_right (isHost_iff _).mp, (isRepo_iff _).mp hrepo,
    nil_or_lang_tag.mpr htag, nil_or_lang_digest.mpr hdigest⟩

/-- The optional host group is greedy: whenever the string can be decomposed with a host, the
host `matchRef` reports is that one (and so non-empty). A host contains no `/`, so it is the
text before the first `/`. -/
theorem matchRef_prefers_host {s : Bytes} {r : Reference} (h : matchRef s = some r)
    {hst rest : Bytes} (hs : s = hst ++ cSlash :: rest) (hh : lang hostPatRe hst)
    (hrest : lang restRe rest) : r.host = hst ∧ r.host ≠ [] := by
  subst hs
  have hh' := (isHost_iff hst).mpr hh
  obtain ⟨⟨p, t, d⟩, hp⟩ := Option.isSome_iff_exists.mp ((parseRest_isSome_iff rest).mpr hrest)
  rw [matchRef_host hh' hp] at h
  cases h
  exact ⟨rfl, isHost_ne_nil hh'⟩

end OciModel.RefRe
