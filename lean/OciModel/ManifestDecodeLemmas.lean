/-
Lemmas about the manifest decoder (`ManifestDecode.lean`): member order, members that select no
field, decimal text, canonical documents (what they decode to; well-formed and shallow), a document
that decodes to references taken apart, trailing bytes, where references come from.
-/
import OciModel.ManifestDecode
import OciModel.JsonLemmas
namespace OciModel.ManifestDecode
open OciModel OciModel.Json OciModel.Mem

/-! ## Member order -/

theorem perm_foldlM {σ α : Type} (f : σ → α → Option σ) {l₁ l₂ : List α} (p : l₁.Perm l₂) (R : α → α → Prop)
    (hp : l₁.Pairwise R) (comm : ∀ a b, R a b → ∀ s, (f s a).bind (f · b) = (f s b).bind (f · a)) (s : σ) :
    l₁.foldlM f s = l₂.foldlM f s := by
  replace hp : l₁.Pairwise (fun a b => R a b ∨ R b a) := hp.imp Or.inl
  induction p generalizing s with
  | nil => rfl
  | cons x _ ih =>
    simp only [List.foldlM_cons, Option.bind_eq_bind]
    cases f s x with
    | none => rfl
    | some s' => exact ih s' (List.pairwise_cons.mp hp).2
  | swap x y l =>
    have h := ((List.pairwise_cons.mp hp).1 x List.mem_cons_self).elim (comm y x · s) (fun h => (comm x y h s).symm)
    simp only [List.foldlM_cons, Option.bind_eq_bind]
    rw [← Option.bind_assoc, ← Option.bind_assoc, h]
  | trans p₁ _ ih₁ ih₂ => exact (ih₁ s hp).trans (ih₂ s ((p₁.pairwise_iff (fun h => h.symm)).mp hp))

/-- Two members that do not select the same field. -/
def Indep {F : Type} (table : List (Bytes × F)) (a b : Bytes × JVal) : Prop :=
  lookupField table a.1 ≠ lookupField table b.1 ∨ lookupField table a.1 = none

/-- Struct decoding in general: `step` skips a member that selects no field, and the steps of two
members that select different fields commute (they write different fields). Then the members may
come in any order, as long as no two of them select the same field. -/
theorem foldlM_perm_indep {F σ : Type} (table : List (Bytes × F)) (step : σ → Bytes × JVal → Option σ)
    (hnone : ∀ kv, lookupField table kv.1 = none → ∀ s, step s kv = some s)
    (hcomm : ∀ a b f g, lookupField table a.1 = some f → lookupField table b.1 = some g → f ≠ g →
      ∀ s, (step s a).bind (step · b) = (step s b).bind (step · a))
    {l₁ l₂ : List (Bytes × JVal)} (p : l₁.Perm l₂) (hp : l₁.Pairwise (Indep table)) (s : σ) :
    l₁.foldlM step s = l₂.foldlM step s := by
  refine perm_foldlM step p (Indep table) hp ?_ s
  intro a b h s
  cases ha : lookupField table a.1 with
  | none => simp [hnone a ha]
  | some f =>
    cases hb : lookupField table b.1 with
    | none => simp [hnone b hb]
    | some g =>
      refine hcomm a b f g ha hb ?_ s
      rintro rfl
      rcases h with h | h
      · exact h (ha.trans hb.symm)
      · rw [ha] at h; cases h

/-- Writing two different fields, each from a value that may be refused, in either order. -/
theorem setter_comm {σ α β : Type} (p : σ → Option α) (q : σ → Option β) (f : σ → α → σ) (g : σ → β → σ)
    (hq : ∀ s a, q (f s a) = q s) (hp : ∀ s b, p (g s b) = p s) (h : ∀ s a b, g (f s a) b = f (g s b) a) (s : σ) :
    ((p s).map (f s)).bind (fun s' => (q s').map (g s')) = ((q s).map (g s)).bind (fun s' => (p s').map (f s')) := by
  cases hp' : p s <;> cases hq' : q s <;> simp [*]

theorem check_bind_left {σ : Type} (b : Bool) (s : σ) (f : σ → Option σ) :
    (check b s).bind f = (f s).bind (fun s' => check b s') := by
  cases b <;> cases h : f s <;> simp [check, h]

theorem check_bind_right {σ : Type} (b : Bool) (s : σ) (f : σ → Option σ) :
    (f s).bind (fun s' => check b s') = (check b s).bind f := (check_bind_left b s f).symm

theorem descStep_comm (a b : Bytes × JVal) (f g : DescField) (ha : lookupField descTable a.1 = some f)
    (hb : lookupField descTable b.1 = some g) (hne : f ≠ g) :
    ∀ d, (descStep d a).bind (descStep · b) = (descStep d b).bind (descStep · a) := by
  simp only [descStep, ha, hb]
  cases f <;> first
    | exact fun d => check_bind_left _ d _    -- `f` is only type-checked: whatever `g` is
    | (cases g <;> first
        | exact absurd rfl hne    -- the same field
        | exact fun d => Eq.symm (check_bind_left _ d _)    -- `g` is only type-checked
        | exact setter_comm _ _ _ _ (fun _ _ => by rfl) (fun _ _ => by rfl) (fun _ _ _ => by rfl))    -- two stored fields

theorem topStep_comm (table : List (Bytes × TopField)) (a b : Bytes × JVal) (f g : TopField)
    (ha : lookupField table a.1 = some f) (hb : lookupField table b.1 = some g) (hne : f ≠ g) :
    ∀ m, (topStep table m a).bind (topStep table · b) = (topStep table m b).bind (topStep table · a) := by
  simp only [topStep, ha, hb]
  cases f <;> first
    | exact fun m => check_bind_left _ m _    -- `f` is only type-checked: whatever `g` is
    | (cases g <;> first
        | exact absurd rfl hne    -- the same field
        | exact fun m => Eq.symm (check_bind_left _ m _)    -- `g` is only type-checked
        | exact setter_comm _ _ _ _ (fun _ _ => by rfl) (fun _ _ => by rfl) (fun _ _ _ => by rfl))    -- two stored fields

theorem decodeTop_perm (table : List (Bytes × TopField)) {l₁ l₂ : List (Bytes × JVal)} (p : l₁.Perm l₂)
    (hp : l₁.Pairwise (Indep table)) : decodeTop table (.obj l₁) = decodeTop table (.obj l₂) :=
  foldlM_perm_indep table (topStep table) (fun kv h m => by simp only [topStep, h]) (topStep_comm table) p hp {}

/-! ## Members that select no field -/

theorem foldlM_skip {σ α : Type} (f : σ → α → Option σ) (a : α) (h : ∀ s, f s a = some s) (l₁ l₂ : List α) (s : σ) :
    (l₁ ++ a :: l₂).foldlM f s = (l₁ ++ l₂).foldlM f s := by
  simp only [List.foldlM_append, List.foldlM_cons, h, Option.bind_eq_bind, Option.bind_some]

theorem decodeTop_unknown (table : List (Bytes × TopField)) (l₁ l₂ : List (Bytes × JVal)) (k : Bytes) (v : JVal)
    (hk : lookupField table k = none) :
    decodeTop table (.obj (l₁ ++ (k, v) :: l₂)) = decodeTop table (.obj (l₁ ++ l₂)) :=
  foldlM_skip (topStep table) (k, v) (fun m => by simp only [topStep, hk]) l₁ l₂ {}

/-! ## Decimal text -/

theorem digitByte_toNat (n : Nat) : (digitByte n).toNat = 0x30 + n % 10 := by
  simp [digitByte, UInt8.toNat_ofNat']
  omega

theorem isDigit_digitByte (n : Nat) : isDigit (digitByte n) = true := by
  simp [isDigit, digitByte_toNat]; omega

def dval (acc : Nat) (c : UInt8) : Nat := acc * 10 + (c.toNat - 0x30)

theorem natTextF_spec : ∀ (f n : Nat), n < f →
    natTextF f n ≠ [] ∧ (natTextF f n).all isDigit = true ∧ (natTextF f n).foldl dval 0 = n := by
  intro f
  induction f with
  | zero => intro n h; omega
  | succ f ih =>
    intro n h
    unfold natTextF
    by_cases h10 : n < 10
    · simp [h10, isDigit_digitByte, dval, digitByte_toNat]
    · have := ih (n / 10) (by omega)
      simp [h10, this.2.1, isDigit_digitByte, List.foldl_append, this.2.2, dval, digitByte_toNat]
      omega

theorem digitsVal_natText (n : Nat) : digitsVal (natText n) = some n := by
  have h := natTextF_spec (n + 1) n (by omega)
  unfold natText
  unfold digitsVal
  split
  · rename_i e; exact absurd e h.1
  · simp only [h.2.1, if_true]
    have := h.2.2
    unfold dval at this
    rw [this]

theorem natText_ne_nil (n : Nat) : natText n ≠ [] := (natTextF_spec (n + 1) n (by omega)).1

theorem natText_head_not_minus (n : Nat) : ∀ c r, natText n = c :: r → c.toNat ≠ 0x2D := by
  intro c r h
  have := (natTextF_spec (n + 1) n (by omega)).2.1
  unfold natText at h
  rw [h] at this
  simp [isDigit] at this
  omega

theorem parseInt64_intText (i : Int) (h1 : -9223372036854775808 ≤ i) (h2 : i ≤ 9223372036854775807) :
    parseInt64 (intText i) = some i := by
  unfold intText
  by_cases hneg : i < 0
  · simp only [hneg, if_true, parseInt64]
    simp only [show (0x2D : UInt8).toNat = 0x2D from by decide, if_true, digitsVal_natText]
    have : (-i).toNat ≤ 9223372036854775808 := by omega
    simp [this]; omega
  · simp only [hneg, if_false]
    cases hn : natText i.toNat with
    | nil => exact absurd hn (natText_ne_nil _)
    | cons c r =>
      have hc := natText_head_not_minus _ c r hn
      simp only [parseInt64, hc, if_false]
      rw [← hn, digitsVal_natText]
      have : i.toNat ≤ 9223372036854775807 := by omega
      simp [this]; omega


theorem numGo_natTextF : ∀ (f n : Nat), n < f → 1 ≤ n → ∀ (st : NumSt), (st = .begin ∨ st = .neg) → ∀ r,
    numGo st (natTextF f n ++ r) = (numGo .int r).map (· + (natTextF f n).length) := by
  intro f
  induction f with
  | zero => intro n h; omega
  | succ f ih =>
    intro n h h1 st hst r
    unfold natTextF
    by_cases h10 : n < 10
    · simp only [h10, if_true, List.cons_append, List.nil_append, numGo]
      have hd := digitByte_toNat n
      have hn : n % 10 = n := Nat.mod_eq_of_lt h10
      have : numStep st (digitByte n) = some .int := by
        rcases hst with rfl | rfl
        · simp only [numStep, hd]; rw [if_neg (by omega), if_neg (by omega), if_pos (by omega)]
        · simp only [numStep, hd]; rw [if_neg (by omega), if_pos (by omega)]
      simp [this]
    · simp only [h10, if_false, List.append_assoc, List.cons_append, List.nil_append]
      rw [ih (n / 10) (by omega) (by omega) st hst]
      simp only [numGo]
      have hd := digitByte_toNat n
      have : numStep .int (digitByte n) = some .int := by
        simp only [numStep, hd]; rw [if_pos (by omega)]
      simp [this, Option.map_map]
      cases numGo .int r <;> simp; omega

theorem numOK_intText (i : Int) : NumOK (intText i) := by
  unfold NumOK spanNum intText
  by_cases hneg : i < 0
  · simp only [hneg, if_true, numGo]
    simp only [show numStep .begin 0x2D = some .neg from by decide]
    have := numGo_natTextF ((-i).toNat + 1) (-i).toNat (by omega) (by omega) .neg (Or.inr rfl) []
    simp only [List.append_nil] at this
    simp [natText, this, numGo, NumSt.accepting]
  · simp only [hneg, if_false]
    by_cases h0 : i.toNat = 0
    · rw [h0]; decide
    · have := numGo_natTextF (i.toNat + 1) i.toNat (by omega) (by omega) .begin (Or.inl rfl) []
      simp only [List.append_nil] at this
      simp [natText, this, numGo, NumSt.accepting]


/-! ## Canonical documents decode to what they say -/

theorem mergeDesc_descJ (base d : Desc) (h : DescOK d) : mergeDesc base (descJ d) = some d := by
  have hk1 : lookupField descTable (strBytes "mediaType") = some .mediaType := by decide +kernel
  have hk2 : lookupField descTable (strBytes "digest") = some .digest := by decide +kernel
  have hk3 : lookupField descTable (strBytes "size") = some .size := by decide +kernel
  simp [mergeDesc, descJ, descStep, hk1, hk2, hk3, setStr, setInt, parseInt64_intText d.size h.2.2.1 h.2.2.2]

theorem mergeElems_descJ (back ds : List Desc) (h : ∀ d ∈ ds, DescOK d) :
    mergeElems back (ds.map descJ) = some ds := by
  induction ds generalizing back with
  | nil => rfl
  | cons d ds ih =>
    simp only [List.map_cons, mergeElems, mergeDesc_descJ _ d (h d (by simp))]
    rw [ih _ (fun x hx => h x (by simp [hx]))]

theorem sliceStep_descJ (ds : List Desc) (h : ∀ d ∈ ds, DescOK d) :
    (sliceStep {} (.arr (ds.map descJ))).map (·.vis) = some ds := by
  cases ds with
  | nil => rfl
  | cons d ds =>
    simp only [List.map_cons, sliceStep]
    have := mergeElems_descJ [] (d :: ds) h
    simp only [List.map_cons] at this
    simp [this]

theorem ptrStep_descJ (p : Option Desc) (d : Desc) (h : DescOK d) : ptrStep p (descJ d) = some (some d) := by
  have : ptrStep p (descJ d) = (mergeDesc (p.getD zeroDesc) (descJ d)).map some := by
    simp [ptrStep, descJ]
  rw [this, mergeDesc_descJ _ d h]; rfl


theorem foldlM_subjectJ (table : List (Bytes × TopField)) (hk : lookupField table (strBytes "subject") = some .subject)
    (s : Option Desc) (hs : ∀ d, s = some d → DescOK d) (c : Desc) (sl : Slice) :
    (subjectJ s).foldlM (topStep table) ⟨c, sl, none⟩ = some ⟨c, sl, s⟩ := by
  cases s with
  | none => rfl
  | some d => simp [subjectJ, topStep, hk, ptrStep_descJ _ d (hs d rfl)]

theorem decodeTop_manifestJ (m : Manifest) (h : m.OK) :
    (decodeTop manifestTable (manifestJ m)).map imageRefs = some m.refs := by
  have hk1 : lookupField manifestTable (strBytes "schemaVersion") = some .schemaVersion := by decide +kernel
  have hk2 : lookupField manifestTable (strBytes "mediaType") = some .mediaType := by decide +kernel
  have hk3 : lookupField manifestTable (strBytes "config") = some .config := by decide +kernel
  have hk4 : lookupField manifestTable (strBytes "layers") = some .items := by decide +kernel
  have hs : okInt (.num [0x32]) = true := by decide
  have hsl := sliceStep_descJ m.layers h.2.1
  cases hsl' : sliceStep {} (.arr (m.layers.map descJ)) with
  | none => rw [hsl'] at hsl; cases hsl
  | some sl =>
    rw [hsl', Option.map_some, Option.some.injEq] at hsl
    -- each member's step writes its own field: `schemaVersion` and `mediaType` are only type-checked,
    -- `config` is `mergeDesc_descJ`, `layers` is `hsl'`, the subject is `foldlM_subjectJ`
    simp [decodeTop, manifestJ, topStep, hk1, hk2, hk3, hk4, check, hs, okStr, mergeDesc_descJ _ _ h.1,
      hsl', foldlM_subjectJ manifestTable (by decide +kernel) _ h.2.2, imageRefs, Manifest.refs, hsl]

theorem decodeTop_indexJ (m : Index) (h : m.OK) :
    (decodeTop indexTable (indexJ m)).map indexRefs = some m.refs := by
  have hk1 : lookupField indexTable (strBytes "schemaVersion") = some .schemaVersion := by decide +kernel
  have hk2 : lookupField indexTable (strBytes "mediaType") = some .mediaType := by decide +kernel
  have hk4 : lookupField indexTable (strBytes "manifests") = some .items := by decide +kernel
  have hs : okInt (.num [0x32]) = true := by decide
  have hsl := sliceStep_descJ m.manifests h.1
  cases hsl' : sliceStep {} (.arr (m.manifests.map descJ)) with
  | none => rw [hsl'] at hsl; cases hsl
  | some sl =>
    rw [hsl', Option.map_some, Option.some.injEq] at hsl
    -- as for the manifest: two members type-checked, `manifests` is `hsl'`, the subject is `foldlM_subjectJ`
    simp [decodeTop, indexJ, topStep, hk1, hk2, hk4, check, hs, okStr, hsl',
      foldlM_subjectJ indexTable (by decide +kernel) _ h.2, indexRefs, Index.refs, hsl]

/-! ## Canonical documents are well-formed and shallow -/

theorem wf_descJ (d : Desc) (h : DescOK d) : WF (descJ d) := by
  simp only [descJ, WF, WFM]
  exact ⟨by decide +kernel, h.1, by decide +kernel, h.2.1, by decide +kernel, numOK_intText d.size, trivial⟩

theorem depth_descJ (d : Desc) : depth (descJ d) = 1 := by
  simp [descJ, depth, depthM]

theorem wfl_descJ (ds : List Desc) (h : ∀ d ∈ ds, DescOK d) : WFL (ds.map descJ) := by
  induction ds with
  | nil => trivial
  | cons d ds ih =>
    simp only [List.map_cons, WFL]
    exact ⟨wf_descJ d (h d (by simp)), ih (fun x hx => h x (by simp [hx]))⟩

theorem depthL_descJ (ds : List Desc) : depthL (ds.map descJ) ≤ 1 := by
  induction ds with
  | nil => simp [depthL]
  | cons d ds ih => simp only [List.map_cons, depthL, depth_descJ]; omega

theorem wfm_subjectJ (s : Option Desc) (h : ∀ d, s = some d → DescOK d) : WFM (subjectJ s) := by
  cases s with
  | none => trivial
  | some d =>
    simp only [subjectJ, WFM]
    exact ⟨by decide +kernel, wf_descJ d (h d rfl), trivial⟩

theorem depthM_subjectJ (s : Option Desc) : depthM (subjectJ s) ≤ 1 := by
  cases s <;> simp [subjectJ, depthM, depth_descJ]

theorem wf_manifestJ (m : Manifest) (h : m.OK) : WF (manifestJ m) := by
  simp only [manifestJ, List.cons_append, List.nil_append, WF, WFM]
  exact ⟨by decide +kernel, by decide +kernel, by decide +kernel, by decide +kernel, by decide +kernel, wf_descJ _ h.1,
    by decide +kernel, wfl_descJ _ h.2.1, wfm_subjectJ _ h.2.2⟩

theorem depth_manifestJ (m : Manifest) : depth (manifestJ m) ≤ 3 := by
  have h1 := depthL_descJ m.layers
  have h2 := depthM_subjectJ m.subject
  simp only [manifestJ, List.cons_append, List.nil_append, depth, depthM, depth_descJ]
  omega

theorem wf_indexJ (m : Index) (h : m.OK) : WF (indexJ m) := by
  simp only [indexJ, List.cons_append, List.nil_append, WF, WFM]
  exact ⟨by decide +kernel, by decide +kernel, by decide +kernel, by decide +kernel, by decide +kernel, wfl_descJ _ h.1,
    wfm_subjectJ _ h.2⟩

theorem depth_indexJ (m : Index) : depth (indexJ m) ≤ 3 := by
  have h1 := depthL_descJ m.manifests
  have h2 := depthM_subjectJ m.subject
  simp only [indexJ, List.cons_append, List.nil_append, depth, depthM]
  omega

theorem indexMT_ne_imageMT : indexMT ≠ imageMT := by decide +kernel

theorem decodeRefs_imageMT (data : Bytes) : decodeRefs imageMT data = decodeWith manifestTable imageRefs data :=
  if_pos rfl

theorem decodeRefs_indexMT (data : Bytes) : decodeRefs indexMT data = decodeWith indexTable indexRefs data := by
  rw [decodeRefs, if_neg indexMT_ne_imageMT, if_pos rfl]

theorem decodeWith_print (table : List (Bytes × TopField)) (refs : Top → List RefInfo) (j : JVal) (rs : List RefInfo)
    (hwf : WF j) (hd : depth j ≤ maxDepth) (hdec : (decodeTop table j).map refs = some rs) (ws1 ws2 : Bytes)
    (h1 : ws1.all isWs = true) (h2 : ws2.all isWs = true) :
    decodeWith table refs (ws1 ++ print j ++ ws2) = .refs rs := by
  rw [decodeWith, parse_print_ws j hwf hd ws1 ws2 h1 h2]
  simp only [refsOfVal]
  cases hdt : decodeTop table j with
  | none => rw [hdt] at hdec; cases hdec
  | some t => rw [hdt] at hdec; cases hdec; rfl

theorem decodeRefs_manifest (m : Manifest) (h : m.OK) (ws1 ws2 : Bytes)
    (h1 : ws1.all isWs = true) (h2 : ws2.all isWs = true) :
    decodeRefs imageMT (ws1 ++ print (manifestJ m) ++ ws2) = .refs m.refs :=
  (decodeRefs_imageMT _).trans
    (decodeWith_print _ _ _ _ (wf_manifestJ m h) (Nat.le_trans (depth_manifestJ m) (by decide))
      (decodeTop_manifestJ m h) ws1 ws2 h1 h2)

/-! ## A document that decodes to references -/

theorem decodeWith_refs {table : List (Bytes × TopField)} {refs : Top → List RefInfo} {data : Bytes} {rs : List RefInfo}
    (h : decodeWith table refs data = .refs rs) :
    ∃ V m, parse data = some V ∧ decodeTop table V = some m ∧ rs = refs m := by
  unfold decodeWith at h
  cases hp : parse data with
  | none => rw [hp] at h; cases h
  | some V =>
    simp only [hp, refsOfVal] at h
    cases hd : decodeTop table V with
    | none => rw [hd] at h; cases h
    | some m => rw [hd] at h; cases h; exact ⟨V, m, rfl, hd, rfl⟩

theorem decodeRefs_refs {mt data : Bytes} {rs : List RefInfo} (h : decodeRefs mt data = .refs rs) :
    (mt = imageMT ∧ decodeWith manifestTable imageRefs data = .refs rs) ∨
    (mt = indexMT ∧ decodeWith indexTable indexRefs data = .refs rs) := by
  unfold decodeRefs at h
  by_cases h1 : mt = imageMT
  · rw [if_pos h1] at h; exact Or.inl ⟨h1, h⟩
  by_cases h2 : mt = indexMT
  · rw [if_neg h1, if_pos h2] at h; exact Or.inr ⟨h2, h⟩
  · rw [if_neg h1, if_neg h2] at h; cases h

theorem mem_subjectRefs {s : Option Desc} {r : RefInfo}
    (h : r ∈ (match s with | some d => [(⟨2, d⟩ : RefInfo)] | none => [])) : r.kind = 2 ∧ s = some r.desc := by
  cases s with
  | none => cases h
  | some d => rw [List.mem_singleton] at h; subst h; exact ⟨rfl, rfl⟩

theorem imageRefs_kind (m : Top) : ∀ r ∈ imageRefs m, r.kind = 0 ∨ r.kind = 2 := by
  intro r hr
  simp only [imageRefs, List.mem_append, List.mem_map, List.mem_singleton] at hr
  rcases hr with (⟨d, _, rfl⟩ | rfl) | hr
  · exact Or.inl rfl
  · exact Or.inl rfl
  · exact Or.inr (mem_subjectRefs hr).1

theorem indexRefs_kind (m : Top) : ∀ r ∈ indexRefs m, r.kind = 1 ∨ r.kind = 2 := by
  intro r hr
  simp only [indexRefs, List.mem_append, List.mem_map] at hr
  rcases hr with ⟨d, _, rfl⟩ | hr
  · exact Or.inl rfl
  · exact Or.inr (mem_subjectRefs hr).1

/-! ## Trailing bytes -/

theorem decodeTop_not_num (table : List (Bytes × TopField)) (v : JVal) (m : Top)
    (h : decodeTop table v = some m) : ∀ x, v ≠ .num x := by
  intro x e; subst e; simp [decodeTop] at h

theorem decodeWith_trailing (table : List (Bytes × TopField)) (refs : Top → List RefInfo) (d junk : Bytes)
    (rs : List RefInfo) (h : decodeWith table refs d = .refs rs) (hj : junk.all isWs = false) :
    decodeWith table refs (d ++ junk) = .malformed := by
  obtain ⟨V, m, hp, hd, _⟩ := decodeWith_refs h
  rw [decodeWith, parse_append_none d junk V hp hj (Or.inl (decodeTop_not_num table V m hd))]

/-! ## Where references come from -/

/-- Every string and number of `j` occurs in `V`. -/
def Sub (j V : JVal) : Prop := (∀ s, HasStr s j → HasStr s V) ∧ (∀ t, HasNum t j → HasNum t V)

theorem sub_refl (V : JVal) : Sub V V := ⟨fun _ h => h, fun _ h => h⟩

theorem sub_trans {a b c : JVal} (h1 : Sub a b) (h2 : Sub b c) : Sub a c :=
  ⟨fun s h => h2.1 s (h1.1 s h), fun t h => h2.2 t (h1.2 t h)⟩

theorem sub_member {kvs : List (Bytes × JVal)} {k : Bytes} {x : JVal} (hm : (k, x) ∈ kvs) : Sub x (.obj kvs) := by
  induction kvs with
  | nil => cases hm
  | cons kv kvs ih =>
    obtain ⟨k', x'⟩ := kv
    rcases List.mem_cons.mp hm with e | hm'
    · cases e; exact ⟨fun _ h => Or.inl h, fun _ h => Or.inl h⟩
    · exact ⟨fun s h => Or.inr ((ih hm').1 s h), fun t h => Or.inr ((ih hm').2 t h)⟩

theorem sub_elem {xs : List JVal} {x : JVal} (hm : x ∈ xs) : Sub x (.arr xs) := by
  induction xs with
  | nil => cases hm
  | cons y xs ih =>
    rcases List.mem_cons.mp hm with e | hm'
    · cases e; exact ⟨fun _ h => Or.inl h, fun _ h => Or.inl h⟩
    · exact ⟨fun s h => Or.inr ((ih hm').1 s h), fun t h => Or.inr ((ih hm').2 t h)⟩

/-- Each field of the descriptor is the zero value or is written in the document. -/
def FromDoc (V : JVal) (d : Desc) : Prop :=
  (d.mediaType = [] ∨ HasStr d.mediaType V) ∧ (d.digest = [] ∨ HasStr d.digest V) ∧
    (d.size = 0 ∨ ∃ t, HasNum t V ∧ parseInt64 t = some d.size)

theorem fromDoc_zero (V : JVal) : FromDoc V zeroDesc := ⟨Or.inl rfl, Or.inl rfl, Or.inl rfl⟩

theorem setStr_from {V j : JVal} {cur s : Bytes} (hs : Sub j V) (hc : cur = [] ∨ HasStr cur V)
    (h : setStr j cur = some s) : s = [] ∨ HasStr s V := by
  cases j <;> simp [setStr] at h
  · subst h; exact hc
  · subst h; exact Or.inr (hs.1 _ (by simp [HasStr]))

theorem setInt_from {V j : JVal} {cur n : Int} (hs : Sub j V)
    (hc : cur = 0 ∨ ∃ t, HasNum t V ∧ parseInt64 t = some cur)
    (h : setInt j cur = some n) : n = 0 ∨ ∃ t, HasNum t V ∧ parseInt64 t = some n := by
  cases j <;> simp [setInt] at h
  · subst h; exact hc
  · rename_i t; exact Or.inr ⟨t, hs.2 _ (by simp [HasNum]), h⟩

theorem check_some {σ : Type} {b : Bool} {s s' : σ} (h : check b s = some s') : s' = s := by
  cases b <;> simp [check] at h; exact h.symm

theorem descStep_from {V : JVal} {d d' : Desc} {kv : Bytes × JVal} (hs : Sub kv.2 V) (hd : FromDoc V d)
    (h : descStep d kv = some d') : FromDoc V d' := by
  unfold descStep at h
  cases hl : lookupField descTable kv.1 with
  | none => rw [hl] at h; cases h; exact hd
  | some f =>
    rw [hl] at h
    cases f with
    | mediaType =>
      obtain ⟨_, hx, rfl⟩ := Option.map_eq_some_iff.mp h
      exact ⟨setStr_from hs hd.1 hx, hd.2.1, hd.2.2⟩
    | digest =>
      obtain ⟨_, hx, rfl⟩ := Option.map_eq_some_iff.mp h
      exact ⟨hd.1, setStr_from hs hd.2.1 hx, hd.2.2⟩
    | size =>
      obtain ⟨_, hx, rfl⟩ := Option.map_eq_some_iff.mp h
      exact ⟨hd.1, hd.2.1, setInt_from hs hd.2.2 hx⟩
    | urls | annotations | data | platform | artifactType => rw [check_some h]; exact hd

theorem foldlM_invariant {σ α : Type} (f : σ → α → Option σ) (P : σ → Prop) (l : List α)
    (hstep : ∀ a ∈ l, ∀ s s', P s → f s a = some s' → P s') :
    ∀ (s s' : σ), P s → l.foldlM f s = some s' → P s' := by
  induction l with
  | nil => intro s s' hs h; cases h; exact hs
  | cons a l ih =>
    intro s s' hs h
    rw [List.foldlM_cons] at h
    cases hx : f s a with
    | none => rw [hx] at h; cases h
    | some s1 =>
      rw [hx] at h
      exact ih (fun b hb => hstep b (List.mem_cons_of_mem _ hb)) s1 s' (hstep a List.mem_cons_self s s1 hs hx) h

theorem mergeDesc_from {V j : JVal} {base d : Desc} (hs : Sub j V) (hb : FromDoc V base)
    (h : mergeDesc base j = some d) : FromDoc V d := by
  cases j <;> simp [mergeDesc] at h
  · subst h; exact hb
  · rename_i kvs
    exact foldlM_invariant descStep (FromDoc V) kvs
      (fun kv hm _ _ hd => descStep_from (sub_trans (sub_member (k := kv.1) (x := kv.2) hm) hs) hd) base d hb h


theorem mergeElems_from {V : JVal} : ∀ (es : List JVal) (back ds : List Desc), (∀ e ∈ es, Sub e V) →
    (∀ d ∈ back, FromDoc V d) → mergeElems back es = some ds → ∀ d ∈ ds, FromDoc V d := by
  intro es
  induction es with
  | nil => intro back ds _ _ h; simp [mergeElems] at h; subst h; simp
  | cons e es ih =>
    intro back ds hs hb h
    rw [mergeElems] at h
    cases hx : mergeDesc (back.headD zeroDesc) e with
    | none => rw [hx] at h; cases h
    | some d0 =>
      rw [hx] at h
      cases hy : mergeElems back.tail es with
      | none => rw [hy] at h; cases h
      | some ds0 =>
        rw [hy] at h; cases h
        have hhead : FromDoc V (back.headD zeroDesc) := by
          cases back with
          | nil => exact fromDoc_zero V
          | cons b _ => exact hb b (by simp)
        have h0 := mergeDesc_from (hs e (by simp)) hhead hx
        have htl := ih back.tail ds0 (fun e' hm => hs e' (by simp [hm]))
          (fun d hm => hb d (List.mem_of_mem_tail hm)) hy
        intro d hm
        rcases List.mem_cons.mp hm with rfl | hm'
        · exact h0
        · exact htl d hm'

/-- Everything in the slice, in view or stale, comes from the document. -/
def SliceFrom (V : JVal) (s : Slice) : Prop := (∀ d ∈ s.vis, FromDoc V d) ∧ (∀ d ∈ s.stale, FromDoc V d)

theorem sliceStep_from {V j : JVal} {s s' : Slice} (hs : Sub j V) (hf : SliceFrom V s)
    (h : sliceStep s j = some s') : SliceFrom V s' := by
  cases j with
  | null => cases h; exact ⟨by simp, by simp⟩
  | arr es =>
    cases es with
    | nil => cases h; exact ⟨by simp, by simp⟩
    | cons e es =>
      have hall : ∀ d ∈ s.vis ++ s.stale, FromDoc V d := by
        intro d hm; rcases List.mem_append.mp hm with h | h
        · exact hf.1 d h
        · exact hf.2 d h
      simp only [sliceStep] at h
      cases hx : mergeElems (s.vis ++ s.stale) (e :: es) with
      | none => rw [hx] at h; cases h
      | some ds =>
        rw [hx] at h; cases h
        exact ⟨mergeElems_from (e :: es) _ ds (fun e hm => sub_trans (sub_elem hm) hs) hall hx,
          fun d hm => hall d (List.mem_of_mem_drop hm)⟩
  | _ => cases h

theorem ptrStep_from {V j : JVal} {p p' : Option Desc} (hs : Sub j V) (hp : ∀ d, p = some d → FromDoc V d)
    (h : ptrStep p j = some p') : ∀ d, p' = some d → FromDoc V d := by
  unfold ptrStep at h
  split at h
  · simp at h; subst h; simp
  · obtain ⟨d0, hx, rfl⟩ := Option.map_eq_some_iff.mp h
    intro d hd; cases hd
    have hb : FromDoc V (p.getD zeroDesc) := by
      cases p with
      | none => exact fromDoc_zero V
      | some b => exact hp b rfl
    exact mergeDesc_from hs hb hx

def TopFrom (V : JVal) (m : Top) : Prop :=
  FromDoc V m.config ∧ SliceFrom V m.items ∧ ∀ d, m.subject = some d → FromDoc V d

theorem topStep_from {V : JVal} (table : List (Bytes × TopField)) {m m' : Top} {kv : Bytes × JVal}
    (hs : Sub kv.2 V) (hm : TopFrom V m) (h : topStep table m kv = some m') : TopFrom V m' := by
  unfold topStep at h
  cases hl : lookupField table kv.1 with
  | none => rw [hl] at h; cases h; exact hm
  | some f =>
    rw [hl] at h
    cases f with
    | schemaVersion | mediaType | artifactType | annotations => rw [check_some h]; exact hm
    | config =>
      obtain ⟨_, hx, rfl⟩ := Option.map_eq_some_iff.mp h
      exact ⟨mergeDesc_from hs hm.1 hx, hm.2.1, hm.2.2⟩
    | items =>
      obtain ⟨_, hx, rfl⟩ := Option.map_eq_some_iff.mp h
      exact ⟨hm.1, sliceStep_from hs hm.2.1 hx, hm.2.2⟩
    | subject =>
      obtain ⟨_, hx, rfl⟩ := Option.map_eq_some_iff.mp h
      exact ⟨hm.1, hm.2.1, ptrStep_from hs hm.2.2 hx⟩

theorem topFrom_zero (V : JVal) : TopFrom V {} :=
  ⟨fromDoc_zero V, ⟨by simp, by simp⟩, by simp⟩

theorem decodeTop_from (table : List (Bytes × TopField)) (V : JVal) (m : Top) (h : decodeTop table V = some m) :
    TopFrom V m := by
  cases V <;> simp [decodeTop] at h
  · subst h; exact topFrom_zero _
  · rename_i kvs
    exact foldlM_invariant (topStep table) (TopFrom _) kvs
      (fun kv hm _ _ hm' => topStep_from table (sub_member (k := kv.1) (x := kv.2) hm) hm') {} m (topFrom_zero _) h

theorem imageRefs_from {V : JVal} {m : Top} (h : TopFrom V m) : ∀ r ∈ imageRefs m, FromDoc V r.desc := by
  intro r hr
  simp only [imageRefs, List.mem_append, List.mem_map, List.mem_singleton] at hr
  rcases hr with (⟨d, hd, rfl⟩ | rfl) | hr
  · exact h.2.1.1 d hd
  · exact h.1
  · exact h.2.2 _ (mem_subjectRefs hr).2

theorem indexRefs_from {V : JVal} {m : Top} (h : TopFrom V m) : ∀ r ∈ indexRefs m, FromDoc V r.desc := by
  intro r hr
  simp only [indexRefs, List.mem_append, List.mem_map] at hr
  rcases hr with ⟨d, hd, rfl⟩ | hr
  · exact h.2.1.1 d hd
  · exact h.2.2 _ (mem_subjectRefs hr).2

theorem decodeWith_from (table : List (Bytes × TopField)) (refs : Top → List RefInfo)
    (hrefs : ∀ V m, TopFrom V m → ∀ r ∈ refs m, FromDoc V r.desc) (data : Bytes) (rs : List RefInfo)
    (h : decodeWith table refs data = .refs rs) :
    ∃ V, parse data = some V ∧ ∀ r ∈ rs, FromDoc V r.desc := by
  obtain ⟨V, m, hp, hd, rfl⟩ := decodeWith_refs h
  exact ⟨V, hp, hrefs V m (decodeTop_from table V m hd)⟩

end OciModel.ManifestDecode
