/-
Helper lemmas about the `Www-Authenticate` parser model (`OciModel/Challenge.lean`).
-/
import OciModel.Challenge
namespace OciModel.Challenge
open OciModel

/-- The escape loop never writes past the buffer: every byte consumed adds at
most one byte, and the buffer has room for all the bytes that are left. -/
theorem escLoop_ok (cap : Nat) (esc : Bool) (acc rest : Bytes) (h : acc.length + rest.length ≤ cap) :
    ∃ r, escLoop cap esc acc rest = .ok r := by
  fun_induction escLoop cap esc acc rest with
  | case1 => exact ⟨_, rfl⟩
  | case2 acc b rest hlt ih => exact ih (by simp at h ⊢; omega)
  | case3 acc b rest hlt => simp at h; omega
  | case4 acc rest ih => exact ih (by simp at h; omega)
  | case5 => exact ⟨_, rfl⟩
  | case6 acc b rest _ _ hlt ih => exact ih (by simp at h ⊢; omega)
  | case7 acc b rest _ _ hlt => simp at h; omega

theorem quotedLoop_ok (n : Nat) (pre rest : Bytes) (h : pre.length + rest.length = n) :
    ∃ r, quotedLoop n pre rest = .ok r := by
  fun_induction quotedLoop n pre rest with
  | case1 => exact ⟨_, rfl⟩
  | case2 => exact ⟨_, rfl⟩
  | case3 pre rest _ => exact escLoop_ok _ _ _ _ (by simp at h; omega)
  | case4 pre b rest _ _ ih => exact ih (by simp at h ⊢; omega)

theorem expectTokenOrQuoted_ok {s : Bytes} {o : Outcome (Option (Bytes × Bytes))}
    (h : expectTokenOrQuoted s = o) : ∃ r, o = .ok r := by
  subst h
  unfold expectTokenOrQuoted
  split
  · exact quotedLoop_ok _ _ _ (by simp)
  · exact ⟨_, rfl⟩

theorem paramLoop_ok (fuel : Nat) (ps : List (Bytes × Bytes)) (s : Bytes) :
    ∃ r, paramLoop fuel ps s = .ok r := by
  fun_induction paramLoop fuel ps s with
  -- the value parser would have answered `.panic` or `.err`
  | case4 | case5 =>
    obtain ⟨_, h⟩ := expectTokenOrQuoted_ok ‹expectTokenOrQuoted _ = _›
    cases h
  -- the loop goes round
  | case8 => assumption
  | _ => exact ⟨_, rfl⟩

theorem parse_ok (header : Bytes) : ∃ r, parseWWWAuthenticate header = .ok r := by
  unfold parseWWWAuthenticate
  simp only []
  split
  · exact ⟨_, rfl⟩
  · obtain ⟨r, hr⟩ := paramLoop_ok (header.length + 1) [] (skipSpace (expectToken header).2)
    rw [hr]
    cases r with
    | none => exact ⟨_, rfl⟩
    | some p =>
      obtain ⟨ps, rest⟩ := p
      simp only []
      split <;> exact ⟨_, rfl⟩

/-- The outcome of the parser as an option (it never panics). -/
def parse? (v : Bytes) : Option AuthHeader :=
  match parseWWWAuthenticate v with
  | .ok r => r
  | _ => none

theorem parse_eq (v : Bytes) : parseWWWAuthenticate v = .ok (parse? v) := by
  obtain ⟨r, hr⟩ := parse_ok v
  simp [parse?, hr]

/-- A header `challengeFromResponse` takes into account. -/
def usable (h : AuthHeader) : Bool := h.scheme = sBasic || h.scheme = sBearer

theorem accepted_eq (vs : List Bytes) :
    accepted vs = .ok (vs.filterMap fun v => (parse? v).filter usable) := by
  induction vs with
  | nil => rfl
  | cons v vs ih =>
    simp only [accepted, parse_eq, ih, List.filterMap_cons]
    cases parse? v with
    | none => rfl
    | some h =>
      show (if usable h = true then _ else _) = _
      cases hu : usable h <;> simp [Option.filter, hu]

theorem selectLoop_some_basic (h : AuthHeader) (hb : h.scheme = sBasic) (l : List AuthHeader) :
    selectLoop (some h) l = some h := by
  induction l with
  | nil => rfl
  | cons h1 rest ih =>
    have : ¬ (h1.scheme = sBasic ∧ h.scheme = sBearer) := by
      rintro ⟨_, h2⟩; rw [hb] at h2; exact absurd h2 (by decide)
    simp [selectLoop, this, ih]

theorem selectLoop_some_bearer (h : AuthHeader) (hb : h.scheme = sBearer) (l : List AuthHeader) :
    selectLoop (some h) l = some ((l.find? fun x => x.scheme = sBasic).getD h) := by
  induction l with
  | nil => rfl
  | cons h1 rest ih =>
    by_cases h1b : h1.scheme = sBasic
    · simp [selectLoop, h1b, hb, selectLoop_some_basic h1 h1b rest]
    · simp [selectLoop, h1b, ih]

theorem selectLoop_spec (l : List AuthHeader) (hl : ∀ h ∈ l, usable h = true) :
    selectLoop none l = ((l.find? fun x => x.scheme = sBasic).or l.head?) := by
  cases l with
  | nil => rfl
  | cons h rest =>
    have hu := hl h (by simp)
    simp only [usable, Bool.or_eq_true, decide_eq_true_eq] at hu
    rcases hu with hb | hb
    · simp [selectLoop, selectLoop_some_basic h hb rest, hb]
    · have hnb : ¬ h.scheme = sBasic := by rw [hb]; decide
      simp only [selectLoop, selectLoop_some_bearer h hb rest, List.find?_cons, hnb, decide_false,
        List.head?_cons]
      cases rest.find? fun x => x.scheme = sBasic <;> simp

end OciModel.Challenge
