/-
Helper lemmas for `Props/C04W.lean`: the request and the three outcomes of `flush`, the ghost
invariant `Inv` and what a flush does to it, what `resume` may return, the request of a step
(`stepReq`), and the refinement of `OciModel/Upload.lean`'s writer.
-/
import OciModel.ClientWriter
import OciModel.Upload

namespace OciModel.ClientWriter
open OciModel OciModel.ReqCodec

theorem concatBody_eq (b1 b2 : Bytes) : concatBody b1 b2 = b1 ++ b2 := by
  cases b1 <;> cases b2 <;> simp [concatBody]

theorem chunkSizeFromResponse_ge (a : Answer) (chunkSize : Int) :
    chunkSize ≤ chunkSizeFromResponse a chunkSize := by
  unfold chunkSizeFromResponse
  split
  · split
    · exact Int.le_of_lt ‹_›
    · exact Int.le_refl _
  · exact Int.le_refl _

/-- the writer after an acknowledged flush of `w.chunk ++ buf` -/
def ackedW (w : W) (buf : Bytes) (loc : Loc) : W :=
  { w with location := loc
           flushed := w.flushed + ((w.chunk.length + buf.length : Nat) : Int)
           chunk := [] }

theorem flushReq_some {env : UrlEnv} {w : W} {buf c : Bytes} {r : Req} (h : flushReq env w buf c = some r) :
    ¬ (c = [] ∧ buf.length + w.chunk.length = 0) ∧
    r = { method := if c = [] then .patch else .put
          url := if c = [] then w.location else urlWithDigest env w.location c
          contentRange := some (rangeString w.flushed (w.flushed + ((w.chunk ++ buf).length : Int)))
          body := w.chunk ++ buf } := by
  unfold flushReq at h
  split at h
  · cases h
  · next hne =>
    cases h
    exact ⟨hne, by simp only [concatBody_eq, List.length_append]⟩

theorem flushReq_none_empty {env : UrlEnv} {w : W} {buf c : Bytes} (h : flushReq env w buf c = none) :
    c = [] ∧ buf = [] ∧ w.chunk = [] := by
  unfold flushReq at h; split at h
  · next hh =>
    have := Nat.add_eq_zero_iff.mp hh.2
    exact ⟨hh.1, List.eq_nil_of_length_eq_zero this.1, List.eq_nil_of_length_eq_zero this.2⟩
  · cases h

theorem flush_reqs (env : UrlEnv) (w : W) (buf c : Bytes) (a : Answer) :
    (flush env w buf c a).2 = (flushReq env w buf c).toList := by
  fun_cases flush env w buf c a <;> simp_all

theorem gate_none_iff (expect : Nat) (a : Answer) (he : expect ≠ 0) :
    gate expect a = none ↔ a.status = expect := by
  fun_cases gate expect a <;> simp_all <;> omega

/-- `acks` asks for the status that `flush` expects for the method. -/
theorem acks_flushReq {env : UrlEnv} {w : W} {buf c : Bytes} {r : Req} (a : Answer)
    (hr : flushReq env w buf c = some r) :
    acks env r a = (a.status == (if c = [] then 202 else 201) && a.location != [] &&
      (env.resolve r.url a.location).isSome) := by
  rw [(flushReq_some hr).2]
  by_cases hc : c = [] <;> simp only [acks, hc, if_true, if_false]

/-- `acks` on the request of a flush is exactly "the flush goes through". -/
theorem flush_cases (env : UrlEnv) (w : W) (buf c : Bytes) (a : Answer) :
    (flushReq env w buf c = none ∧ flush env w buf c a = (.ok w, [])) ∨
    (∃ r, flushReq env w buf c = some r ∧
      ((acks env r a = true ∧ ∃ loc, flush env w buf c a = (.ok (ackedW w buf loc), [r])) ∨
       (acks env r a = false ∧ ∃ e, flush env w buf c a = (.error e, [r])))) := by
  cases hr : flushReq env w buf c with
  | none => exact .inl ⟨rfl, by simp only [flush, hr]⟩
  | some r =>
    refine .inr ⟨r, rfl, ?_⟩
    have hacks := acks_flushReq a hr
    have hst : (if c = [] then 202 else 201) ≠ 0 := by split <;> decide
    unfold flush
    simp only [hr]
    generalize (if c = [] then 202 else 201) = st at hacks hst ⊢
    cases hg : gate st a with
    | some e =>
      have hs : a.status ≠ st := fun hs => by rw [(gate_none_iff st a hst).mpr hs] at hg; cases hg
      exact .inr ⟨by simp [hacks, hs], e, rfl⟩
    | none =>
      have hs := (gate_none_iff st a hst).mp hg
      unfold locationFromResponse
      by_cases hl : a.location = []
      · exact .inr ⟨by simp [hacks, hl], .noLocation, by simp only [if_pos hl]⟩
      · cases hres : env.resolve r.url a.location with
        | none => exact .inr ⟨by simp [hacks, hres], .badLocation, by simp only [if_neg hl]⟩
        | some u => exact .inl ⟨by simp [hacks, hs, hl, hres], u, by simp only [if_neg hl]; rfl⟩

theorem flush_ok_chunk {env : UrlEnv} {w w1 : W} {buf c : Bytes} {a : Answer} {rs : List Req}
    (h : flush env w buf c a = (.ok w1, rs)) : w1.chunk = [] := by
  rcases flush_cases env w buf c a with ⟨hn, hf⟩ | ⟨r, _, ⟨_, loc, hf⟩ | ⟨_, e, hf⟩⟩
  · rw [hf] at h
    cases h
    exact (flushReq_none_empty hn).2.2
  · rw [hf] at h
    cases h
    rfl
  · rw [hf] at h
    cases h

/-! ### The ghost invariant -/

/-- bytes acknowledged ++ bytes still buffered = bytes accepted; `flushed` and `size` count them
(from `off`, the offset the writer started at). -/
def Inv (off : Int) (w : W) (g : Ghost) : Prop :=
  g.acked ++ w.chunk = g.accepted ∧
  w.flushed = off + (g.acked.length : Int) ∧
  w.size = off + (g.accepted.length : Int)

/-- the bytes a call hands to the writer -/
def argBytes : Call → Bytes
  | .write buf => buf
  | _ => []

/-- What a flush does to the account: the acknowledged bytes leave the chunk and are counted in
`flushed`; a refused flush acknowledges nothing (and returns no writer). -/
theorem inv_flush {off : Int} {w : W} {g : Ghost} (h : Inv off w g) (env : UrlEnv) (buf c : Bytes)
    (a : Answer) :
    match flush env w buf c a with
    | (.ok w1, rs) => Inv off { w1 with size := w1.size + (buf.length : Int) }
        { acked := g.acked ++ ackOf env a rs, accepted := g.accepted ++ buf }
    | (.error _, rs) => ackOf env a rs = [] := by
  obtain ⟨h1, h2, h3⟩ := h
  rcases flush_cases env w buf c a with ⟨hn, hf⟩ | ⟨r, hr, ⟨hack, loc, hf⟩ | ⟨hack, e, hf⟩⟩
  · obtain ⟨-, rfl, hch⟩ := flushReq_none_empty hn
    rw [hf]
    exact ⟨by simpa [ackOf] using h1, by simpa [ackOf] using h2, by simpa using h3⟩
  · rw [hf]
    obtain ⟨-, rfl⟩ := flushReq_some hr
    simp only [ackOf, hack, if_true, ackedW, Inv, List.append_nil]
    refine ⟨by rw [← h1, List.append_assoc], ?_, ?_⟩
    · rw [h2, List.length_append, List.length_append]; omega
    · rw [h3, List.length_append, Int.natCast_add, Int.add_assoc]
  · rw [hf]; simp [ackOf, hack]

theorem inv_same {off : Int} {w : W} {g : Ghost} (h : Inv off w g) {w' : W} {ack acc : Bytes}
    (hw : w'.chunk = w.chunk ∧ w'.flushed = w.flushed ∧ w'.size = w.size) (hack : ack = []) (hacc : acc = []) :
    Inv off w' { acked := g.acked ++ ack, accepted := g.accepted ++ acc } := by
  subst hack hacc
  simpa only [Inv, hw.1, hw.2.1, hw.2.2, List.append_nil] using h

/-! ### Opening a writer for an existing upload -/

/-- What `PushBlobChunkedResume` may return: at most one request went out, and a writer it hands
back is empty, has `flushed = size`, and starts at the caller's offset unless that was `-1`. -/
def ResumeSpec (off : Int) (p : Except WErr W × List Req) : Prop :=
  p.2.length ≤ 1 ∧ ∀ w, p.1 = .ok w → w.chunk = [] ∧ w.flushed = w.size ∧ (off ≠ -1 → w.size = off)

theorem resume_spec (env : UrlEnv) (id : Bytes) (off hint : Int) (a : Answer) :
    ResumeSpec off (resume env id off hint a) := by
  fun_cases resume env id off hint a <;> simp_all [ResumeSpec]

theorem resume_explicit {env : UrlEnv} {id : Bytes} {off hint : Int} {a : Answer} {u : Loc}
    (hid : id ≠ []) (ho : 0 ≤ off) (hp : env.parseID id = some (u, true)) :
    resume env id off hint a =
      (.ok { chunkSize := if hint ≤ 0 then defaultChunkSize else hint, size := off, flushed := off,
             location := u }, []) := by
  have h1 : off ≠ -1 := by omega
  unfold resume
  simp only [if_neg hid, if_neg h1, if_neg (Int.not_lt.mpr ho), hp]
  rfl

/-- the writer with other `closed` / `closeErr` fields -/
def setClosed (w : W) (cl : Bool) (ce : Option WErr) : W := { w with closed := cl, closeErr := ce }

/-- `flush` neither reads nor writes `closed` and `closeErr`. -/
theorem flush_setClosed (env : UrlEnv) (w : W) (buf c : Bytes) (a : Answer) (cl : Bool) (ce : Option WErr) :
    flush env (setClosed w cl ce) buf c a =
      (match (flush env w buf c a).1 with
       | .ok w1 => .ok (setClosed w1 cl ce)
       | .error e => .error e, (flush env w buf c a).2) := by
  have hreq : flushReq env (setClosed w cl ce) buf c = flushReq env w buf c := rfl
  fun_cases flush env w buf c a <;> simp_all [flush, setClosed]

/-- the requests of a step, without the answer -/
def stepReq (env : UrlEnv) (w : W) : Call → Option Req
  | .write buf => if ((w.chunk.length + buf.length : Nat) : Int) > w.chunkSize then flushReq env w buf [] else none
  | .commit d => if d = [] then none else flushReq env w [] d
  | .close => if w.closed then none else flushReq env w [] []
  | .cancel => none

theorem step_reqs (env : UrlEnv) (w : W) (c : Call) (a : Answer) :
    (step env w c a).2.reqs = (stepReq env w c).toList := by
  cases c with
  | cancel => rfl
  | write buf =>
    simp only [step, stepReq]
    fun_cases write env w buf a <;> simp_all [← flush_reqs env w buf [] a]
    -- left over: the buffered `Write`, whose overflow test failed, so `stepReq` sends nothing either
    intro h
    omega
  | commit d =>
    simp only [step, stepReq]
    fun_cases commit env w d a <;> simp_all [← flush_reqs env w [] d a]
  | close =>
    simp only [step, stepReq]
    fun_cases close env w a <;> simp_all [← flush_reqs env w [] [] a]

theorem stepReq_flush (env : UrlEnv) (w : W) (c : Call) (r : Req) (h : stepReq env w c = some r) :
    ∃ d, flushReq env w (argBytes c) d = some r := by
  revert h
  -- one goal per branch of `stepReq`, in its order; a branch that sends nothing has nothing to show
  fun_cases stepReq env w c
  · -- a `Write` that overflows
    exact fun h => ⟨[], h⟩
  · -- a buffered `Write`
    exact nofun
  · -- `Commit` with the empty digest
    exact nofun
  · -- `Commit`
    exact fun h => ⟨_, h⟩
  · -- `Close` of a closed writer
    exact nofun
  · -- `Close`
    exact fun h => ⟨[], h⟩
  · -- `Cancel`
    exact nofun

/-! ### Refinement of `Upload.lean`'s writer -/

open OciModel.Upload in
/-- the writer of `Upload.lean` seen in a `W` -/
def toCW (w : W) : Upload.CW := ⟨w.chunk, w.size.toNat, w.flushed.toNat, w.chunkSize.toNat⟩

/-- the digest argument of `flush` as `Upload.lean` has it -/
def optDigest (c : Bytes) : Option Bytes := if c = [] then none else some c

open OciModel.Upload in
/-- The idealised server of `Upload.lean` put behind the requests of this model: `cw` is the
client state to report when the server accepts. -/
def viaIdeal (H : Bytes → Bytes) (sv : Srv) (co : Option Bytes) (reqs : List Req) (cw : CW) :
    Except Err (CW × Srv × List BOp) :=
  match reqs with
  | [] => .ok (cw, sv, [])
  | r :: _ =>
    match serverChunk H sv (r.contentRange.getD (0, 0)) r.body co with
    | .error e => .error e
    | .ok (sv1, log) => .ok (cw, sv1, log)

/-- an answer that lets a flush through: the expected status and a usable `Location` -/
def Accepting (env : UrlEnv) (status : Nat) (a : Answer) : Prop :=
  a.status = status ∧ a.location ≠ [] ∧ ∀ u, (env.resolve u a.location).isSome = true

theorem flush_accepting (env : UrlEnv) (w : W) (buf c : Bytes) (a : Answer)
    (ha : Accepting env (if c = [] then 202 else 201) a) (r : Req) (hr : flushReq env w buf c = some r) :
    ∃ loc, flush env w buf c a = (.ok (ackedW w buf loc), [r]) := by
  have hack : acks env r a = true := by
    simp [acks_flushReq a hr, ha.1, ha.2.1, ha.2.2 r.url]
  rcases flush_cases env w buf c a with ⟨hn, _⟩ | ⟨r', hr', ⟨_, hf⟩ | ⟨hno, _⟩⟩
  · rw [hr] at hn
    cases hn
  · rw [hr] at hr'
    cases hr'
    exact hf
  · rw [hr] at hr'
    cases hr'
    rw [hack] at hno
    cases hno

open OciModel.Upload in
theorem viaIdeal_cw (H : Bytes → Bytes) (sv : Srv) (co : Option Bytes) (rs : List Req) :
    (∃ e, ∀ cw, viaIdeal H sv co rs cw = .error e) ∨
    (∃ sv1 log, ∀ cw, viaIdeal H sv co rs cw = .ok (cw, sv1, log)) := by
  cases rs with
  | nil => exact .inr ⟨sv, [], fun _ => rfl⟩
  | cons r _ =>
    cases h : serverChunk H sv (r.contentRange.getD (0, 0)) r.body co with
    | error e => exact .inl ⟨e, fun _ => by simp only [viaIdeal, h]⟩
    | ok p => exact .inr ⟨p.1, p.2, fun _ => by simp only [viaIdeal, h]⟩

open OciModel.Upload in
theorem flush_refines (H : Bytes → Bytes) (env : UrlEnv) (w : W) (sv : Srv) (buf c : Bytes) (a : Answer)
    (hf : 0 ≤ w.flushed) (ha : Accepting env (if c = [] then 202 else 201) a) :
    ∃ w1, flush env w buf c a = (.ok w1, (flushReq env w buf c).toList) ∧
      w1.size = w.size ∧ w1.chunkSize = w.chunkSize ∧
      Upload.flush H (toCW w) sv buf (optDigest c) =
        viaIdeal H sv (optDigest c) (flushReq env w buf c).toList (toCW w1) := by
  cases hr : flushReq env w buf c with
  | none =>
    obtain ⟨rfl, rfl, hch⟩ := flushReq_none_empty hr
    refine ⟨w, by simp only [flush, hr, Option.toList], rfl, rfl, ?_⟩
    simp [viaIdeal, Upload.flush, toCW, optDigest, hch]
  | some r =>
    obtain ⟨loc, hflush⟩ := flush_accepting env w buf c a ha r hr
    refine ⟨_, hflush, rfl, rfl, ?_⟩
    obtain ⟨hne, rfl⟩ := flushReq_some hr
    have hne' : ¬ ((optDigest c).isNone = true ∧ (toCW w).chunk ++ buf = []) := by
      rintro ⟨h1, h2⟩
      have h3 := List.append_eq_nil_iff.mp h2
      refine hne ⟨?_, by rw [h3.2, show w.chunk = [] from h3.1]; rfl⟩
      unfold optDigest at h1; split at h1
      · assumption
      · cases h1
    unfold Upload.flush
    simp only [hne', if_false, viaIdeal, Option.toList, Option.getD_some]
    rw [show ((toCW w).flushed : Int) = w.flushed from Int.toNat_of_nonneg hf,
      show (toCW w).chunk = w.chunk from rfl]
    generalize serverChunk H sv (rangeString w.flushed (w.flushed + ((w.chunk ++ buf).length : Int)))
      (w.chunk ++ buf) (optDigest c) = res
    cases res with
    | error e => rfl
    | ok p =>
      -- the two states differ in `flushed` only, where `0 ≤ w.flushed` lets `toNat` through the sum
      simp only [ackedW, toCW, List.length_append, Int.toNat_add_nat hf]

end OciModel.ClientWriter
