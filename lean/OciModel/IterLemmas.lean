/-
Helper lemmas for `OciModel.Iter` (the statements of property C05D are in
`OciModel/Props/C05D.lean`).
-/
import OciModel.Iter

namespace OciModel.Iter

variable {σ α ε : Type}

/-! ### feeding an instrumented consumer -/

theorem feed_traced (cb : Cons σ α ε) (evs : List (Ev α ε)) (s : σ) (tr : Trace α ε) :
    feed (traced cb) evs (s, tr) = (feed cb evs s, tr ++ delivered cb evs s) := by
  induction evs generalizing s tr with
  | nil => simp [feed, delivered]
  | cons e es ih =>
    cases h : (cb s e).2 with
    | false => simp [feed, delivered, traced, h]
    | true => simp [feed, delivered, traced, h, ih]

theorem itemEvents_cons (x : α) (xs : List α) :
    (itemEvents (x :: xs) : List (Ev α ε)) = ⟨x, none⟩ :: itemEvents xs := rfl

theorem sliceLoop_eq_feed (cb : Cons σ α ε) (xs : List α) (s : σ) :
    sliceLoop cb xs s = feed cb (itemEvents xs) s := by
  induction xs generalizing s with
  | nil => simp [sliceLoop, feed, itemEvents]
  | cons x xs ih =>
    cases h : (cb s ⟨x, none⟩).2 with
    | false => simp [sliceLoop, feed, itemEvents_cons, h]
    | true => simp [sliceLoop, feed, itemEvents_cons, h, ih]

theorem sliceSeq_eq_ofEvents (xs : List α) : (sliceSeq xs : Seq α ε) = ofEvents (itemEvents xs) := by
  funext σ cb s
  exact sliceLoop_eq_feed cb xs s

theorem delegate_cb_eq (cb : Cons σ α ε) :
    (fun s ev => if !(cb s ev).2 then ((cb s ev).1, false) else ((cb s ev).1, true)) = cb := by
  funext s ev
  cases h : (cb s ev).2 <;> simp <;> (rw [← h])

theorem ev_eta_none (e : Ev α ε) (h : e.err = none) : (⟨e.item, none⟩ : Ev α ε) = e := by
  cases e; simp_all

theorem feed_logCb (zero : α) (cb : Cons σ α ε) (evs : List (Ev α ε)) (st : LogSt σ α ε) :
    (feed (logCb zero cb) evs st).s = feed cb (cut zero evs) st.s := by
  induction evs generalizing st with
  | nil => simp [feed, cut]
  | cons e es ih =>
    cases he : e.err with
    | some x =>
      simp [feed, cut, logCb, he]
    | none =>
      have hz := ev_eta_none e he
      cases h : (cb st.s e).2 with
      | false => simp [feed, cut, logCb, he, hz, h]
      | true => simp [feed, cut, logCb, he, hz, h, ih]

theorem logIter_eq_ofEvents (zero : α) (evs : List (Ev α ε)) (cb : Cons σ α ε) (s : σ) :
    logIter zero (ofEvents evs) σ cb s = ofEvents (cut zero evs) σ cb s := by
  simp [logIter, logIterRun, ofEvents, feed_logCb]

/-! ### discipline of a trace -/

/-- No event follows an error event. -/
def ErrLast : List (Ev α ε) → Prop
  | [] => True
  | [_] => True
  | e :: e' :: es => e.err = none ∧ ErrLast (e' :: es)

theorem delivered_nil_of_nil (cb : Cons σ α ε) (s : σ) : delivered cb [] s = [] := rfl

theorem delivered_stops (cb : Cons σ α ε) (evs : List (Ev α ε)) (s : σ) {i : Nat} {x : Ev α ε × Bool}
    (hx : (delivered cb evs s)[i]? = some x) (hlen : i + 1 < (delivered cb evs s).length) :
    x.2 = true ∧ (ErrLast evs → x.1.err = none) := by
  induction evs generalizing s i with
  | nil => simp [delivered] at hx
  | cons e es ih =>
    simp only [delivered] at hx hlen
    cases hb : (cb s e).2 with
    | false => simp [hb] at hlen
    | true =>
      simp only [hb, if_true] at hx hlen
      cases es with
      | nil => simp [delivered] at hlen
      | cons e' es' =>
        cases i with
        | zero =>
          simp only [List.getElem?_cons_zero, Option.some.injEq] at hx
          subst hx
          exact ⟨rfl, fun hl => hl.1⟩
        | succ j =>
          have := ih (cb s e).1 (by simpa using hx) (by simpa using hlen)
          exact ⟨this.1, fun hl => this.2 hl.2⟩

theorem errLast_cut (zero : α) (evs : List (Ev α ε)) : ErrLast (cut zero evs) := by
  induction evs with
  | nil => simp [cut, ErrLast]
  | cons e es ih =>
    cases he : e.err with
    | some x => simp [cut, he, ErrLast]
    | none =>
      simp only [cut, he]
      cases hc : cut zero es with
      | nil => simp [ErrLast]
      | cons y rest => rw [hc] at ih; exact ⟨he, ih⟩

theorem errLast_itemEvents (xs : List α) : ErrLast (itemEvents xs : List (Ev α ε)) := by
  induction xs with
  | nil => simp [itemEvents, ErrLast]
  | cons x xs ih =>
    cases xs with
    | nil => simp [itemEvents, ErrLast]
    | cons y ys => exact ⟨rfl, ih⟩

/-- What `cut` lets through already follows the convention: cutting it again changes nothing. -/
theorem cut_idem (zero : α) (evs : List (Ev α ε)) : cut zero (cut zero evs) = cut zero evs := by
  induction evs with
  | nil => simp [cut]
  | cons e es ih =>
    cases he : e.err with
    | some x => simp [cut, he]
    | none => simp [cut, he, ih]

/-! ### `All` -/

/-- items of the events before the first error event -/
def itemsBefore : List (Ev α ε) → List α
  | [] => []
  | e :: es => match e.err with
    | some _ => []
    | none => e.item :: itemsBefore es

def firstErr : List (Ev α ε) → Option ε
  | [] => none
  | e :: es => match e.err with
    | some x => some x
    | none => firstErr es

theorem feed_allCb (evs : List (Ev α ε)) (xs : List α) (err : Option ε) :
    feed allCb evs (xs, err) = (xs ++ itemsBefore evs, (firstErr evs).orElse fun _ => err) := by
  induction evs generalizing xs with
  | nil => simp [feed, itemsBefore, firstErr]
  | cons e es ih =>
    cases he : e.err with
    | some x => simp [feed, allCb, he, itemsBefore, firstErr]
    | none => simp [feed, allCb, he, itemsBefore, firstErr, ih]

theorem itemsBefore_cut (zero : α) (evs : List (Ev α ε)) : itemsBefore (cut zero evs) = itemsBefore evs := by
  induction evs with
  | nil => simp [cut]
  | cons e es ih =>
    cases he : e.err with
    | some x => simp [cut, he, itemsBefore]
    | none => simp [cut, he, itemsBefore, ih]

theorem firstErr_cut (zero : α) (evs : List (Ev α ε)) : firstErr (cut zero evs) = firstErr evs := by
  induction evs with
  | nil => simp [cut]
  | cons e es ih =>
    cases he : e.err with
    | some x => simp [cut, he, firstErr]
    | none => simp [cut, he, firstErr, ih]

theorem itemsBefore_itemEvents (xs : List α) : itemsBefore (itemEvents xs : List (Ev α ε)) = xs := by
  induction xs with
  | nil => rfl
  | cons x xs ih => simp [itemEvents_cons, itemsBefore, ih]

theorem firstErr_itemEvents (xs : List α) : firstErr (itemEvents xs : List (Ev α ε)) = none := by
  induction xs with
  | nil => rfl
  | cons x xs ih => simp [itemEvents_cons, firstErr, ih]

end OciModel.Iter
