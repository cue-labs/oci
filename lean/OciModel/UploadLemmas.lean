/-
Helper lemmas for the chunked-upload model (`OciModel/Upload.lean`): the
Content-Range codec is exact on what the writer sends, the writer/server
invariant and the backend log, admissible scripts, what `flush`, `write`, `step` and
`run` deliver under the invariant (`Delivers`: the bytes, the invariant again, an exact
log), and the outcome of `commit`.
-/
import OciModel.Upload
import OciModel.ReqCodecLemmas

namespace OciModel.Upload
open OciModel.ReqCodec

/-! ### Codec -/

theorem chunkRange_exact {s n : Int} (hs : 0 ≤ s) (hn : 0 ≤ n) :
    chunkRange (some (rangeString s (s + n))) n = some (s, s + n) := by
  by_cases h : 0 < s ∨ 2 ≤ n
  · -- the printed end `s + n - 1` is read back as `s + n`, and no correction applies
    have h1 : ¬ (s + n - 1 < 0) := by omega
    have h2 : s + n - 1 > 0 ∨ s > 0 := by omega
    have h3 : ¬ (n = 1 ∧ s = 0 ∧ s + n - 1 + 1 = 0) := by omega
    have h4 : ¬ (n ≥ 0 ∧ s + n - 1 + 1 - s ≠ n) := by omega
    simp only [chunkRange, rangeString, parseRange, if_neg h1, if_pos h2, if_neg h3, if_neg h4]
    rw [Int.sub_add_cancel]
  · -- `0-0` stands for nothing at all and for the first byte: the length decides
    obtain rfl : s = 0 := by omega
    rcases (by omega : n = 0 ∨ n = 1) with rfl | rfl <;> rfl

theorem askedOffset_eq {n : Nat} (h : n ≠ 1) : askedOffset n = n := by
  by_cases h0 : n = 0
  · subst h0; rfl
  · have h1 : ¬ ((n : Int) - 1 < 0) := by omega
    have h2 : (n : Int) - 1 > 0 ∨ (0 : Int) > 0 := by omega
    simp only [askedOffset, parseRange, rangeString, if_neg h1, if_pos h2]
    exact Int.sub_add_cancel _ _

theorem chunkRange_nat (f k : Nat) :
    chunkRange (some (rangeString (f : Int) ((f : Int) + (k : Int)))) (k : Int)
      = some ((f : Int), (f : Int) + (k : Int)) :=
  chunkRange_exact (Int.natCast_nonneg f) (Int.natCast_nonneg k)

/-! ### Invariant -/

/-- the server holds exactly what the writer believes it has flushed, and no sticky error -/
def Inv (w : CW) (sv : Srv) : Prop := sv.buf.length = w.flushed ∧ sv.poisoned = false

instance (w : CW) (sv : Srv) : Decidable (Inv w sv) := by unfold Inv; infer_instance

/-- `Size()` is the number of bytes written so far -/
def SizeOK (w : CW) (sv : Srv) : Prop := w.size = sv.buf.length + w.chunk.length

/-- number of bytes the registry has received once the pending chunk is flushed -/
def received (w : CW) (sv : Srv) : Nat := sv.buf.length + w.chunk.length

/-- the state after a successful flush of `w.chunk ++ extra` -/
def flushedW (w : CW) (extra : Bytes) : CW :=
  { w with flushed := w.flushed + (w.chunk ++ extra).length, chunk := [] }

def flushedS (w : CW) (sv : Srv) (extra : Bytes) : Srv :=
  { sv with buf := sv.buf ++ w.chunk ++ extra }

def flushLog (w : CW) (extra : Bytes) : List BOp :=
  [BOp.resume w.flushed] ++ (if w.chunk ++ extra ≠ [] then [BOp.write (w.chunk ++ extra).length] else [])

theorem inv_flushed {w : CW} {sv : Srv} (h : Inv w sv) (extra : Bytes) :
    Inv (flushedW w extra) (flushedS w sv extra) := by
  obtain ⟨h1, h2⟩ := h
  refine ⟨?_, h2⟩
  simp [flushedW, flushedS, List.length_append]
  omega

theorem serverChunk_none_ok (H : Bytes → Bytes) (sv : Srv) (f : Nat) (body : Bytes)
    (hf : sv.buf.length = f) :
    serverChunk H sv (rangeString (f : Int) ((f : Int) + (body.length : Int))) body none
      = .ok ({ sv with buf := sv.buf ++ body },
             [BOp.resume f] ++ (if body ≠ [] then [BOp.write body.length] else [])) := by
  unfold serverChunk
  rw [chunkRange_nat]
  simp [hf]

theorem flush_none_nonempty (H : Bytes → Bytes) {w : CW} {sv : Srv} (h : Inv w sv) (extra : Bytes)
    (hne : w.chunk ++ extra ≠ []) :
    flush H w sv extra none = .ok (flushedW w extra, flushedS w sv extra, flushLog w extra) := by
  unfold flush
  simp only [Option.isNone_none, true_and, hne, if_false]
  rw [serverChunk_none_ok H sv w.flushed (w.chunk ++ extra) h.1]
  simp [flushedW, flushedS, flushLog, hne]

theorem flush_none_empty (H : Bytes → Bytes) (w : CW) (sv : Srv) (extra : Bytes)
    (he : w.chunk ++ extra = []) :
    flush H w sv extra none = .ok (w, sv, []) := by
  unfold flush
  simp [he]

/-! ### The backend log -/

/-- bytes handed to the buffer by a log -/
def logBytes : List BOp → Nat
  | [] => 0
  | .write k :: rest => k + logBytes rest
  | _ :: rest => logBytes rest

/-- `LogExact n log`: starting with `n` bytes in the buffer, every `Resume(o)` with a
definite offset (`o ≥ 0`) names exactly the number of bytes the buffer holds at that point. -/
def LogExact : Nat → List BOp → Prop
  | _, [] => True
  | n, .resume o :: rest => (0 ≤ o → o = (n : Int)) ∧ LogExact n rest
  | n, .write k :: rest => LogExact (n + k) rest
  | n, .commit :: rest => LogExact n rest

theorem logBytes_append (l1 l2 : List BOp) : logBytes (l1 ++ l2) = logBytes l1 + logBytes l2 := by
  fun_induction logBytes l1 <;> simp_all [logBytes, Nat.add_assoc]

theorem logExact_append (l1 l2 : List BOp) (n : Nat) :
    LogExact n (l1 ++ l2) ↔ LogExact n l1 ∧ LogExact (n + logBytes l1) l2 := by
  fun_induction LogExact n l1 <;> simp_all [LogExact, logBytes, and_assoc, Nat.add_assoc]

theorem flush_none_spec (H : Bytes → Bytes) {w : CW} {sv : Srv} (h : Inv w sv) (extra : Bytes) :
    ∃ w' sv' log, flush H w sv extra none = .ok (w', sv', log) ∧ Inv w' sv' ∧
      w'.chunk = [] ∧ w'.size = w.size ∧ w'.chunkSize = w.chunkSize ∧
      sv'.buf = sv.buf ++ w.chunk ++ extra ∧
      LogExact sv.buf.length log ∧ sv'.buf.length = sv.buf.length + logBytes log := by
  by_cases he : w.chunk ++ extra = []
  · refine ⟨w, sv, [], flush_none_empty H w sv extra he, h, ?_, rfl, rfl, ?_, trivial, rfl⟩
    · exact (List.append_eq_nil_iff.mp he).1
    · rw [List.append_assoc, he, List.append_nil]
  · refine ⟨_, _, _, flush_none_nonempty H h extra he, inv_flushed h extra, rfl, rfl, rfl, rfl, ?_, ?_⟩
    · simp [flushLog, he, LogExact, h.1]
    · simp [flushLog, he, logBytes, flushedS, List.length_append]

/-! ### Admissible scripts -/

/-- `AdmFrom n ops`: with `n` bytes written so far, no `closeResumeAsk` of the
script happens when exactly one byte has been written. -/
def AdmFrom : Nat → List Op → Prop
  | _, [] => True
  | n, .write d :: rest => AdmFrom (n + d.length) rest
  | n, .closeResumeExplicit :: rest => AdmFrom n rest
  | n, .closeResumeAsk :: rest => n ≠ 1 ∧ AdmFrom n rest

instance : (n : Nat) → (ops : List Op) → Decidable (AdmFrom n ops)
  | _, [] => isTrue trivial
  | n, .write d :: rest => by unfold AdmFrom; exact instDecidableAdmFrom (n + d.length) rest
  | n, .closeResumeExplicit :: rest => by unfold AdmFrom; exact instDecidableAdmFrom n rest
  | n, .closeResumeAsk :: rest => by
      unfold AdmFrom
      exact @instDecidableAnd _ _ _ (instDecidableAdmFrom n rest)

/-- the exclusion of the property, from an arbitrary state -/
def Admissible (w : CW) (sv : Srv) (ops : List Op) : Prop := AdmFrom (received w sv) ops

instance (w : CW) (sv : Srv) (ops : List Op) : Decidable (Admissible w sv ops) := by
  unfold Admissible; infer_instance

/-! ### One step -/

/-- the full invariant carried along a run -/
def Good (w : CW) (sv : Srv) : Prop := Inv w sv ∧ SizeOK w sv

theorem good_start (c : Nat) : Good (start c) ⟨[], false⟩ := by
  simp [Good, Inv, SizeOK, start]

/-- An operation took `(w, sv)` to `(w', sv')` with backend log `log` and delivered exactly `data`:
the full invariant holds again, the chunk size is kept, and the log is exact. -/
def Delivers (w : CW) (sv : Srv) (data : Bytes) (w' : CW) (sv' : Srv) (log : List BOp) : Prop :=
  Good w' sv' ∧ w'.chunkSize = w.chunkSize ∧ sv'.buf ++ w'.chunk = sv.buf ++ w.chunk ++ data ∧
  LogExact sv.buf.length log ∧ sv'.buf.length = sv.buf.length + logBytes log

theorem Delivers.trans {w w1 w2 : CW} {sv sv1 sv2 : Srv} {d1 d2 : Bytes} {l1 l2 : List BOp}
    (h1 : Delivers w sv d1 w1 sv1 l1) (h2 : Delivers w1 sv1 d2 w2 sv2 l2) :
    Delivers w sv (d1 ++ d2) w2 sv2 (l1 ++ l2) := by
  obtain ⟨-, k1, b1, e1, n1⟩ := h1
  obtain ⟨g2, k2, b2, e2, n2⟩ := h2
  refine ⟨g2, k2.trans k1, by rw [b2, b1, List.append_assoc (sv.buf ++ w.chunk)], ?_, ?_⟩
  · rw [logExact_append, ← n1]; exact ⟨e1, e2⟩
  · rw [logBytes_append, n2, n1, Nat.add_assoc]

theorem Delivers.received {w w' : CW} {sv sv' : Srv} {d : Bytes} {l : List BOp}
    (h : Delivers w sv d w' sv' l) : received w' sv' = received w sv + d.length := by
  have := congrArg List.length h.2.2.1
  simpa only [Upload.received, List.length_append] using this

theorem write_spec (H : Bytes → Bytes) {w : CW} {sv : Srv} (h : Good w sv) (data : Bytes) :
    ∃ w' sv' log, write H w sv data = .ok (w', sv', log) ∧ Delivers w sv data w' sv' log := by
  obtain ⟨hi, hs⟩ := h
  unfold write
  split
  · obtain ⟨w1, sv1, log, hf, hi1, hc1, hs1, hk1, hb1, he1, hn1⟩ := flush_none_spec H hi data
    refine ⟨{ w1 with size := w1.size + data.length }, sv1, log, by rw [hf], ⟨hi1, ?_⟩, hk1, ?_, he1, hn1⟩
    · simp only [SizeOK] at hs ⊢
      simp only [hc1, hs1, hb1, hs, List.length_append, List.length_nil]; omega
    · simp only [hc1, hb1, List.append_nil]
  · refine ⟨_, sv, [], rfl, ⟨hi, ?_⟩, rfl, (List.append_assoc ..).symm, trivial, rfl⟩
    simp only [SizeOK] at hs ⊢
    simp only [hs, List.length_append]; omega

theorem step_spec (H : Bytes → Bytes) {w : CW} {sv : Srv} (h : Good w sv) (op : Op)
    (hadm : op = .closeResumeAsk → received w sv ≠ 1) :
    ∃ w' sv' log, step H w sv op = .ok (w', sv', log) ∧ Delivers w sv (written [op]) w' sv' log := by
  cases op with
  | write data => simpa only [step, written, List.append_nil] using write_spec H h data
  | closeResumeExplicit =>
    obtain ⟨hi, hs⟩ := h
    obtain ⟨w1, sv1, log, hf, hi1, hc1, hs1, hk1, hb1, he1, hn1⟩ := flush_none_spec H hi []
    have hsz : sv1.buf.length = w1.size := by
      rw [hs1, hs, hb1, List.append_nil, List.length_append]
    refine ⟨{ w1 with size := w1.size, flushed := w1.size, chunk := [] }, sv1, log, ?_,
      ⟨⟨hsz, hi1.2⟩, hsz.symm⟩, hk1, ?_, he1, hn1⟩
    · simp only [step, hf]
    · simp only [hb1, written, List.append_nil]
  | closeResumeAsk =>
    obtain ⟨hi, hs⟩ := h
    obtain ⟨w1, sv1, log, hf, hi1, hc1, hs1, hk1, hb1, he1, hn1⟩ := flush_none_spec H hi []
    have hlen : sv1.buf.length = received w sv := by
      rw [hb1, List.append_nil, List.length_append]; rfl
    have hoff : (askedOffset sv1.buf.length).toNat = sv1.buf.length := by
      rw [askedOffset_eq (by rw [hlen]; exact hadm rfl)]
      exact Int.toNat_natCast _
    refine ⟨{ w1 with size := (askedOffset sv1.buf.length).toNat,
                      flushed := (askedOffset sv1.buf.length).toNat, chunk := [] },
      sv1, log ++ [BOp.resume (-1)], ?_, ⟨⟨hoff.symm, hi1.2⟩, hoff⟩, hk1, ?_, ?_, ?_⟩
    · simp only [step, hf]
    · simp only [hb1, written, List.append_nil]
    · rw [logExact_append]; exact ⟨he1, by simp [LogExact]⟩
    · rw [logBytes_append, hn1]; rfl

theorem written_cons (op : Op) (rest : List Op) : written (op :: rest) = written [op] ++ written rest := by
  cases op <;> simp [written]

theorem written_length_single_write (d : Bytes) : written [.write d] = d := by simp [written]

theorem admFrom_cons_iff (n : Nat) (op : Op) (rest : List Op) :
    AdmFrom n (op :: rest) ↔
      (op = .closeResumeAsk → n ≠ 1) ∧ AdmFrom (n + (written [op]).length) rest := by
  cases op <;> simp [AdmFrom, written]

theorem admFrom_iff (ops : List Op) : ∀ n, AdmFrom n ops ↔
    ∀ pre post, ops = pre ++ Op.closeResumeAsk :: post → n + (written pre).length ≠ 1 := by
  induction ops with
  | nil => intro n; simp [AdmFrom]
  | cons op rest ih =>
    intro n
    rw [admFrom_cons_iff, ih]
    constructor
    · rintro ⟨h1, h2⟩ pre post heq
      cases pre with
      | nil =>
        simp only [List.nil_append, List.cons.injEq] at heq
        simpa [written] using h1 heq.1
      | cons p pre' =>
        simp only [List.cons_append, List.cons.injEq] at heq
        obtain ⟨rfl, hrest⟩ := heq
        have := h2 pre' post hrest
        rw [written_cons op pre', List.length_append]; omega
    · intro h
      refine ⟨?_, ?_⟩
      · rintro rfl
        simpa [written] using h [] rest rfl
      · intro pre post heq
        have := h (op :: pre) post (by rw [heq]; rfl)
        rw [written_cons op pre, List.length_append] at this; omega

/-! ### Runs -/

theorem run_spec (H : Bytes → Bytes) (ops : List Op) :
    ∀ {w : CW} {sv : Srv}, Good w sv → Admissible w sv ops →
    ∃ w' sv' log, run H w sv ops = .ok (w', sv', log) ∧ Delivers w sv (written ops) w' sv' log := by
  induction ops with
  | nil =>
    intro w sv h _
    exact ⟨w, sv, [], rfl, h, rfl, (List.append_nil _).symm, trivial, rfl⟩
  | cons op rest ih =>
    intro w sv h hadm
    obtain ⟨ha1, ha2⟩ := (admFrom_cons_iff _ op rest).mp hadm
    obtain ⟨w1, sv1, log1, hst, hd1⟩ := step_spec H h op ha1
    obtain ⟨w2, sv2, log2, hr, hd2⟩ := ih hd1.1 (show AdmFrom (received w1 sv1) rest by rw [hd1.received]; exact ha2)
    refine ⟨w2, sv2, log1 ++ log2, by simp only [run, hst, hr], ?_⟩
    rw [written_cons]
    exact hd1.trans hd2

/-! ### Commit -/

theorem commit_spec (H : Bytes → Bytes) {w : CW} {sv : Srv} (h : Inv w sv) (d : Bytes) :
    commit H w sv d =
      if H (sv.buf ++ w.chunk) = d then
        .ok ({ sv with buf := sv.buf ++ w.chunk }, flushLog w [] ++ [BOp.commit])
      else .error .digestInvalid := by
  obtain ⟨h1, h2⟩ := h
  unfold commit flush serverChunk
  simp only [List.append_nil]
  rw [chunkRange_nat]
  by_cases hd : H (sv.buf ++ w.chunk) = d <;> simp [h1, h2, hd, flushLog]

end OciModel.Upload
