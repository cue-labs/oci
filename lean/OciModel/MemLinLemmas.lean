/-
Lemmas for `MemLin`: every execution of the atomic-step model has a linearizable history; the
linearization is the order of the `step` events. The proof carries the invariant `LInv` along the
execution (history so far, shared state, what every client is doing, linearization so far).
-/
import OciModel.MemLin
import OciModel.MemConcLemmas

namespace OciModel.MemLin
open OciModel OciModel.Mem OciModel.MemConc

/-! ### Looking up a position of a list extended by one element -/

theorem get_lt {α} {l : List α} {i : Nat} {a : α} (h : l[i]? = some a) : i < l.length := by
  rcases Nat.lt_or_ge i l.length with hlt | hge
  · exact hlt
  · rw [List.getElem?_eq_none hge] at h; cases h

theorem get_snoc_of {α} {l : List α} (a : α) {i : Nat} {e : α} (h : l[i]? = some e) : (l ++ [a])[i]? = some e := by
  rw [List.getElem?_append_left (get_lt h)]; exact h

theorem get_snoc_some {α} {l : List α} {a e : α} {k : Nat} (h : (l ++ [a])[k]? = some e) :
    (k < l.length ∧ l[k]? = some e) ∨ (k = l.length ∧ e = a) := by
  rcases Nat.lt_or_ge k l.length with hlt | hge
  · left; rw [List.getElem?_append_left hlt] at h; exact ⟨hlt, h⟩
  · right
    have hk := get_lt h
    simp at hk
    have : k = l.length := by omega
    subst this
    rw [List.getElem?_concat_length] at h
    exact ⟨rfl, (Option.some.inj h).symm⟩

/-! ### `Resp` and `Last` -/

/-- client `c` has no event after position `i` -/
def Last (h : History) (i : Nat) (c : Client) : Prop := ∀ k e, i < k → h[k]? = some e → e.client ≠ c

theorem Resp.snoc {h : History} {i j : Nat} {c : Client} {out : Out} (ev : HEv) (r : Resp h i c j out) :
    Resp (h ++ [ev]) i c j out := by
  obtain ⟨hij, hj, hb⟩ := r
  have hjl := get_lt hj
  refine ⟨hij, by rw [List.getElem?_append_left hjl]; exact hj, fun k e hik hkj hk => ?_⟩
  rw [List.getElem?_append_left (by omega)] at hk
  exact hb k e hik hkj hk

theorem Resp.of_snoc {h : History} {i j : Nat} {c : Client} {out : Out} {ev : HEv}
    (r : Resp (h ++ [ev]) i c j out) (hjl : j < h.length) : Resp h i c j out := by
  obtain ⟨hij, hj, hb⟩ := r
  rw [List.getElem?_append_left hjl] at hj
  refine ⟨hij, hj, fun k e hik hkj hk => hb k e hik hkj ?_⟩
  rw [List.getElem?_append_left (by omega)]; exact hk

theorem Resp.unique {h : History} {i j j' : Nat} {c : Client} {out out' : Out}
    (r : Resp h i c j out) (r' : Resp h i c j' out') : j = j' ∧ out = out' := by
  obtain ⟨hij, hj, hb⟩ := r
  obtain ⟨hij', hj', hb'⟩ := r'
  have e : j = j' := by
    rcases Nat.lt_trichotomy j j' with hlt | heq | hgt
    · exact absurd rfl (hb' j _ hij hlt hj)
    · exact heq
    · exact absurd rfl (hb j' _ hij' hgt hj')
  subst e
  rw [hj] at hj'
  cases hj'
  exact ⟨rfl, rfl⟩

theorem Last.snoc {h : History} {i : Nat} {c : Client} {ev : HEv} (l : Last h i c) (hne : ev.client ≠ c) :
    Last (h ++ [ev]) i c := by
  intro k e hik hk
  rcases get_snoc_some hk with ⟨_, hk'⟩ | ⟨_, rfl⟩
  · exact l k e hik hk'
  · exact hne

theorem Last.of_snoc {h : History} {i : Nat} {c : Client} {ev : HEv} (l : Last (h ++ [ev]) i c) : Last h i c := by
  intro k e hik hk
  refine l k e hik ?_
  rw [List.getElem?_append_left (get_lt hk)]; exact hk

theorem Last.len (h : History) (ev : HEv) (c : Client) : Last (h ++ [ev]) h.length c := by
  intro k e hik hk
  have := get_lt hk
  simp at this
  omega

theorem Last.noResp {h : History} {i j : Nat} {c : Client} {out : Out} (l : Last h i c) : ¬ Resp h i c j out :=
  fun r => l j _ r.1 r.2.1 rfl

theorem Last.unique {h : History} {i i' : Nat} {c : Client} {e e' : HEv} (l : Last h i c) (l' : Last h i' c)
    (hi : h[i]? = some e) (he : e.client = c) (hi' : h[i']? = some e') (he' : e'.client = c) : i = i' := by
  rcases Nat.lt_trichotomy i i' with hlt | heq | hgt
  · exact absurd he' (l i' e' hlt hi')
  · exact heq
  · exact absurd he (l' i e hgt hi)

theorem Last.resp_snoc {h : History} {i : Nat} {c : Client} {e : HEv} (l : Last h i c) (hi : h[i]? = some e)
    (out : Out) : Resp (h ++ [.ret c out]) i c h.length out := by
  refine ⟨get_lt hi, List.getElem?_concat_length, fun k e' hik hk hk' => ?_⟩
  rw [List.getElem?_append_left hk] at hk'
  exact l k e' hik hk'

/-! ### `run`, `xrun`, `hist` -/

section
variable (H : Bytes → Bytes)

theorem run_snoc (s : State) (ops : List Op) (o : Op) :
    run H s (ops ++ [o]) =
      ((step H (run H s ops).1 o).1, (run H s ops).2 ++ [(step H (run H s ops).1 o).2]) := by
  induction ops generalizing s with
  | nil => rfl
  | cons a rest ih =>
    show ((run H (step H s a).1 (rest ++ [o])).1, (step H s a).2 :: (run H (step H s a).1 (rest ++ [o])).2) = _
    rw [ih]
    rfl

theorem xrun_cons (x : XState) (e : XEv) (rest : List XEv) :
    xrun H x (e :: rest) = (xstep H x e).bind fun x' => xrun H x' rest := rfl

theorem xrun_cons_some {x x' : XState} {e : XEv} {rest : List XEv} (hx : xrun H x (e :: rest) = some x') :
    ∃ x1, xstep H x e = some x1 ∧ xrun H x1 rest = some x' := by
  rw [xrun_cons] at hx
  cases h1 : xstep H x e with
  | none => rw [h1] at hx; cases hx
  | some x1 => rw [h1] at hx; exact ⟨x1, rfl, hx⟩

end

theorem hist_cons (e : XEv) (rest : List XEv) : hist (e :: rest) = hist [e] ++ hist rest := by
  cases e <;> rfl

theorem hist_append (l1 l2 : List XEv) : hist (l1 ++ l2) = hist l1 ++ hist l2 := by
  induction l1 with
  | nil => rfl
  | cons e rest ih =>
    rw [List.cons_append, hist_cons, ih, hist_cons e rest, List.append_assoc]

theorem setAt_same {α} (f : Client → α) (c : Client) (v : α) : setAt f c v c = v := by
  simp [setAt]

theorem setAt_other {α} (f : Client → α) {c c' : Client} (v : α) (h : c' ≠ c) : setAt f c v c' = f c' := by
  simp [setAt, h]

theorem setAt_of_ne {α} {f : Client → α} {c c' : Client} {v w : α} (h : setAt f c v c' = w) (hw : v ≠ w) :
    c' ≠ c ∧ f c' = w := by
  by_cases hcc : c' = c
  · subst hcc; rw [setAt_same] at h; exact absurd h hw
  · rw [setAt_other _ _ hcc] at h; exact ⟨hcc, h⟩

theorem setAt_view {α β} {g : α → β} {p : Client → β} {f : Client → α} (h : ∀ c, p c = g (f c))
    (c : Client) (v : α) (c' : Client) : setAt p c (g v) c' = g (setAt f c v c') := by
  unfold setAt
  split
  · rfl
  · exact h c'

/-! ### the invariant -/

section
variable (H : Bytes → Bytes)

/-- What holds of the history `h` so far, the execution state `x` and the linearization `lin` so far
(= the operations that have taken their step, in step order). -/
structure LInv (s0 : State) (h : History) (x : XState) (lin : List LinOp) : Prop where
  seq : run H s0 (lin.map (·.op)) = (x.c.st, lin.map (·.out))
  nodup : (lin.map (·.inv)).Nodup
  pIdle : ∀ c, x.pend c = .idle → ∀ i o, h[i]? = some (.inv c o) → ¬ Last h i c
  pInv : ∀ c o, x.pend c = .invoked o → ∃ i, h[i]? = some (.inv c o) ∧ Last h i c ∧ ∀ e ∈ lin, e.inv ≠ i
  pStep : ∀ c o out, x.pend c = .stepped o out → ∃ i, h[i]? = some (.inv c o) ∧ Last h i c ∧ ⟨i, o, out⟩ ∈ lin
  invs : ∀ i c o, h[i]? = some (.inv c o) → (∃ j out, Resp h i c j out ∧ ⟨i, o, out⟩ ∈ lin) ∨ Last h i c
  ents : ∀ e ∈ lin, ∃ c, h[e.inv]? = some (.inv c e.op) ∧
    ((∃ j, Resp h e.inv c j e.out) ∨ (Last h e.inv c ∧ x.pend c = .stepped e.op e.out))
  rt : ∀ (p q : Nat) (a b : LinOp), lin[p]? = some a → lin[q]? = some b →
    (∃ c j out, Resp h a.inv c j out ∧ h[a.inv]? = some (.inv c a.op) ∧ j < b.inv) → p < q

theorem linv_init (c0 : CState) : LInv H c0.st [] (xinit c0) [] where
  seq := rfl
  nodup := List.nodup_nil
  pIdle := fun _ _ i o hi => by simp at hi
  pInv := fun c o hp => by simp [xinit] at hp
  pStep := fun c o out hp => by simp [xinit] at hp
  invs := fun i c o hi => by simp at hi
  ents := fun e he => by simp at he
  rt := fun p q a b hp => by simp at hp

theorem rt_snoc {h : History} {lin : List LinOp} (ev : HEv)
    (hb : ∀ e ∈ lin, e.inv < h.length)
    (rt : ∀ (p q : Nat) (a b : LinOp), lin[p]? = some a → lin[q]? = some b →
      (∃ c j out, Resp h a.inv c j out ∧ h[a.inv]? = some (.inv c a.op) ∧ j < b.inv) → p < q) :
    ∀ (p q : Nat) (a b : LinOp), lin[p]? = some a → lin[q]? = some b →
      (∃ c j out, Resp (h ++ [ev]) a.inv c j out ∧ (h ++ [ev])[a.inv]? = some (.inv c a.op) ∧ j < b.inv) → p < q := by
  intro p q a b hp hq ⟨c, j, out, r, ha, hjb⟩
  have hbl := hb b (List.mem_of_getElem? hq)
  have hal := hb a (List.mem_of_getElem? hp)
  refine rt p q a b hp hq ⟨c, j, out, r.of_snoc (by omega), ?_, hjb⟩
  rw [List.getElem?_append_left hal] at ha; exact ha

theorem LInv.bound {s0 : State} {h : History} {x : XState} {lin : List LinOp} (I : LInv H s0 h x lin) :
    ∀ e ∈ lin, e.inv < h.length := fun e he => by
  obtain ⟨c, hc, _⟩ := I.ents e he
  exact get_lt hc

theorem linv_inv {s0 : State} {h : History} {x : XState} {lin : List LinOp} (I : LInv H s0 h x lin)
    (c : Client) (o : Op) (hp : x.pend c = .idle) :
    LInv H s0 (h ++ [.inv c o]) { x with pend := setAt x.pend c (.invoked o) } lin where
  seq := I.seq
  nodup := I.nodup
  pIdle := by
    intro c' hc' i o' hi hl
    obtain ⟨hne, hc'⟩ := setAt_of_ne hc' nofun
    rcases get_snoc_some hi with ⟨_, hi'⟩ | ⟨_, e⟩
    · exact I.pIdle c' hc' i o' hi' hl.of_snoc
    · cases e; exact hne rfl
  pInv := by
    intro c' o' hc'
    by_cases hcc : c' = c
    · subst hcc
      simp only [setAt_same] at hc'
      cases hc'
      exact ⟨h.length, List.getElem?_concat_length, Last.len _ _ _, fun e he => Nat.ne_of_lt (I.bound H e he)⟩
    · simp only [setAt_other _ _ hcc] at hc'
      obtain ⟨i, hi, hl, hn⟩ := I.pInv c' o' hc'
      exact ⟨i, get_snoc_of _ hi, hl.snoc (Ne.symm hcc), hn⟩
  pStep := by
    intro c' o' out hc'
    obtain ⟨hcc, hc'⟩ := setAt_of_ne hc' nofun
    obtain ⟨i, hi, hl, hm⟩ := I.pStep c' o' out hc'
    exact ⟨i, get_snoc_of _ hi, hl.snoc (Ne.symm hcc), hm⟩
  invs := by
    intro i c' o' hi
    rcases get_snoc_some hi with ⟨_, hi'⟩ | ⟨rfl, e⟩
    · rcases I.invs i c' o' hi' with ⟨j, out, r, hm⟩ | hl
      · exact Or.inl ⟨j, out, r.snoc _, hm⟩
      · by_cases hcc : c' = c
        · subst hcc; exact absurd hl (I.pIdle c' hp i o' hi')
        · exact Or.inr (hl.snoc (Ne.symm hcc))
    · cases e; exact Or.inr (Last.len _ _ _)
  ents := by
    intro e he
    obtain ⟨c', hc', hd⟩ := I.ents e he
    refine ⟨c', get_snoc_of _ hc', ?_⟩
    rcases hd with ⟨j, r⟩ | ⟨hl, hs⟩
    · exact Or.inl ⟨j, r.snoc _⟩
    · have hcc : c' ≠ c := by
        intro e'; subst e'; rw [hp] at hs; cases hs
      exact Or.inr ⟨hl.snoc (Ne.symm hcc), by simp only [setAt_other _ _ hcc]; exact hs⟩
  rt := rt_snoc _ (I.bound H) I.rt

theorem linv_step {s0 : State} {h : History} {x : XState} {lin : List LinOp} (I : LInv H s0 h x lin)
    (c : Client) (o : Op) (hp : x.pend c = .invoked o) :
    ∃ i, LInv H s0 h { c := (astep H x.c (.op o)).1, pend := setAt x.pend c (.stepped o (astep H x.c (.op o)).2) }
      (lin ++ [⟨i, o, (astep H x.c (.op o)).2⟩]) := by
  obtain ⟨i, hi, hl, hn⟩ := I.pInv c o hp
  refine ⟨i, ?_⟩
  exact {
    seq := by
      simp only [List.map_append, List.map_cons, List.map_nil]
      rw [run_snoc, I.seq]
      rfl
    nodup := by
      simp only [List.map_append, List.map_cons, List.map_nil]
      rw [List.nodup_append]
      refine ⟨I.nodup, by simp, ?_⟩
      intro a ha b hb
      simp at hb; subst hb
      obtain ⟨e, he, rfl⟩ := List.mem_map.1 ha
      exact hn e he
    pIdle := by
      intro c' hc' i' o' hi' hl'
      obtain ⟨hne, hc'⟩ := setAt_of_ne hc' nofun
      exact I.pIdle c' hc' i' o' hi' hl'
    pInv := by
      intro c' o' hc'
      obtain ⟨hne, hc'⟩ := setAt_of_ne hc' nofun
      obtain ⟨i', hi', hl', hn'⟩ := I.pInv c' o' hc'
      refine ⟨i', hi', hl', fun e he => ?_⟩
      rcases List.mem_append.1 he with he | he
      · exact hn' e he
      · simp at he; subst he
        intro e'
        simp only at e'
        subst e'
        rw [hi] at hi'
        cases hi'
        exact hne rfl
    pStep := by
      intro c' o' out hc'
      by_cases hcc : c' = c
      · subst hcc
        simp only [setAt_same] at hc'
        cases hc'
        exact ⟨i, hi, hl, List.mem_append.2 (Or.inr (List.mem_singleton.2 rfl))⟩
      · simp only [setAt_other _ _ hcc] at hc'
        obtain ⟨i', hi', hl', hm⟩ := I.pStep c' o' out hc'
        exact ⟨i', hi', hl', List.mem_append.2 (Or.inl hm)⟩
    invs := by
      intro i' c' o' hi'
      rcases I.invs i' c' o' hi' with ⟨j, out, r, hm⟩ | hl'
      · exact Or.inl ⟨j, out, r, List.mem_append.2 (Or.inl hm)⟩
      · exact Or.inr hl'
    ents := by
      intro e he
      rcases List.mem_append.1 he with he | he
      · obtain ⟨c', hc', hd⟩ := I.ents e he
        refine ⟨c', hc', ?_⟩
        rcases hd with ⟨j, r⟩ | ⟨hl', hs⟩
        · exact Or.inl ⟨j, r⟩
        · have hcc : c' ≠ c := by
            intro e'; subst e'; rw [hp] at hs; cases hs
          exact Or.inr ⟨hl', by simp only [setAt_other _ _ hcc]; exact hs⟩
      · simp at he; subst he
        exact ⟨c, hi, Or.inr ⟨hl, by simp only [setAt_same]⟩⟩
    rt := by
      intro p q a b hpa hqb hr
      rcases get_snoc_some hpa with ⟨hpl, hpa'⟩ | ⟨rfl, rfl⟩
      · rcases get_snoc_some hqb with ⟨_, hqb'⟩ | ⟨rfl, _⟩
        · exact I.rt p q a b hpa' hqb' hr
        · exact hpl
      · -- `a` is the new entry: its invocation has no response yet
        obtain ⟨c', j, out, r, ha, _⟩ := hr
        rw [hi] at ha
        cases ha
        exact absurd r hl.noResp }

theorem linv_ret {s0 : State} {h : History} {x : XState} {lin : List LinOp} (I : LInv H s0 h x lin)
    (c : Client) (o : Op) (out : Out) (hp : x.pend c = .stepped o out) :
    LInv H s0 (h ++ [.ret c out]) { x with pend := setAt x.pend c .idle } lin := by
  obtain ⟨i, hi, hl, hm⟩ := I.pStep c o out hp
  exact {
    seq := I.seq
    nodup := I.nodup
    pIdle := by
      intro c' hc' i' o' hi' hl'
      rcases get_snoc_some hi' with ⟨hlt, hi''⟩ | ⟨_, e⟩
      · by_cases hcc : c' = c
        · subst hcc
          exact hl' h.length _ hlt (List.getElem?_concat_length) rfl
        · simp only [setAt_other _ _ hcc] at hc'
          exact I.pIdle c' hc' i' o' hi'' hl'.of_snoc
      · cases e
    pInv := by
      intro c' o' hc'
      obtain ⟨hcc, hc'⟩ := setAt_of_ne hc' nofun
      obtain ⟨i', hi', hl', hn⟩ := I.pInv c' o' hc'
      exact ⟨i', get_snoc_of _ hi', hl'.snoc (Ne.symm hcc), hn⟩
    pStep := by
      intro c' o' out' hc'
      obtain ⟨hcc, hc'⟩ := setAt_of_ne hc' nofun
      obtain ⟨i', hi', hl', hm'⟩ := I.pStep c' o' out' hc'
      exact ⟨i', get_snoc_of _ hi', hl'.snoc (Ne.symm hcc), hm'⟩
    invs := by
      intro i' c' o' hi'
      rcases get_snoc_some hi' with ⟨_, hi''⟩ | ⟨_, e⟩
      · rcases I.invs i' c' o' hi'' with ⟨j, out', r, hm'⟩ | hl'
        · exact Or.inl ⟨j, out', r.snoc _, hm'⟩
        · by_cases hcc : c' = c
          · subst hcc
            have := hl.unique hl' hi rfl hi'' rfl
            subst this
            rw [hi] at hi''
            cases hi''
            exact Or.inl ⟨h.length, out, hl.resp_snoc hi out, hm⟩
          · exact Or.inr (hl'.snoc (Ne.symm hcc))
      · cases e
    ents := by
      intro e he
      obtain ⟨c', hc', hd⟩ := I.ents e he
      refine ⟨c', get_snoc_of _ hc', ?_⟩
      rcases hd with ⟨j, r⟩ | ⟨hl', hs⟩
      · exact Or.inl ⟨j, r.snoc _⟩
      · by_cases hcc : c' = c
        · subst hcc
          rw [hp] at hs
          cases hs
          exact Or.inl ⟨h.length, hl'.resp_snoc hc' _⟩
        · exact Or.inr ⟨hl'.snoc (Ne.symm hcc), by simp only [setAt_other _ _ hcc]; exact hs⟩
    rt := rt_snoc _ (I.bound H) I.rt }

/-- the call a client has made and not yet run -/
def pendOp : Pend → Option Op
  | .invoked o => some o
  | _ => none

def isBusy : Pend → Bool
  | .idle => false
  | _ => true

theorem xstep_cases {x x' : XState} {e : XEv} (hx : xstep H x e = some x') :
    (∃ c o, e = .inv c o ∧ x.pend c = .idle ∧ x' = { x with pend := setAt x.pend c (.invoked o) }) ∨
    (∃ c o, e = .step c ∧ x.pend c = .invoked o ∧
      x' = { c := (astep H x.c (.op o)).1, pend := setAt x.pend c (.stepped o (astep H x.c (.op o)).2) }) ∨
    (∃ c o out, e = .ret c out ∧ x.pend c = .stepped o out ∧ x' = { x with pend := setAt x.pend c .idle }) := by
  cases e with
  | inv c o =>
    simp only [xstep] at hx
    split at hx
    · next hp => cases hx; exact .inl ⟨c, o, rfl, hp, rfl⟩
    · cases hx
  | step c =>
    simp only [xstep] at hx
    split at hx
    · next o hp => cases hx; exact .inr (.inl ⟨c, o, rfl, hp, rfl⟩)
    · cases hx
  | ret c out =>
    simp only [xstep] at hx
    split at hx
    · next o out' hp =>
      split at hx
      · next e => subst e; cases hx; exact .inr (.inr ⟨c, o, out, rfl, hp, rfl⟩)
      · cases hx
    · cases hx

/-- One event of an execution preserves the invariant; the linearization grows at the end, by the
operation that took its step (if the event is a `step`) — so it is `stepOps`, and the shared state moves
by that operation as in `MemConc.arun`. -/
theorem linv_xstep {s0 : State} {h : History} {x x' : XState} {lin : List LinOp} (I : LInv H s0 h x lin)
    (e : XEv) (hx : xstep H x e = some x') (p : Client → Option Op) (hpp : ∀ c, p c = pendOp (x.pend c)) :
    ∃ ext p', LInv H s0 (h ++ hist [e]) x' (lin ++ ext) ∧ (∀ c, p' c = pendOp (x'.pend c)) ∧
      (∀ rest, stepOpsFrom p (e :: rest) = ext.map (·.op) ++ stepOpsFrom p' rest) ∧
      x'.c = arun H x.c ((ext.map (·.op)).map .op) := by
  rcases xstep_cases H hx with ⟨c, o, rfl, hp, rfl⟩ | ⟨c, o, rfl, hp, rfl⟩ | ⟨c, o, out, rfl, hp, rfl⟩
  · exact ⟨[], setAt p c (some o), by simpa [hist] using linv_inv H I c o hp,
      setAt_view (g := pendOp) hpp c (.invoked o), fun rest => rfl, rfl⟩
  · obtain ⟨i, hI⟩ := linv_step H I c o hp
    have hpc : p c = some o := by rw [hpp c, hp]; rfl
    refine ⟨[⟨i, o, (astep H x.c (.op o)).2⟩], setAt p c none, by simpa [hist] using hI,
      setAt_view (g := pendOp) hpp c (.stepped o _), fun rest => ?_, rfl⟩
    simp only [stepOpsFrom, hpc]; rfl
  · refine ⟨[], p, by simpa [hist] using linv_ret H I c o out hp, fun c' => ?_, fun rest => rfl, rfl⟩
    by_cases hcc : c' = c
    · subst hcc; rw [hpp c', hp]; simp [setAt_same, pendOp]
    · simp only [setAt_other _ _ hcc]; exact hpp c'

theorem linv_xrun {s0 : State} (ex : List XEv) {h : History} {x x' : XState} {lin : List LinOp}
    (I : LInv H s0 h x lin) (hx : xrun H x ex = some x') (p : Client → Option Op) (hpp : ∀ c, p c = pendOp (x.pend c)) :
    ∃ ext, LInv H s0 (h ++ hist ex) x' (lin ++ ext) ∧ ext.map (·.op) = stepOpsFrom p ex ∧
      x'.c = arun H x.c ((stepOpsFrom p ex).map .op) := by
  induction ex generalizing h x lin p with
  | nil =>
    cases hx
    exact ⟨[], by simpa [hist] using I, rfl, rfl⟩
  | cons e rest ih =>
    obtain ⟨x1, h1, hx⟩ := xrun_cons_some H hx
    obtain ⟨ext1, p1, I1, hp1, hs1, hc1⟩ := linv_xstep H I e h1 p hpp
    obtain ⟨ext2, I2, hs2, hc2⟩ := ih I1 hx p1 hp1
    refine ⟨ext1 ++ ext2, ?_, ?_, ?_⟩
    · rw [hist_cons, ← List.append_assoc, ← List.append_assoc]
      exact I2
    · rw [hs1 rest, List.map_append, hs2]
    · rw [hc2, hc1, hs1 rest, List.map_append, arun_append]

theorem wf_xrun (ex : List XEv) {x x' : XState} (hx : xrun H x ex = some x') (busy : Client → Bool)
    (hb : ∀ c, busy c = isBusy (x.pend c)) : wfFrom busy (hist ex) = true := by
  induction ex generalizing x busy with
  | nil => rfl
  | cons e rest ih =>
    obtain ⟨x1, h1, hx⟩ := xrun_cons_some H hx
    rcases xstep_cases H h1 with ⟨c, o, rfl, hp, rfl⟩ | ⟨c, o, rfl, hp, rfl⟩ | ⟨c, o, out, rfl, hp, rfl⟩
    · have hbc : busy c = false := by rw [hb c, hp]; rfl
      simp only [hist, wfFrom, hbc, Bool.not_false, Bool.true_and]
      exact ih hx _ (setAt_view (g := isBusy) hb c (.invoked o))
    · refine ih hx _ fun c' => ?_
      by_cases hcc : c' = c
      · subst hcc; rw [hb c', hp]; simp [setAt_same, isBusy]
      · simp only [setAt_other _ _ hcc]; exact hb c'
    · have hbc : busy c = true := by rw [hb c, hp]; rfl
      simp only [hist, wfFrom, hbc, Bool.true_and]
      exact ih hx _ (setAt_view (g := isBusy) hb c .idle)

theorem LInv.isLinearization {s0 : State} {h : History} {x : XState} {lin : List LinOp} (I : LInv H s0 h x lin) :
    IsLinearization H s0 h lin where
  nodup := I.nodup
  isInv := by
    intro e he
    obtain ⟨c, hc, hd⟩ := I.ents e he
    refine ⟨c, hc, fun j out r => ?_⟩
    rcases hd with ⟨j', r'⟩ | ⟨hl, _⟩
    · exact (r.unique r').2
    · exact absurd r hl.noResp
  complete := by
    intro i c o j out hi r
    rcases I.invs i c o hi with ⟨j', out', r', hm⟩ | hl
    · obtain ⟨_, rfl⟩ := r.unique r'
      exact hm
    · exact absurd r hl.noResp
  realtime := I.rt
  sequential := by rw [I.seq]

/-- **Every execution of the atomic-step model is linearizable**: the operations that took their atomic
step, in the order of the `step` events (`stepOps ex`), are a linearization of its history, and running them
sequentially ends in the shared state the execution ends in — which is the state of the schedule
`(stepOps ex).map .op` of `MemConc.arun`. -/
theorem exec_linearization (c0 : CState) (ex : List XEv) {x : XState} (hx : xrun H (xinit c0) ex = some x) :
    ∃ lin, IsLinearization H c0.st (hist ex) lin ∧ lin.map (·.op) = stepOps ex ∧
      (run H c0.st (stepOps ex)).1 = x.c.st ∧ x.c = arun H c0 ((stepOps ex).map .op) := by
  obtain ⟨ext, I, hs, hc⟩ := linv_xrun H ex (linv_init H c0) hx (fun _ => none) (fun _ => rfl)
  simp only [List.nil_append] at I
  refine ⟨ext, I.isLinearization H, hs, ?_, hc⟩
  have := I.seq
  rw [hs] at this
  rw [show stepOps ex = stepOpsFrom (fun _ => none) ex from rfl, this]

end

end OciModel.MemLin
