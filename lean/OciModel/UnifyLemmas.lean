/-
Helper lemmas for the `ociunify` model: insertion sort, compaction, strictly
ascending lists, consumer feeding; the answers of an `ocimem` member as `Unify.step` sees them.
-/
import OciModel.Unify

namespace OciModel.Unify

section sort
variable {α : Type} {cmp : α → α → Ordering}

/-- Strictly ascending: every earlier element is `<` every later one. -/
def StrictAsc (cmp : α → α → Ordering) (l : List α) : Prop := l.Pairwise (fun a b => cmp a b = .lt)

/-- Ascending, duplicates allowed. -/
def Asc (cmp : α → α → Ordering) (l : List α) : Prop := l.Pairwise (fun a b => cmp a b ≠ .gt)

theorem mem_insertBy (x y : α) (l : List α) : y ∈ insertBy cmp x l ↔ y = x ∨ y ∈ l := by
  induction l with
  | nil => simp [insertBy]
  | cons z zs ih =>
    simp only [insertBy]
    split
    · simp [ih]; constructor
      · rintro (h | h | h) <;> simp [h]
      · rintro (h | h | h) <;> simp [h]
    · simp

theorem mem_sortBy (y : α) (l : List α) : y ∈ sortBy cmp l ↔ y ∈ l := by
  induction l with
  | nil => simp [sortBy]
  | cons z zs ih =>
    have : sortBy cmp (z :: zs) = insertBy cmp z (sortBy cmp zs) := rfl
    rw [this, mem_insertBy, ih]; simp

theorem asc_insertBy [Std.TransCmp cmp] (x : α) (l : List α) (h : Asc cmp l) : Asc cmp (insertBy cmp x l) := by
  induction l with
  | nil => simp [insertBy, Asc]
  | cons z zs ih =>
    simp only [Asc, List.pairwise_cons] at h
    simp only [insertBy]
    split
    · rename_i hgt
      refine List.pairwise_cons.2 ⟨fun a ha => ?_, ih h.2⟩
      rcases (mem_insertBy x a zs).1 ha with rfl | ha
      · rw [Std.OrientedCmp.gt_iff_lt.1 hgt]; decide
      · exact h.1 a ha
    · rename_i hngt
      refine List.pairwise_cons.2 ⟨fun a ha => ?_, List.pairwise_cons.2 h⟩
      rcases List.mem_cons.1 ha with rfl | ha
      · exact hngt
      · -- x ≤ z ≤ a
        exact Ordering.isLE_iff_ne_gt.1 (Std.TransCmp.isLE_trans (Ordering.ne_gt_iff_isLE.1 hngt)
          (Ordering.ne_gt_iff_isLE.1 (h.1 a ha)))

theorem asc_sortBy [Std.TransCmp cmp] (l : List α) : Asc cmp (sortBy cmp l) := by
  induction l with
  | nil => simp [sortBy, Asc]
  | cons z zs ih => exact asc_insertBy z _ ih

theorem mem_compactAux (p y : α) (l : List α) (h : y ∈ compactAux cmp p l) : y ∈ l := by
  induction l generalizing p with
  | nil => simp [compactAux] at h
  | cons z zs ih =>
    simp only [compactAux] at h
    split at h
    · exact List.mem_cons_of_mem _ (ih _ h)
    · simp only [List.mem_cons] at h
      rcases h with rfl | h
      · simp
      · exact List.mem_cons_of_mem _ (ih _ h)

theorem mem_compactBy (y : α) (l : List α) (h : y ∈ compactBy cmp l) : y ∈ l := by
  cases l with
  | nil => simp [compactBy] at h
  | cons x xs =>
    simp only [compactBy, List.mem_cons] at h
    rcases h with rfl | h
    · simp
    · exact List.mem_cons_of_mem _ (mem_compactAux _ _ _ h)

theorem strictAsc_compactAux [Std.TransCmp cmp] (p : α) (l : List α)
    (hp : ∀ a ∈ l, cmp p a ≠ .gt) (h : Asc cmp l) :
    (∀ a ∈ compactAux cmp p l, cmp p a = .lt) ∧ StrictAsc cmp (compactAux cmp p l) := by
  induction l generalizing p with
  | nil => simp [compactAux, StrictAsc]
  | cons z zs ih =>
    simp only [Asc, List.pairwise_cons] at h
    simp only [compactAux]
    split
    · exact ih p (fun a ha => hp a (List.mem_cons_of_mem _ ha)) h.2
    · rename_i hne
      have hpz : cmp p z = .lt := by
        cases hc : cmp p z with
        | lt => rfl
        | eq => exact absurd hc hne
        | gt => exact absurd hc (hp z List.mem_cons_self)
      obtain ⟨i1, i2⟩ := ih z h.1 h.2
      refine ⟨?_, ?_⟩
      · intro a ha
        simp only [List.mem_cons] at ha
        rcases ha with rfl | ha
        · exact hpz
        · exact Std.TransCmp.lt_trans hpz (i1 a ha)
      · simp only [StrictAsc, List.pairwise_cons]
        exact ⟨i1, i2⟩

theorem strictAsc_compactBy [Std.TransCmp cmp] (l : List α) (h : Asc cmp l) : StrictAsc cmp (compactBy cmp l) := by
  cases l with
  | nil => simp [compactBy, StrictAsc]
  | cons x xs =>
    simp only [Asc, List.pairwise_cons] at h
    obtain ⟨i1, i2⟩ := strictAsc_compactAux x xs h.1 h.2
    simp only [compactBy, StrictAsc, List.pairwise_cons]
    exact ⟨i1, i2⟩

theorem compactAux_covers [Std.ReflCmp cmp] (p : α) (l : List α) (x : α) (hx : x ∈ l) :
    cmp p x = .eq ∨ ∃ y ∈ compactAux cmp p l, cmp y x = .eq := by
  induction l generalizing p with
  | nil => simp at hx
  | cons z zs ih =>
    simp only [List.mem_cons] at hx
    simp only [compactAux]
    split
    · rename_i heq
      rcases hx with rfl | hx
      · exact Or.inl heq
      · exact ih p hx
    · rcases hx with rfl | hx
      · exact Or.inr ⟨x, by simp, Std.ReflCmp.compare_self⟩
      · rcases ih z hx with h | ⟨y, hy, hyx⟩
        · exact Or.inr ⟨z, by simp, h⟩
        · exact Or.inr ⟨y, List.mem_cons_of_mem _ hy, hyx⟩

theorem compactBy_covers [Std.ReflCmp cmp] (l : List α) (x : α) (hx : x ∈ l) :
    ∃ y ∈ compactBy cmp l, cmp y x = .eq := by
  cases l with
  | nil => simp at hx
  | cons z zs =>
    simp only [List.mem_cons] at hx
    simp only [compactBy]
    rcases hx with rfl | hx
    · exact ⟨x, by simp, Std.ReflCmp.compare_self⟩
    · rcases compactAux_covers (cmp := cmp) z zs x hx with h | ⟨y, hy, hyx⟩
      · exact ⟨z, by simp, h⟩
      · exact ⟨y, List.mem_cons_of_mem _ hy, hyx⟩

/-- A strictly ascending list is determined by its members: the arrangement
produced by any correct sort (Go's unstable pdqsort included) followed by
compaction is this one. -/
theorem strictAsc_unique [Std.TransCmp cmp] (l l' : List α) (h : StrictAsc cmp l) (h' : StrictAsc cmp l')
    (hm : ∀ x, x ∈ l ↔ x ∈ l') : l = l' :=
  have ne : ∀ {a b : α}, cmp a b = .lt → a ≠ b := fun hab e => by
    subst e; rw [Std.ReflCmp.compare_self (cmp := cmp)] at hab; cases hab
  List.Perm.eq_of_pairwise (le := fun a b => cmp a b = .lt)
    (fun _ _ _ _ hab hba => absurd hba (Std.OrientedCmp.not_lt_of_lt hab)) h h'
    ((List.perm_ext_iff_of_nodup (h.imp ne) (h'.imp ne)).mpr hm)

end sort

/-! ### Feeding a consumer -/

theorem feed_prefix {α} (accept : List (Ev α) → Bool) (hist evs : List (Ev α)) :
    feed accept hist evs <+: evs := by
  induction evs generalizing hist with
  | nil => simp [feed]
  | cons e rest ih =>
    simp only [feed]
    split
    · exact List.prefix_cons_inj e |>.2 (ih _)
    · exact List.prefix_cons_inj e |>.2 (List.nil_prefix)

/-- The history the consumer has seen when call number `i` of `evs` is made. -/
def histAt {α} (hist evs : List (Ev α)) (i : Nat) : List (Ev α) := (evs.take (i + 1)).reverse ++ hist

theorem feed_length {α} (accept : List (Ev α) → Bool) (hist evs : List (Ev α)) (i : Nat) (hi : i < evs.length) :
    i < (feed accept hist evs).length ↔ ∀ j < i, accept (histAt hist evs j) = true := by
  induction evs generalizing hist i with
  | nil => simp at hi
  | cons e rest ih =>
    simp only [feed]
    cases i with
    | zero => simp
    | succ i =>
      simp only [List.length_cons, Nat.add_lt_add_iff_right] at hi ⊢
      by_cases ha : accept (e :: hist) = true
      · simp only [ha, if_true]
        rw [ih (e :: hist) i hi]
        constructor
        · intro h j hj
          cases j with
          | zero => simpa [histAt] using ha
          | succ j =>
            have := h j (by omega)
            simpa [histAt] using this
        · intro h j hj
          have := h (j + 1) (by omega)
          simpa [histAt] using this
      · simp only [ha]
        simp only [Bool.false_eq_true, if_false, List.length_nil, Nat.not_lt_zero, false_iff]
        intro h
        have := h 0 (by omega)
        simp [histAt] at this
        exact ha this

/-! ### Shapes of an `ocimem` member's answers (used by the `Unify.step` theorems of `Props/C15.lean` and `UnifyIDSim.lean`) -/

theorem toOut_ofOut (o : Mem.Out) : toOut (ofOut o) = o := by cases o <;> rfl

theorem ofOut_err (c : String) : ofOut (.err c) = .err c := rfl

theorem ofOut_cases (o : Mem.Out) : ofOut o = .ok o ∨ ∃ c, o = .err c := by
  cases o <;> first | exact .inl rfl | exact .inr ⟨_, rfl⟩

theorem toOut_readFirst (o0 o1 : Mem.Out) :
    toOut (readFirst (ofOut o0) (ofOut o1)) = if (ofOut o0).isOk then o0 else o1 := by
  rcases ofOut_cases o0 with h | ⟨c, rfl⟩
  · rw [h]; rfl
  · exact toOut_ofOut o1

theorem isOk_ite (o0 o1 : Mem.Out) :
    (ofOut (if (ofOut o0).isOk then o0 else o1)).isOk = true ↔ (ofOut o0).isOk = true ∨ (ofOut o1).isOk = true := by
  cases h : (ofOut o0).isOk <;> simp [h]

/-- A rule for combining the two members' answers to a write: a success only if both are, and then member 0's. -/
def BothRule (comb : Res Mem.Out → Res Mem.Out → Res Mem.Out) : Prop :=
  ∀ r0 r1, ((comb r0 r1).isOk = true ↔ r0.isOk = true ∧ r1.isOk = true) ∧ ((comb r0 r1).isOk = true → comb r0 r1 = r0)

theorem answer_of_bothRule {comb : Res Mem.Out → Res Mem.Out → Res Mem.Out} (h : BothRule comb) (o0 o1 : Mem.Out) :
    ((ofOut (toOut (comb (ofOut o0) (ofOut o1)))).isOk = true ↔ (ofOut o0).isOk = true ∧ (ofOut o1).isOk = true) ∧
    ((ofOut (toOut (comb (ofOut o0) (ofOut o1)))).isOk = true → toOut (comb (ofOut o0) (ofOut o1)) = o0) := by
  obtain ⟨hi, ha⟩ := h (ofOut o0) (ofOut o1)
  cases hR : comb (ofOut o0) (ofOut o1) with
  | err c => rw [hR] at hi; exact ⟨⟨fun h => (nomatch h), fun h => (nomatch hi.2 h)⟩, fun h => nomatch h⟩
  | ok x =>
    rw [hR] at hi ha
    obtain rfl : x = o0 := by rw [← toOut_ofOut o0, ← ha rfl]; rfl
    exact ⟨⟨fun _ => hi.1 rfl, fun _ => (hi.1 rfl).1⟩, fun _ => rfl⟩

theorem mem_open_out (H : Bytes → Bytes) (m : Mem.State) (op : Mem.Op)
    (h : ∃ r, op = .pushChunked r ∨ ∃ id off, op = .resume r id off) :
    (∃ c, (Mem.step H m op).2 = .err c) ∨
    ∃ x, (Mem.step H m op).2 = .okWriter x ∧ ((∃ n, x = Mem.freshID n) ∨ ∃ r off, op = .resume r x off) := by
  obtain ⟨r, rfl | ⟨id, off, rfl⟩⟩ := h <;> simp only [Mem.step] <;> (repeat' split) <;>
    first
      | exact .inl ⟨_, rfl⟩
      | exact .inr ⟨_, rfl, .inl ⟨_, rfl⟩⟩
      | exact .inr ⟨_, rfl, .inr ⟨_, _, rfl⟩⟩

theorem mem_write_out (H : Bytes → Bytes) (m : Mem.State) (r id d : Bytes) :
    (∃ c, (Mem.step H m (.wWrite r id d)).2 = .err c) ∨ (Mem.step H m (.wWrite r id d)).2 = .okN d.length := by
  simp only [Mem.step]; (repeat' split) <;> simp

end OciModel.Unify
