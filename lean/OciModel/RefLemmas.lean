/-
Lemmas about the `ociref` model (`OciModel/Ref.lean`): splitting a list at the first element
that fails a test (`span_cases`, which every recogniser built on `takeWhile`/`dropWhile` goes
through), the alphabet of each part of a reference, and what `isHost`, `parseRest`, `matchRef`,
`parseRelative` and `parse` accept, each as an `iff` or as the list of its successful cases.
-/
import OciModel.Ref

namespace OciModel.Ref

/-! ### `takeWhile`, `dropWhile` and the split at the first failing element -/

theorem dropWhile_head_false {α} (p : α → Bool) {l : List α} {c : α} {t : List α}
    (h : l.dropWhile p = c :: t) : p c = false := by
  have := List.head?_dropWhile_not p l
  rw [h] at this
  exact this

theorem mem_takeWhile_true {α} (p : α → Bool) {l : List α} {c : α}
    (h : c ∈ l.takeWhile p) : p c = true :=
  List.all_eq_true.mp List.all_takeWhile c h

theorem takeWhile_append_cons {α} (p : α → Bool) {a : List α} {x : α} {b : List α}
    (ha : ∀ c ∈ a, p c = true) (hx : p x = false) : (a ++ x :: b).takeWhile p = a := by
  rw [List.takeWhile_append_of_pos ha, List.takeWhile_cons]
  simp [hx]

theorem dropWhile_append_cons {α} (p : α → Bool) {a : List α} {x : α} {b : List α}
    (ha : ∀ c ∈ a, p c = true) (hx : p x = false) : (a ++ x :: b).dropWhile p = x :: b := by
  rw [List.dropWhile_append_of_pos ha, List.dropWhile_cons]
  simp [hx]

theorem takeWhile_all {α} (p : α → Bool) {a : List α}
    (ha : ∀ c ∈ a, p c = true) : a.takeWhile p = a := by
  have := List.takeWhile_append_of_pos (p := p) (l₁ := a) (l₂ := []) ha
  simpa using this

theorem dropWhile_all {α} (p : α → Bool) {a : List α}
    (ha : ∀ c ∈ a, p c = true) : a.dropWhile p = [] := by
  have := List.dropWhile_append_of_pos (p := p) (l₁ := a) (l₂ := []) ha
  simpa using this

theorem span_cases {α} (p : α → Bool) (l : List α) :
    ((∀ c ∈ l, p c = true) ∧ l.takeWhile p = l ∧ l.dropWhile p = []) ∨
    ∃ a x b, l = a ++ x :: b ∧ (∀ c ∈ a, p c = true) ∧ p x = false ∧
      l.takeWhile p = a ∧ l.dropWhile p = x :: b := by
  have hsplit := List.takeWhile_append_dropWhile (p := p) (l := l)
  cases h : l.dropWhile p with
  | nil =>
    rw [h, List.append_nil] at hsplit
    exact Or.inl ⟨fun c hc => mem_takeWhile_true p (hsplit.symm ▸ hc), hsplit, rfl⟩
  | cons x b =>
    rw [h] at hsplit
    exact Or.inr ⟨_, x, b, hsplit.symm, fun c hc => mem_takeWhile_true p hc,
      dropWhile_head_false p h, rfl, rfl⟩

theorem not_mem_iff_forall_bne {x : UInt8} {l : Bytes} : x ∉ l ↔ ∀ c ∈ l, (c != x) = true := by
  simp only [bne_iff_ne, ne_eq]
  exact ⟨fun h c hc e => h (e ▸ hc), fun h hc => h _ hc rfl⟩

/-- `span_cases` for the test "is not the byte `c`". -/
theorem span_ne_cases (c : UInt8) (l : Bytes) :
    (c ∉ l ∧ l.takeWhile (· != c) = l ∧ l.dropWhile (· != c) = []) ∨
    ∃ a b, l = a ++ c :: b ∧ c ∉ a ∧ l.takeWhile (· != c) = a ∧ l.dropWhile (· != c) = c :: b := by
  rcases span_cases (· != c) l with ⟨hall, ht, hd⟩ | ⟨a, x, b, e, ha, hx, ht, hd⟩
  · exact Or.inl ⟨not_mem_iff_forall_bne.mpr hall, ht, hd⟩
  · obtain rfl : x = c := bne_eq_false_iff_eq.mp hx
    exact Or.inr ⟨a, b, e, not_mem_iff_forall_bne.mpr ha, ht, hd⟩

theorem ne_of_pred {f : UInt8 → Bool} {c x : UInt8} (hc : f c = true) (hx : f x = false) :
    c ≠ x := by
  rintro rfl; rw [hx] at hc; cases hc

theorem all_ne_of_pred {f : UInt8 → Bool} {l : Bytes} (h : ∀ c ∈ l, f c = true) {x : UInt8}
    (hx : f x = false) : ∀ c ∈ l, c ≠ x :=
  fun c hc => ne_of_pred (h c hc) hx

/-! ### `splitOn` -/

theorem splitOn_ne_nil (sep : UInt8) (l : Bytes) : splitOn sep l ≠ [] := by
  cases l with
  | nil => simp [splitOn]
  | cons b rest =>
    unfold splitOn
    split
    · simp
    · split <;> simp

theorem splitOn_of_not_mem {sep : UInt8} : ∀ {s : Bytes}, sep ∉ s → splitOn sep s = [s]
  | [], _ => rfl
  | b :: rest, h => by
    simp only [List.mem_cons, not_or] at h
    have hb : b ≠ sep := fun e => h.1 e.symm
    simp [splitOn, hb, splitOn_of_not_mem h.2]

theorem splitOn_append_sep (sep : UInt8) (a b : Bytes) :
    splitOn sep (a ++ sep :: b) = splitOn sep a ++ splitOn sep b := by
  induction a with
  | nil => simp [splitOn]
  | cons x a ih =>
    by_cases hx : x = sep
    · simp [splitOn, hx, ih]
    · simp only [List.cons_append, splitOn, hx, if_false, ih]
      cases hs : splitOn sep a with
      | nil => exact absurd hs (splitOn_ne_nil sep a)
      | cons q qs => simp

theorem splitOn_append_cons {sep : UInt8} {x : Bytes} (y : Bytes) (h : sep ∉ x) :
    splitOn sep (x ++ sep :: y) = x :: splitOn sep y := by
  rw [splitOn_append_sep, splitOn_of_not_mem h]; rfl

theorem mem_splitOn (sep : UInt8) {l : Bytes} {c : UInt8} (h : c ∈ l) :
    c = sep ∨ ∃ p ∈ splitOn sep l, c ∈ p := by
  induction l with
  | nil => cases h
  | cons b rest ih =>
    unfold splitOn
    split
    · rename_i hb
      rcases List.mem_cons.mp h with rfl | h
      · exact Or.inl hb
      · exact (ih h).imp_right fun ⟨p, hp, hc⟩ => ⟨p, List.mem_cons_of_mem _ hp, hc⟩
    · split
      · rename_i p ps hs
        rcases List.mem_cons.mp h with rfl | h
        · exact Or.inr ⟨c :: p, List.mem_cons_self, List.mem_cons_self⟩
        · refine (ih h).imp_right fun ⟨q, hq, hc⟩ => ?_
          rw [hs] at hq
          rcases List.mem_cons.mp hq with rfl | hq
          · exact ⟨b :: q, List.mem_cons_self, List.mem_cons_of_mem _ hc⟩
          · exact ⟨q, List.mem_cons_of_mem _ hq, hc⟩
      · rename_i hs; exact absurd hs (splitOn_ne_nil sep rest)

/-! ### `isHost` -/

theorem isHost_nil : isHost [] = false := by decide

theorem isHost_ne_nil {h : Bytes} (hh : isHost h = true) : h ≠ [] := by
  intro e; subst e; simp [isHost_nil] at hh

theorem isDomainComponent_no_slash {s : Bytes} (h : isDomainComponent s = true) :
    ∀ c ∈ s, c ≠ cSlash := by
  cases s with
  | nil => simp
  | cons a rest =>
    simp only [isDomainComponent, Bool.and_eq_true, List.all_eq_true, Bool.or_eq_true,
      beq_iff_eq] at h
    rw [List.forall_mem_cons]
    refine ⟨ne_of_pred h.1.1 (by decide), fun c hc => ?_⟩
    rcases h.1.2 c hc with h' | rfl
    · exact ne_of_pred h' (by decide)
    · decide

theorem isPort_no_slash {s : Bytes} (h : isPort s = true) : ∀ c ∈ s, c ≠ cSlash := by
  simp only [isPort, Bool.and_eq_true, List.all_eq_true] at h
  exact fun c hc => ne_of_pred (h.2 c hc) (by decide)

/-- The `[` branch of `isHost`: `[ipv6]` with an optional `:port`. -/
theorem isHost_bracket_iff (rest : Bytes) : isHost (91 :: rest) = true ↔
    ∃ body after, rest = body ++ 93 :: after ∧ body ≠ [] ∧ (∀ b ∈ body, isIPv6Char b = true) ∧
      (after = [] ∨ ∃ p, after = cColon :: p ∧ isPort p = true) := by
  unfold isHost
  split
  · rename_i r h; cases h
    constructor
    · intro h
      rcases span_ne_cases 93 rest with ⟨_, _, hd⟩ | ⟨body, after, rfl, _, ht, hd⟩
      · simp [hd] at h
      · simp only [ht, hd, Bool.and_eq_true, bne_iff_ne, ne_eq, List.all_eq_true] at h
        refine ⟨body, after, rfl, h.1.1, h.1.2, ?_⟩
        cases after with
        | nil => exact Or.inl rfl
        | cons c p =>
          simp only [Bool.and_eq_true, beq_iff_eq] at h
          exact Or.inr ⟨p, by rw [h.2.1], h.2.2⟩
    · rintro ⟨body, after, rfl, hne, hall, hafter⟩
      have hP : ∀ c ∈ body, (c != 93) = true := fun c hc => by
        simpa using ne_of_pred (hall c hc) (by decide)
      have h93 : ((93 : UInt8) != 93) = false := by decide
      simp only [takeWhile_append_cons _ hP h93, dropWhile_append_cons _ hP h93]
      simp only [Bool.and_eq_true, bne_iff_ne, ne_eq, List.all_eq_true]
      rcases hafter with rfl | ⟨p, rfl, hp⟩
      · exact ⟨⟨hne, hall⟩, rfl⟩
      · exact ⟨⟨hne, hall⟩, by simp only [beq_self_eq_true, Bool.true_and]; exact hp⟩
  · rename_i h; exact absurd rfl (h rest)

/-- The other branch: dot-separated components, then either nothing (at least two components) or
`:port`. -/
theorem isHost_nobracket_iff {c : UInt8} (hc : c ≠ 91) (rest : Bytes) :
    isHost (c :: rest) = true ↔
    ∃ hp, cColon ∉ hp ∧ (∀ p ∈ splitOn cDot hp, isDomainComponent p = true) ∧
      ((c :: rest = hp ∧ (splitOn cDot hp).length ≥ 2) ∨
        ∃ p, c :: rest = hp ++ cColon :: p ∧ isPort p = true) := by
  unfold isHost
  split
  · rename_i r h; cases h; exact absurd rfl hc
  · generalize c :: rest = s
    constructor
    · intro h
      rcases span_ne_cases cColon s with ⟨hcol, ht, hd⟩ | ⟨hp, p, rfl, hcol, ht, hd⟩
      · simp only [ht, hd, Bool.and_eq_true, decide_eq_true_eq, List.all_eq_true] at h
        exact ⟨s, hcol, h.2, Or.inl ⟨rfl, h.1⟩⟩
      · simp only [ht, hd, Bool.and_eq_true, List.all_eq_true] at h
        exact ⟨hp, hcol, h.1, Or.inr ⟨p, rfl, h.2⟩⟩
    · rintro ⟨hp, hcol, hall, ⟨rfl, hlen⟩ | ⟨p, rfl, hport⟩⟩
      · have hP := not_mem_iff_forall_bne.mp hcol
        simp only [takeWhile_all _ hP, dropWhile_all _ hP, Bool.and_eq_true, decide_eq_true_eq,
          List.all_eq_true]
        exact ⟨hlen, hall⟩
      · have hP := not_mem_iff_forall_bne.mp hcol
        have hcc : (cColon != cColon) = false := by decide
        simp only [takeWhile_append_cons _ hP hcc, dropWhile_append_cons _ hP hcc,
          Bool.and_eq_true, List.all_eq_true]
        exact ⟨hall, hport⟩

theorem isHost_no_slash {h : Bytes} (hh : isHost h = true) : ∀ c ∈ h, c ≠ cSlash := by
  have hdot : ∀ hp : Bytes, (∀ p ∈ splitOn cDot hp, isDomainComponent p = true) →
      ∀ c ∈ hp, c ≠ cSlash := by
    intro hp hall c hc
    rcases mem_splitOn cDot hc with rfl | ⟨q, hq, hcq⟩
    · decide
    · exact isDomainComponent_no_slash (hall q hq) c hcq
  cases h with
  | nil => simp
  | cons a rest =>
    by_cases ha : a = 91
    · subst ha
      obtain ⟨body, after, rfl, _, hb, hafter⟩ := (isHost_bracket_iff rest).mp hh
      simp only [List.forall_mem_cons, List.forall_mem_append]
      refine ⟨by decide, fun c hc => ne_of_pred (hb c hc) (by decide), by decide, ?_⟩
      rcases hafter with rfl | ⟨p, rfl, hp⟩
      · simp
      · exact List.forall_mem_cons.mpr ⟨by decide, isPort_no_slash hp⟩
    · obtain ⟨hp, _, hall, ⟨e, _⟩ | ⟨p, e, hport⟩⟩ := (isHost_nobracket_iff ha rest).mp hh
      · exact e ▸ hdot hp hall
      · rw [e]
        simp only [List.forall_mem_cons, List.forall_mem_append]
        exact ⟨hdot hp hall, by decide, isPort_no_slash hport⟩

/-! ### The alphabets of repository, tag and digest

Which bytes can occur in a valid part; that the separators `/ : @` and the newline cannot occur
where `print` relies on it is then a check on a handful of bytes. -/

theorem isSeparator_bytes {r : Bytes} (h : isSeparator r = true) :
    ∀ c ∈ r, (c == cDot || c == cUnder || c == cDash) = true := by
  simp only [isSeparator, Bool.or_eq_true, beq_iff_eq, Bool.and_eq_true, List.all_eq_true] at h
  rcases h with ((rfl | rfl) | rfl) | h
  · decide
  · decide
  · decide
  · exact fun c hc => by rw [h.2 c hc]; decide

theorem pathTail_bytes : ∀ (fuel : Nat) (l : Bytes), pathTail fuel l = true →
    ∀ c ∈ l, (isAlnumLower c || c == cDot || c == cUnder || c == cDash) = true
  | _, [], _ => by simp
  | 0, _ :: _, h => by simp [pathTail] at h
  | fuel + 1, a :: rest, h => by
    unfold pathTail at h
    split at h
    · rename_i ha
      rw [List.forall_mem_cons, ha]
      exact ⟨rfl, pathTail_bytes fuel rest h⟩
    · rcases span_cases (fun c => !isAlnumLower c) (a :: rest) with
        ⟨_, _, hd⟩ | ⟨sep, x, after, e, _, hx, ht, hd⟩
      · simp [hd] at h
      · have hx : isAlnumLower x = true := by simpa using hx
        simp only [ht, hd, Bool.and_eq_true, List.drop_succ_cons, List.drop_zero] at h
        rw [e]
        simp only [List.forall_mem_cons, List.forall_mem_append]
        have hsep : ∀ c ∈ sep,
            (isAlnumLower c || c == cDot || c == cUnder || c == cDash) = true := by
          intro c hc
          cases isAlnumLower c
          · exact isSeparator_bytes h.1.1 c hc
          · rfl
        exact ⟨hsep, by rw [hx]; rfl, pathTail_bytes fuel after h.2⟩

theorem isRepo_bytes {p : Bytes} (h : isRepo p = true) :
    ∀ c ∈ p, (isAlnumLower c || c == cDot || c == cUnder || c == cDash || c == cSlash) = true := by
  intro c hc
  rcases mem_splitOn cSlash hc with rfl | ⟨q, hq, hcq⟩
  · decide
  · have hq := List.all_eq_true.mp h q hq
    cases q with
    | nil => cases hcq
    | cons a rest =>
      simp only [isPathComponent, Bool.and_eq_true] at hq
      have : (isAlnumLower c || c == cDot || c == cUnder || c == cDash) = true := by
        rcases List.mem_cons.mp hcq with rfl | hc
        · rw [hq.1]; rfl
        · exact pathTail_bytes _ _ hq.2 c hc
      rw [this]; rfl

theorem isRepo_noColAt {p : Bytes} (h : isRepo p = true) : ∀ c ∈ p, c ≠ cColon ∧ c ≠ cAt :=
  fun c hc => ⟨all_ne_of_pred (isRepo_bytes h) (by decide) c hc,
    all_ne_of_pred (isRepo_bytes h) (by decide) c hc⟩

theorem isTag_length (t : Bytes) (h : isTag t = true) : t.length ≤ 128 ∧ t ≠ [] := by
  cases t with
  | nil => simp [isTag] at h
  | cons c rest =>
    simp only [isTag, Bool.and_eq_true, decide_eq_true_eq] at h
    exact ⟨h.1.1, by simp⟩

theorem isTag_bytes {t : Bytes} (h : isTag t = true) :
    ∀ c ∈ t, (isWord c || c == cDot || c == cDash) = true := by
  cases t with
  | nil => simp
  | cons a rest =>
    simp only [isTag, Bool.and_eq_true, List.all_eq_true] at h
    rw [List.forall_mem_cons, h.1.2]
    exact ⟨rfl, h.2⟩

theorem isTag_no_at {t : Bytes} (h : isTag t = true) : ∀ c ∈ t, c ≠ cAt :=
  all_ne_of_pred (isTag_bytes h) (by decide)

theorem isTag_no_slash {t : Bytes} (h : isTag t = true) : ∀ c ∈ t, c ≠ cSlash :=
  all_ne_of_pred (isTag_bytes h) (by decide)

theorem encodedLen_some {alg : Bytes} {n : Nat} (h : encodedLen alg = some n) :
    alg = sha256 ∨ alg = sha384 ∨ alg = sha512 := by
  unfold encodedLen at h
  split at h
  · left; assumption
  · split at h
    · right; left; assumption
    · split at h
      · right; right; assumption
      · simp at h

theorem isDigest_ne_nil {d : Bytes} (h : isDigest d = true) : d ≠ [] := by
  rintro rfl; revert h; decide

theorem isDigest_shape {d : Bytes} (h : isDigest d = true) :
    ∃ alg enc, d = alg ++ cColon :: enc ∧ (alg = sha256 ∨ alg = sha384 ∨ alg = sha512) ∧
      ∀ c ∈ enc, isHexLower c = true := by
  unfold isDigest at h
  rcases span_ne_cases cColon d with ⟨_, _, hd⟩ | ⟨alg, enc, rfl, _, ht, hd⟩
  · simp [hd] at h
  · simp only [ht, hd] at h
    cases hl : encodedLen alg with
    | none => simp [hl] at h
    | some n =>
      simp only [hl, Bool.and_eq_true, List.all_eq_true] at h
      exact ⟨alg, enc, rfl, encodedLen_some hl, h.2⟩

theorem isDigest_bytes {d : Bytes} (h : isDigest d = true) :
    ∀ c ∈ d, (isAlnumLower c || c == cColon) = true := by
  obtain ⟨alg, enc, rfl, halg, henc⟩ := isDigest_shape h
  refine List.forall_mem_append.mpr ⟨?_, List.forall_mem_cons.mpr ⟨by decide, fun c hc => ?_⟩⟩
  · rcases halg with rfl | rfl | rfl <;> decide
  · have h := henc c hc
    simp only [isHexLower, isAlnumLower, isLower, Bool.or_eq_true, Bool.and_eq_true,
      decide_eq_true_eq] at h ⊢
    exact Or.inl (h.symm.imp_left fun h => ⟨h.1, UInt8.le_trans h.2 (by decide)⟩)

theorem isDigest_no_nl {d : Bytes} (h : isDigest d = true) : ∀ c ∈ d, c ≠ cNL :=
  all_ne_of_pred (isDigest_bytes h) (by decide)

theorem isDigest_no_slash {d : Bytes} (h : isDigest d = true) : ∀ c ∈ d, c ≠ cSlash :=
  all_ne_of_pred (isDigest_bytes h) (by decide)

/-! ### `parseRest` -/

/-- `parseRest` succeeds exactly on `repo[:tag][@digest]` with a valid repository, no `@` in the
tag and no newline in the digest; an absent tag or digest is returned as `[]`. -/
theorem parseRest_eq_some_iff {s p t d : Bytes} :
    parseRest s = some (p, t, d) ↔
      isRepo p = true ∧ (∀ c ∈ t, c ≠ cAt) ∧ (∀ c ∈ d, c ≠ cNL) ∧
      s = p ++ (if t ≠ [] then cColon :: t else []) ++ (if d ≠ [] then cAt :: d else []) := by
  constructor
  · intro h
    unfold parseRest at h
    rcases span_cases (fun c => c != cColon && c != cAt) s with
      ⟨_, ht, hd⟩ | ⟨a, x, b, rfl, _, hx, ht, hd⟩
    · simp only [ht, hd, Option.ite_none_left_eq_some, Option.some.injEq, Prod.mk.injEq] at h
      obtain ⟨hrep, rfl, rfl, rfl⟩ := h
      exact ⟨by simpa using hrep, by simp, by simp, by simp⟩
    · simp only [ht, hd, Option.ite_none_left_eq_some] at h
      obtain ⟨hrep, h⟩ := h
      have hrep : isRepo a = true := by simpa using hrep
      by_cases hxa : x = cAt
      · subst hxa
        simp only [beq_self_eq_true, if_true, Option.ite_none_right_eq_some, Option.some.injEq,
          Prod.mk.injEq, Bool.and_eq_true, bne_iff_ne, ne_eq, List.all_eq_true] at h
        obtain ⟨⟨hne, hnl⟩, rfl, rfl, rfl⟩ := h
        exact ⟨hrep, by simp, hnl, by simp [hne]⟩
      · have hxc : x = cColon := by simpa [hxa] using hx
        subst hxc
        rcases span_ne_cases cAt b with ⟨htag, ht2, hd2⟩ | ⟨tag, dd, rfl, htag, ht2, hd2⟩
        · simp only [ht2, hd2, beq_iff_eq, hxa, if_false, Option.ite_none_right_eq_some,
            Option.some.injEq, Prod.mk.injEq, bne_iff_ne, ne_eq] at h
          obtain ⟨hne, rfl, rfl, rfl⟩ := h
          exact ⟨hrep, fun c hc e => htag (e ▸ hc), by simp, by simp [hne]⟩
        · simp only [ht2, hd2, beq_iff_eq, hxa, if_false, Option.ite_none_right_eq_some,
            Option.some.injEq, Prod.mk.injEq, bne_iff_ne, ne_eq, Bool.and_eq_true,
            List.all_eq_true] at h
          obtain ⟨⟨hne, hne', hnl⟩, rfl, rfl, rfl⟩ := h
          exact ⟨hrep, fun c hc e => htag (e ▸ hc), hnl, by simp [hne, hne']⟩
  · rintro ⟨hp, ht, hd, rfl⟩
    have hpP : ∀ c ∈ p, (c != cColon && c != cAt) = true := fun c hc => by
      simpa using isRepo_noColAt hp c hc
    have htP : ∀ c ∈ t, (c != cAt) = true := fun c hc => by simpa using ht c hc
    have hdP : d.all (· != cNL) = true := by simpa using hd
    have hcol : (cColon != cColon && cColon != cAt) = false := by decide
    have hat : (cAt != cColon && cAt != cAt) = false := by decide
    have hat' : (cAt != cAt) = false := by decide
    have hca : (cColon == cAt) = false := by decide
    by_cases ht0 : t = [] <;> by_cases hd0 : d = []
    · -- `p`: no separator at all
      subst ht0 hd0
      simp [parseRest, takeWhile_all _ hpP, dropWhile_all _ hpP, hp]
    · -- `p@d`: the first separator is `@`
      subst ht0
      simp [parseRest, hd0, takeWhile_append_cons _ hpP hat, dropWhile_append_cons _ hpP hat, hp, hdP]
    · -- `p:t`: the first separator is `:`, and `t` has no `@`
      subst hd0
      simp [parseRest, ht0, takeWhile_append_cons _ hpP hcol, dropWhile_append_cons _ hpP hcol, hp,
        takeWhile_all _ htP, dropWhile_all _ htP, hca]
    · -- `p:t@d`: first `:`, then the first `@` ends the tag
      simp [parseRest, ht0, hd0, takeWhile_append_cons _ hpP hcol, dropWhile_append_cons _ hpP hcol, hp,
        takeWhile_append_cons _ htP hat', dropWhile_append_cons _ htP hat', hca, hdP]

theorem parseRest_print {p t d : Bytes} (hp : isRepo p = true)
    (ht : t = [] ∨ isTag t = true) (hd : d = [] ∨ isDigest d = true) :
    parseRest (p ++ (if t ≠ [] then cColon :: t else []) ++
      (if d ≠ [] then cAt :: d else [])) = some (p, t, d) := by
  refine parseRest_eq_some_iff.mpr ⟨hp, ?_, ?_, rfl⟩
  · rcases ht with rfl | ht
    · simp
    · exact isTag_no_at ht
  · rcases hd with rfl | hd
    · simp
    · exact isDigest_no_nl hd

/-! ### `matchRef`, `parseRelative`, `parse` -/

theorem print_nohost (p t d : Bytes) :
    print ⟨[], p, t, d⟩ =
      p ++ (if t ≠ [] then cColon :: t else []) ++ (if d ≠ [] then cAt :: d else []) := by
  simp [print]

theorem print_host {h : Bytes} (hh : h ≠ []) (p t d : Bytes) :
    print ⟨h, p, t, d⟩ =
      h ++ cSlash :: (p ++ (if t ≠ [] then cColon :: t else []) ++
        (if d ≠ [] then cAt :: d else [])) := by
  simp [print, hh]

theorem matchRef_cases {s : Bytes} {r : Reference} (h : matchRef s = some r) :
    (r.host = [] ∧ parseRest s = some (r.repo, r.tag, r.digest)) ∨
    (isHost r.host = true ∧ ∃ rest, s = r.host ++ cSlash :: rest ∧
      parseRest rest = some (r.repo, r.tag, r.digest)) := by
  have fallback : (parseRest s).map (fun x => (⟨[], x.1, x.2.1, x.2.2⟩ : Reference)) = some r →
      r.host = [] ∧ parseRest s = some (r.repo, r.tag, r.digest) := by
    intro h
    obtain ⟨_, hp, rfl⟩ := Option.map_eq_some_iff.mp h
    exact ⟨rfl, hp⟩
  unfold matchRef at h
  rcases span_ne_cases cSlash s with ⟨_, _, hd⟩ | ⟨first, rest, e, _, ht, hd⟩
  · simp only [hd] at h
    exact Or.inl (fallback h)
  · simp only [ht, hd] at h
    split at h
    · rename_i r' hw
      cases h
      split at hw
      · rename_i hh
        obtain ⟨_, hp, rfl⟩ := Option.map_eq_some_iff.mp hw
        exact Or.inr ⟨hh, rest, e, hp⟩
      · cases hw
    · exact Or.inl (fallback h)

theorem matchRef_some {s : Bytes} {r : Reference} (h : matchRef s = some r) :
    (r.host = [] ∨ isHost r.host = true) ∧ isRepo r.repo = true ∧ (∀ c ∈ r.tag, c ≠ cAt) ∧
      (∀ c ∈ r.digest, c ≠ cNL) ∧ print r = s := by
  rcases matchRef_cases h with ⟨hh, hp⟩ | ⟨hh, rest, rfl, hp⟩
  · obtain ⟨hrepo, ht, hd, rfl⟩ := parseRest_eq_some_iff.mp hp
    exact ⟨Or.inl hh, hrepo, ht, hd, by simp [print, hh]⟩
  · obtain ⟨hrepo, ht, hd, rfl⟩ := parseRest_eq_some_iff.mp hp
    exact ⟨Or.inr hh, hrepo, ht, hd, by simp [print, isHost_ne_nil hh]⟩

theorem parseRelative_eq_some_iff {s : Bytes} {r : Reference} :
    parseRelative s = some r ↔
      matchRef s = some r ∧ (r.digest = [] ∨ isDigest r.digest = true) ∧
        (r.tag = [] ∨ isTag r.tag = true) ∧ r.repo.length ≤ 255 := by
  unfold parseRelative
  cases hm : matchRef s with
  | none => simp
  | some r' =>
    have hb : ∀ (l : Bytes) (b : Bool), ¬(decide (l ≠ []) && !b) = true ↔ l = [] ∨ b = true := by
      intro l b; by_cases h : l = [] <;> simp [h]
    simp only [Option.ite_none_left_eq_some, Option.some.injEq, hb, gt_iff_lt, Nat.not_lt]
    constructor
    · rintro ⟨h1, h2, h3, rfl⟩; exact ⟨rfl, h1, h2, h3⟩
    · rintro ⟨rfl, h1, h2, h3⟩; exact ⟨h1, h2, h3, rfl⟩

theorem parse_eq_some_iff {s : Bytes} {r : Reference} :
    parse s = some r ↔ r.host ≠ [] ∧ parseRelative s = some r := by
  unfold parse
  cases hp : parseRelative s with
  | none => simp
  | some r' =>
    simp only [Option.ite_none_left_eq_some, Option.some.injEq]
    constructor
    · rintro ⟨h, rfl⟩; exact ⟨h, rfl⟩
    · rintro ⟨h, rfl⟩; exact ⟨h, rfl⟩

/-! ### Parsing a printed reference -/

theorem matchRef_host {h rest p t d : Bytes} (hh : isHost h = true)
    (hr : parseRest rest = some (p, t, d)) :
    matchRef (h ++ cSlash :: rest) = some ⟨h, p, t, d⟩ := by
  have hP : ∀ c ∈ h, (c != cSlash) = true := by
    intro c hc; simpa using isHost_no_slash hh c hc
  have hs : (cSlash != cSlash) = false := by decide
  simp only [matchRef, takeWhile_append_cons _ hP hs, dropWhile_append_cons _ hP hs, hh, hr]
  simp

theorem matchRef_of_not_host {s : Bytes}
    (hno : s.dropWhile (· != cSlash) = [] ∨ isHost (s.takeWhile (· != cSlash)) = false) :
    matchRef s = (parseRest s).map fun (p, t, d) => ⟨[], p, t, d⟩ := by
  unfold matchRef
  rcases hno with h | h
  · simp only [h]
  · simp only [h, Bool.false_eq_true, if_false]
    cases s.dropWhile (· != cSlash) <;> rfl

/-- A printed host-less reference is matched as it was printed, provided the first `/`-segment of
the repository is not itself a valid host; otherwise the greedy host group takes that segment
(`Props.C17.nohost_roundtrip_counterexample`). -/
theorem matchRef_nohost {p t d : Bytes} (hp : isRepo p = true)
    (ht : t = [] ∨ isTag t = true) (hd : d = [] ∨ isDigest d = true)
    (hno : isHost (p.takeWhile (fun c => c != cSlash)) = false) :
    matchRef (print ⟨[], p, t, d⟩) = some ⟨[], p, t, d⟩ := by
  -- the printed string has no `/` at all, or its first `/`-segment is that of `p`
  have hside : (print ⟨[], p, t, d⟩).dropWhile (· != cSlash) = [] ∨
      isHost ((print ⟨[], p, t, d⟩).takeWhile (· != cSlash)) = false := by
    rw [print_nohost, List.append_assoc]
    rcases span_cases (· != cSlash) p with ⟨hall, _, _⟩ | ⟨a, x, b, rfl, ha, hx, ht', _⟩
    · left
      have opt : ∀ (x : UInt8) (l : Bytes), x ≠ cSlash → (l ≠ [] → ∀ c ∈ l, c ≠ cSlash) →
          ∀ c ∈ (if l ≠ [] then x :: l else []), (c != cSlash) = true := by
        intro x l hx hl c hc
        split at hc
        · rename_i hne
          rcases List.mem_cons.mp hc with rfl | hc
          · simpa using hx
          · simpa using hl hne c hc
        · cases hc
      apply dropWhile_all
      simp only [List.forall_mem_append]
      exact ⟨hall, opt _ _ (by decide) fun hne => isTag_no_slash (ht.resolve_left hne),
        opt _ _ (by decide) fun hne => isDigest_no_slash (hd.resolve_left hne)⟩
    · right
      rw [ht'] at hno
      rw [List.append_assoc, List.cons_append, takeWhile_append_cons _ ha hx]
      exact hno
  rw [matchRef_of_not_host hside, print_nohost, parseRest_print hp ht hd]; rfl

end OciModel.Ref
