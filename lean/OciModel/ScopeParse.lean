/-
Print/parse round trip of the `ociauth.Scope` model: `fields` (`strings.Fields`) and `splitOn`
(`strings.Split`) on texts made of clean words, the words `renderGo` (`Scope.String`) writes
(`rgroups`), and `parseField` on one such word.
-/
import OciModel.ScopeLemmas
import OciModel.RefLemmas

namespace OciModel.Scope

/-- Bytes that cannot start a Unicode white-space rune. -/
def NSB (c : UInt8) : Prop :=
  c ≠ 9 ∧ c ≠ 10 ∧ c ≠ 11 ∧ c ≠ 12 ∧ c ≠ 13 ∧ c ≠ 32 ∧ c ≠ 0xC2 ∧ c ≠ 0xE1 ∧ c ≠ 0xE2 ∧ c ≠ 0xE3

theorem spaceWidth_of_nsb {c : UInt8} (h : NSB c) (rest : Bytes) : spaceWidth (c :: rest) = 0 := by
  obtain ⟨h1, h2, h3, h4, h5, h6, h7, h8, h9, h10⟩ := h
  unfold spaceWidth
  split
  -- no pattern but the last starts with a byte that `h` allows
  all_goals try rfl
  all_goals
    rename_i heq
    exact absurd (List.cons.inj heq).1 (by assumption)

/-- `fields` starts with the length of the text as fuel, and a byte that is not white space, or
the space `32`, uses up one unit of it: the fuel stays the length of what is left. -/
theorem fieldsAux_word (w rest cur : Bytes) (hw : ∀ c ∈ w, NSB c) :
    fieldsAux (w ++ rest).length (w ++ rest) cur =
      fieldsAux rest.length rest (w.reverse ++ cur) := by
  induction w generalizing cur with
  | nil => rfl
  | cons c w ih =>
    rw [List.forall_mem_cons] at hw
    simp only [List.cons_append, List.length_cons, fieldsAux, spaceWidth_of_nsb hw.1, if_true,
      ih _ hw.2, List.reverse_cons, List.append_assoc, List.cons_append, List.nil_append]

theorem fieldsAux_space (rest cur : Bytes) (fuel : Nat) :
    fieldsAux (fuel + 1) (32 :: rest) cur =
      (if cur = [] then [] else [cur.reverse]) ++ fieldsAux fuel rest [] := rfl

theorem fieldsAux_nil (cur : Bytes) (fuel : Nat) :
    fieldsAux fuel [] cur = if cur = [] then [] else [cur.reverse] := by
  cases fuel <;> simp [fieldsAux]

theorem fieldsAux_words (fs : List Bytes) (cur : Bytes)
    (hfs : ∀ f ∈ fs, f ≠ [] ∧ ∀ c ∈ f, NSB c) :
    fieldsAux (fs.flatMap (32 :: ·)).length (fs.flatMap (32 :: ·)) cur =
      (if cur = [] then [] else [cur.reverse]) ++ fs := by
  induction fs generalizing cur with
  | nil => simp [fieldsAux_nil]
  | cons f fs ih =>
    rw [List.forall_mem_cons] at hfs
    rw [List.flatMap_cons, List.cons_append, List.length_cons, fieldsAux_space,
      fieldsAux_word f _ [] hfs.1.2, ih _ hfs.2]
    simp [hfs.1.1]

theorem fields_words (f0 : Bytes) (fs : List Bytes) (h0 : f0 ≠ [] ∧ ∀ c ∈ f0, NSB c)
    (hfs : ∀ f ∈ fs, f ≠ [] ∧ ∀ c ∈ f, NSB c) :
    fields (f0 ++ fs.flatMap (32 :: ·)) = f0 :: fs := by
  unfold fields
  rw [fieldsAux_word f0 _ [] h0.2, fieldsAux_words fs _ hfs]
  simp [h0.1]

/-- The same function as `Ref.splitOn`, whose lemmas serve here. -/
theorem splitOn_eq_ref : splitOn = Ref.splitOn := by
  funext sep w
  induction w with
  | nil => rfl
  | cons b w ih =>
    rw [splitOn, Ref.splitOn, ih]
    cases Ref.splitOn sep w <;> rfl

theorem splitOn_word {sep : UInt8} {w : Bytes} (h : sep ∉ w) : splitOn sep w = [w] :=
  splitOn_eq_ref ▸ Ref.splitOn_of_not_mem h

theorem splitOn_word_sep {sep : UInt8} {w : Bytes} (h : sep ∉ w) (rest : Bytes) :
    splitOn sep (w ++ sep :: rest) = w :: splitOn sep rest :=
  splitOn_eq_ref ▸ Ref.splitOn_append_cons rest h

theorem splitOn_joined {sep : UInt8} (a : Bytes) (acts : List Bytes) (ha : sep ∉ a)
    (hacts : ∀ b ∈ acts, sep ∉ b) :
    splitOn sep (a ++ acts.flatMap (sep :: ·)) = a :: acts := by
  induction acts generalizing a with
  | nil => simp [splitOn_word ha]
  | cons b acts ih =>
    simp only [List.flatMap_cons, List.cons_append]
    rw [splitOn_word_sep ha, ih b (hacts b List.mem_cons_self)
      (fun b' h => hacts b' (List.mem_cons_of_mem _ h))]

/-- A byte that is neither (the first byte of) white space nor `:` nor `,`. -/
def CleanByte (c : UInt8) : Prop :=
  c ∉ ([9, 10, 11, 12, 13, 32, 58, 44, 0xC2, 0xE1, 0xE2, 0xE3] : List UInt8)

instance : DecidablePred CleanByte := fun c => by unfold CleanByte; infer_instance

/-- A non-empty byte string of clean bytes. -/
def CleanField (b : Bytes) : Prop := b ≠ [] ∧ ∀ c ∈ b, CleanByte c

instance : DecidablePred CleanField := fun b => by unfold CleanField; infer_instance

/-- A three-part scope with clean parts, or an opaque one-word scope. -/
def CleanRS (r : RS) : Prop :=
  (CleanField r.1 ∧ CleanField r.2.1 ∧ CleanField r.2.2) ∨ (CleanField r.1 ∧ r.2.1 = [] ∧ r.2.2 = [])

instance : DecidablePred CleanRS := fun r => by unfold CleanRS; infer_instance

theorem CleanByte.spec {c : UInt8} (h : CleanByte c) : NSB c ∧ c ≠ 58 ∧ c ≠ 44 := by
  simp only [CleanByte, List.mem_cons, List.not_mem_nil, or_false, not_or] at h
  obtain ⟨h1, h2, h3, h4, h5, h6, h7, h8, h9, h10, h11, h12⟩ := h
  exact ⟨⟨h1, h2, h3, h4, h5, h6, h9, h10, h11, h12⟩, h7, h8⟩

theorem CleanField.no_colon {b : Bytes} (h : CleanField b) : (58 : UInt8) ∉ b :=
  fun hm => (h.2 _ hm).spec.2.1 rfl

theorem CleanField.no_comma {b : Bytes} (h : CleanField b) : (44 : UInt8) ∉ b :=
  fun hm => (h.2 _ hm).spec.2.2 rfl

theorem CleanRS.fst {r : RS} (h : CleanRS r) : CleanField r.1 := by
  rcases h with h | h <;> exact h.1

theorem CleanRS.bytes {r : RS} (h : CleanRS r) :
    (∀ c ∈ r.1, CleanByte c) ∧ (∀ c ∈ r.2.1, CleanByte c) ∧ (∀ c ∈ r.2.2, CleanByte c) := by
  rcases h with h | h
  · exact ⟨h.1.2, h.2.1.2, h.2.2.2⟩
  · exact ⟨h.1.2, h.2.1 ▸ nofun, h.2.2 ▸ nofun⟩

/-- `Scope.String` appends `,action` instead of starting a new word. -/
def mergeCond (prev s : RS) : Bool :=
  s.1 = tyRepository && prev.1 = tyRepository && s.2.1 = prev.2.1

/-- The text of one scope when it starts a word. -/
def body (s : RS) : Bytes :=
  s.1 ++ (if s.2.1 ≠ [] || s.2.2 ≠ [] then (58 :: s.2.1) ++ (58 :: s.2.2) else [])

/-- Split the iterated items into the actions continuing `prev`'s word and the
following words, each a head scope with further actions. -/
def rgroups : RS → List RS → List Bytes × List (RS × List Bytes)
  | _, [] => ([], [])
  | prev, s :: rest =>
    if mergeCond prev s then (s.2.2 :: (rgroups s rest).1, (rgroups s rest).2)
    else ([], (s, (rgroups s rest).1) :: (rgroups s rest).2)

def gstr (g : RS × List Bytes) : Bytes := body g.1 ++ g.2.flatMap (44 :: ·)

def gelems (g : RS × List Bytes) : List RS := g.1 :: g.2.map (fun a => (g.1.1, g.1.2.1, a))

theorem renderGo_true (prev : RS) (xs : List RS) :
    renderGo prev true xs =
      (rgroups prev xs).1.flatMap (44 :: ·) ++ (rgroups prev xs).2.flatMap (fun g => 32 :: gstr g) := by
  induction xs generalizing prev with
  | nil => simp [renderGo, rgroups]
  | cons s rest ih =>
    by_cases h : mergeCond prev s = true
    · have h' := h
      unfold mergeCond at h'
      simp only [renderGo, rgroups, h, h', if_true, ih s]
      simp
    · have h' := h
      unfold mergeCond at h'
      simp only [renderGo, rgroups, h, h', Bool.true_or, ih s]
      simp [gstr, body]

theorem renderGo_start (s : RS) (rest : List RS) (hs : s.1 ≠ []) :
    renderGo ([], [], []) false (s :: rest) = body s ++ renderGo s true rest := by
  have h1 : ¬ (([] : Bytes) = tyRepository) := by decide
  rw [renderGo, if_neg (by simp [h1])]
  simp [body, hs]

theorem rgroups_eq (prev : RS) (xs : List RS) :
    xs = (rgroups prev xs).1.map (fun a => (prev.1, prev.2.1, a)) ++
      (rgroups prev xs).2.flatMap gelems := by
  induction xs generalizing prev with
  | nil => rfl
  | cons s rest ih =>
    rw [rgroups]
    split
    · rename_i h
      simp only [mergeCond, Bool.and_eq_true, decide_eq_true_eq] at h
      rw [h.1.2.trans h.1.1.symm, ← h.2]
      exact congrArg (s :: ·) (ih s)
    · exact congrArg (s :: ·) (ih s)

theorem full_of_mergeCond {prev s : RS} (hp : CleanRS prev) (hs : CleanRS s)
    (hne : prev ≠ s) (h : mergeCond prev s = true) :
    CleanField prev.2.2 ∧ CleanField s.2.2 := by
  simp only [mergeCond, Bool.and_eq_true, decide_eq_true_eq] at h
  obtain ⟨⟨h1, h2⟩, h3⟩ := h
  rcases hp with hp | hp <;> rcases hs with hs | hs
  · exact ⟨hp.2.2, hs.2.2⟩
  · exact absurd (h3.symm.trans hs.2.1) hp.2.1.1
  · exact absurd (h3.trans hp.2.1) hs.2.1.1
  · -- both are the one-word scope `repository`
    obtain ⟨t, r, a⟩ := prev
    obtain ⟨t', r', a'⟩ := s
    simp only at h1 h2 hp hs
    rw [h1, h2, hp.2.1, hp.2.2, hs.2.1, hs.2.2] at hne
    exact absurd rfl hne

structure GInv (prev : RS) (p : List Bytes × List (RS × List Bytes)) : Prop where
  cont_clean : ∀ a ∈ p.1, CleanField a
  cont_full : p.1 ≠ [] → prev.2.2 ≠ []
  groups : ∀ g ∈ p.2, CleanRS g.1 ∧ (∀ a ∈ g.2, CleanField a) ∧ (g.2 ≠ [] → g.1.2.2 ≠ [])

theorem rgroups_inv (prev : RS) (xs : List RS) (hclean : ∀ x ∈ prev :: xs, CleanRS x)
    (hasc : Asc (prev :: xs)) : GInv prev (rgroups prev xs) := by
  induction xs generalizing prev with
  | nil => exact ⟨nofun, fun h => absurd rfl h, nofun⟩
  | cons s rest ih =>
    have hasc := List.pairwise_cons.mp hasc
    rw [List.forall_mem_cons] at hclean
    have ih' := ih s hclean.2 hasc.2
    rw [rgroups]
    split
    · obtain ⟨f1, f2⟩ := full_of_mergeCond hclean.1 (hclean.2 s List.mem_cons_self)
        (lt_ne' (hasc.1 s List.mem_cons_self)) ‹_›
      exact ⟨List.forall_mem_cons.mpr ⟨f2, ih'.cont_clean⟩, fun _ => f1.1, ih'.groups⟩
    · exact ⟨nofun, fun h => absurd rfl h, List.forall_mem_cons.mpr
        ⟨⟨hclean.2 s List.mem_cons_self, ih'.cont_clean, ih'.cont_full⟩, ih'.groups⟩⟩

theorem no_colon_tail (a : Bytes) (acts : List Bytes) (ha : CleanField a)
    (hacts : ∀ b ∈ acts, CleanField b) : (58 : UInt8) ∉ a ++ acts.flatMap (44 :: ·) := by
  intro hm
  rcases List.mem_append.mp hm with hm | hm
  · exact ha.no_colon hm
  · obtain ⟨b, hb, hm⟩ := List.mem_flatMap.mp hm
    rcases List.mem_cons.mp hm with e | hm
    · cases e
    · exact (hacts b hb).no_colon hm

theorem parseField_gstr (g : RS × List Bytes) (hc : CleanRS g.1)
    (hacts : ∀ a ∈ g.2, CleanField a) (hop : g.2 ≠ [] → g.1.2.2 ≠ []) :
    parseField (gstr g) = gelems g := by
  obtain ⟨⟨t, r, a⟩, acts⟩ := g
  unfold parseField
  rcases hc with ⟨ht, hr, ha⟩ | ⟨ht, hr, ha⟩
  · have hstr : gstr ((t, r, a), acts) = t ++ 58 :: (r ++ 58 :: (a ++ acts.flatMap (44 :: ·))) := by
      simp [gstr, body, hr.1]
    rw [hstr, splitOn_word_sep ht.no_colon, splitOn_word_sep hr.no_colon,
      splitOn_word (no_colon_tail a acts ha hacts)]
    simp only
    rw [splitOn_joined a acts ha.no_comma (fun b hb => (hacts b hb).no_comma)]
    rfl
  · simp only at ht hr ha hop
    subst hr; subst ha
    obtain rfl : acts = [] := by
      cases acts with
      | nil => rfl
      | cons b bs => exact absurd rfl (hop (List.cons_ne_nil b bs))
    have hstr : gstr ((t, [], []), []) = t := by simp [gstr, body]
    rw [hstr, splitOn_word ht.no_colon]
    rfl

theorem gstr_word (g : RS × List Bytes) (hc : CleanRS g.1) (hacts : ∀ a ∈ g.2, CleanField a) :
    gstr g ≠ [] ∧ ∀ c ∈ gstr g, NSB c := by
  have hcolon : NSB 58 := by unfold NSB; decide
  have hcomma : NSB 44 := by unfold NSB; decide
  obtain ⟨b1, b2, b3⟩ := hc.bytes
  refine ⟨by simp [gstr, body, hc.fst.1], fun c hm => ?_⟩
  simp only [gstr, body, List.mem_append, List.mem_flatMap, List.mem_cons] at hm
  rcases hm with (hm | hm) | ⟨b, hb, rfl | hm⟩
  · exact (b1 c hm).spec.1
  · split at hm
    · simp only [List.cons_append, List.mem_cons, List.mem_append] at hm
      rcases hm with rfl | hm | rfl | hm
      · exact hcolon
      · exact (b2 c hm).spec.1
      · exact hcolon
      · exact (b3 c hm).spec.1
    · cases hm
  · exact hcomma
  · exact ((hacts b hb).2 c hm).spec.1

theorem parse_render (xs : List RS) (hclean : ∀ x ∈ xs, CleanRS x) (hasc : Asc xs) :
    (fields (renderGo ([], [], []) false xs)).flatMap parseField = xs := by
  cases xs with
  | nil => rfl
  | cons s rest =>
    have hs := hclean s List.mem_cons_self
    have inv := rgroups_inv s rest hclean hasc
    have hall : ∀ g ∈ (s, (rgroups s rest).1) :: (rgroups s rest).2,
        CleanRS g.1 ∧ (∀ a ∈ g.2, CleanField a) ∧ (g.2 ≠ [] → g.1.2.2 ≠ []) :=
      List.forall_mem_cons.mpr ⟨⟨hs, inv.cont_clean, inv.cont_full⟩, inv.groups⟩
    have hstr : renderGo ([], [], []) false (s :: rest) =
        gstr (s, (rgroups s rest).1) ++ ((rgroups s rest).2.map gstr).flatMap (32 :: ·) := by
      rw [renderGo_start s rest hs.fst.1, renderGo_true]
      simp [gstr, List.flatMap_map]
    rw [hstr, fields_words _ _ (gstr_word _ hs inv.cont_clean), ← List.map_cons (f := gstr),
      List.flatMap_map, List.flatMap_def, List.map_congr_left fun g hg =>
        parseField_gstr g (hall g hg).1 (hall g hg).2.1 (hall g hg).2.2]
    · exact (congrArg (s :: ·) (rgroups_eq s rest)).symm
    · intro f hf
      obtain ⟨g, hg, rfl⟩ := List.mem_map.mp hf
      exact gstr_word g (inv.groups g hg).1 (inv.groups g hg).2.1

theorem toStr_eq_renderGo {s : Scope} (hl : s.unlimited = false) (ho : s.original = []) :
    toStr s = renderGo ([], [], []) false (iter s) := by
  unfold toStr
  rw [hl, ho]
  simp only [Bool.false_eq_true, if_false, ne_eq, not_true_eq_false, decide_false, Bool.false_or]
  split
  · rename_i hemp
    obtain ⟨h1, h2, _⟩ := (isEmpty_iff s).mp hemp
    simp [iter, hl, h1, h2, expand, mergeIter, renderGo]
  · rfl

/-- Both sides are well formed, so `Equal` compares what they stand for (`equal_iff`): the text
parses back to the items it renders. -/
theorem print_parse (l : List RS) (h : ∀ r ∈ l, CleanRS r) :
    equal (parseScope (toStr (newScope l))) (newScope l) = true := by
  refine (equal_iff _ _ (parseScope_wf _) (newScope_wf l)).mpr
    ⟨(parseScope_unlimited _).trans (newScope_unlimited l).symm, fun r => ?_⟩
  refine (mem_parseScope r _).trans (List.mem_flatMap.symm.trans ?_)
  rw [toStr_eq_renderGo (newScope_unlimited l) (by rw [newScope_eq]),
    parse_render _ (fun y hy => h y ((mem_newScope y l).mp hy)) (iter_pairwise (newScope_wf l))]
  exact Iff.rfl

end OciModel.Scope
