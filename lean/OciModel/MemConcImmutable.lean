/-
Immutable-tags mode (C14) over the interleaving model `MemConc`: what ONE atomic step — a
registry operation, or either half of a chunked commit — does to a repository, in the vocabulary
of `MemImmutable` (`RepoStep` / `Eff`).

* `astep (.op o)` is `Mem.step`, so `step_eff` applies;
* `commitCheck` only rewrites the upload buffers of one repository (and the snapshots);
* `commitStore` only INSERTS a blob into one repository (`ainsert`).
Hence a half of a commit never touches tags or manifests (`commit_frame`, no hypothesis on `H` or the snapshots),
and — once every pending snapshot hashes to its digest (`SnapsOk`, true of the empty snapshot
list and preserved: `snapsOk_astep`) — every atomic step is an `Eff` (`astep_eff`), so everything
`MemImmutable` derives from `Eff` holds along every schedule.

This file cannot import `MemConcLemmas` (it sits on `MemLemmas`, whose names clash with those of
`MemImmutable`); what the two share about snapshots and the halves of a commit is in `MemConcStep`.
`H` stays a parameter; nothing is assumed about it.
-/
import OciModel.MemConcStep
import OciModel.MemImmutable

namespace OciModel.MemConcImm
open OciModel OciModel.Mem OciModel.MemConc

section
variable (H : Bytes → Bytes)

/-! ### `astep` / `arun` in closed form -/

theorem astep_op_st (c : CState) (o : Op) : (astep H c (.op o)).1.st = (step H c.st o).1 := rfl

theorem astep_op_out (c : CState) (o : Op) : (astep H c (.op o)).2 = (step H c.st o).2 := rfl

theorem astep_op_snaps (c : CState) (o : Op) : (astep H c (.op o)).1.snaps = c.snaps := rfl

theorem arun_nil (c : CState) : arun H c [] = c := rfl

/-! ### What a half of a chunked commit does -/

/-- The atomic step is a half of a chunked commit (not a registry operation): `MemConc.IsCommitOf r id`
(`MemConcLemmas`) for some session `(r, id)`, and then also `MemConc.TakesCommitMu r id`. -/
def IsCommitHalf : AStep → Prop
  | .op _ => False
  | _ => True

/-- A half of a commit leaves the registry state alone, or rewrites the upload buffers of one
existing repository (`commitCheck`), or inserts the pending snapshot of the session as a blob into
one existing repository (`commitStore`). -/
theorem commit_cases (c : CState) (a : AStep) (ha : IsCommitHalf a) :
    (astep H c a).1.st = c.st ∨
    (∃ r rp ups, getRepo c.st r = some rp ∧
      (astep H c a).1.st = putRepo c.st r { rp with uploads := ups }) ∨
    (∃ r id rp dig data, getRepo c.st r = some rp ∧ lookupSnap (r, id) c.snaps = some (dig, data) ∧
      (astep H c a).1.st =
        putRepo c.st r { rp with blobs := ainsert dig ⟨octetStream, data, [], []⟩ rp.blobs }) := by
  cases a with
  | op o => exact absurd ha id
  | commitCheck r id dig =>
    rcases commitCheck_spec H c r id dig with ⟨_, e⟩ | ⟨_, _, _, _, _, e⟩ | ⟨rp, b, hb, _, _, e⟩ | ⟨rp, b, hb, _, _, e⟩
    · rw [e]; exact .inl rfl
    · rw [e]; exact .inl rfl
    · rw [e]; exact .inr (.inl ⟨r, rp, _, (getBuffer_spec hb).1, rfl⟩)
    · rw [e]; exact .inr (.inl ⟨r, rp, _, (getBuffer_spec hb).1, rfl⟩)
  | commitStore r id =>
    rcases commitStore_spec H c r id with ⟨_, e⟩ | ⟨_, _, _, _, e⟩ | ⟨dig, data, rp, hl, hg, e⟩
    · rw [e]; exact .inl rfl
    · rw [e]; exact .inl rfl
    · rw [e]; exact .inr (.inr ⟨r, id, rp, dig, data, hg, hl, rfl⟩)

/-- **Frame of a commit half**, whatever `H` and the snapshots are: every repository is still there, with the
same tags and the same manifests, and every blob key it had is still bound. -/
theorem commit_frame (c : CState) (a : AStep) (ha : IsCommitHalf a) {r : Bytes} {rp : Repo}
    (hg : getRepo c.st r = some rp) :
    ∃ rp', getRepo (astep H c a).1.st r = some rp' ∧ rp'.tags = rp.tags ∧ rp'.manifests = rp.manifests ∧
      ∀ k b, alookup k rp.blobs = some b → ∃ b', alookup k rp'.blobs = some b' := by
  rcases commit_cases H c a ha with h | ⟨r0, rp0, ups, hg0, h⟩ | ⟨r0, id, rp0, dig, data, hg0, _, h⟩
  · rw [h]; exact ⟨rp, hg, rfl, rfl, fun k b hb => ⟨b, hb⟩⟩
  · rw [h]
    by_cases e : r = r0
    · subst e
      rw [hg] at hg0; cases hg0
      exact ⟨_, getRepo_putRepo_eq _ _ _, rfl, rfl, fun k b hb => ⟨b, hb⟩⟩
    · exact ⟨rp, (getRepo_putRepo_ne _ (Ne.symm e) _).trans hg, rfl, rfl, fun k b hb => ⟨b, hb⟩⟩
  · rw [h]
    by_cases e : r = r0
    · subst e
      rw [hg] at hg0; cases hg0
      refine ⟨_, getRepo_putRepo_eq _ _ _, rfl, rfl, fun k b hb => ?_⟩
      simp only [alookup_ainsert]
      split
      · exact ⟨_, rfl⟩
      · exact ⟨b, hb⟩
    · exact ⟨rp, (getRepo_putRepo_ne _ (Ne.symm e) _).trans hg, rfl, rfl, fun k b hb => ⟨b, hb⟩⟩

/-! ### The mode -/

theorem astep_immutable (c : CState) (a : AStep) :
    (astep H c a).1.st.immutableTags = c.st.immutableTags := by
  cases a with
  | op o => exact immutable_preserved H c.st o
  | commitCheck r id dig =>
    rcases commit_cases H c (.commitCheck r id dig) trivial with h | ⟨_, _, _, _, h⟩ | ⟨_, _, _, _, _, _, _, h⟩ <;>
      rw [h] <;> rfl
  | commitStore r id =>
    rcases commit_cases H c (.commitStore r id) trivial with h | ⟨_, _, _, _, h⟩ | ⟨_, _, _, _, _, _, _, h⟩ <;>
      rw [h] <;> rfl

theorem arun_immutable (c : CState) (sched : List AStep) :
    (arun H c sched).st.immutableTags = c.st.immutableTags := by
  induction sched generalizing c with
  | nil => rfl
  | cons a rest ih => rw [arun_cons]; exact (ih _).trans (astep_immutable H c a)

/-! ### One atomic step in immutable mode: tag and tagged manifest (no hypothesis on `H` or the snapshots) -/

theorem astep_tag_stable {c : CState} (him : c.st.immutableTags = true) {r t : Bytes} {rp : Repo} {d : Desc}
    (hg : getRepo c.st r = some rp) (ht : alookup t rp.tags = some d) (a : AStep) :
    ∃ rp', getRepo (astep H c a).1.st r = some rp' ∧ alookup t rp'.tags = some d := by
  cases a with
  | op o => exact Eff.tag_stable H him (step_eff H c.st o) hg ht
  | commitCheck r0 id dig =>
    obtain ⟨rp', hg', htags, _, _⟩ := commit_frame H c (.commitCheck r0 id dig) trivial hg
    exact ⟨rp', hg', htags ▸ ht⟩
  | commitStore r0 id =>
    obtain ⟨rp', hg', htags, _, _⟩ := commit_frame H c (.commitStore r0 id) trivial hg
    exact ⟨rp', hg', htags ▸ ht⟩

theorem astep_tagged_manifest {c : CState} (him : c.st.immutableTags = true) {r t : Bytes} {rp : Repo}
    {d : Desc} {b : Blob} (hg : getRepo c.st r = some rp) (ht : alookup t rp.tags = some d)
    (hm : alookup d.digest rp.manifests = some b) (a : AStep) :
    ∃ rp' b', getRepo (astep H c a).1.st r = some rp' ∧ alookup t rp'.tags = some d ∧
      alookup d.digest rp'.manifests = some b' ∧
      b'.mediaType = b.mediaType ∧ (b' = b ∨ H b'.data = d.digest) := by
  cases a with
  | op o => exact Eff.tagged_manifest H him (step_eff H c.st o) hg ht hm
  | commitCheck r0 id dig =>
    obtain ⟨rp', hg', htags, hmans, _⟩ := commit_frame H c (.commitCheck r0 id dig) trivial hg
    exact ⟨rp', b, hg', htags ▸ ht, hmans ▸ hm, rfl, .inl rfl⟩
  | commitStore r0 id =>
    obtain ⟨rp', hg', htags, hmans, _⟩ := commit_frame H c (.commitStore r0 id) trivial hg
    exact ⟨rp', b, hg', htags ▸ ht, hmans ▸ hm, rfl, .inl rfl⟩

/-! ### Every atomic step is an `Eff` -/

/-- The registry operation whose `Eff` an atomic step is filed under: itself, and for the halves
of a commit an operation that is not a `pushManifest` (they store no manifest). -/
def opOf : AStep → Op
  | .op o => o
  | .commitCheck r id _ => .wSize r id
  | .commitStore r id => .wSize r id

/-- With every pending snapshot hashing to its digest, an atomic step changes every repository by
one `RepoStep` or not at all: `commitCheck` by `uploads`, `commitStore` by `insBlob`. -/
theorem astep_eff (c : CState) (a : AStep) (hsn : SnapsOk H c.snaps) :
    Eff H c.st (opOf a) (astep H c a).1.st := by
  have hhalf : ∀ a, IsCommitHalf a → Eff H c.st (opOf a) (astep H c a).1.st := by
    intro a ha
    rcases commit_cases H c a ha with h | ⟨r0, rp0, ups, hg0, h⟩ | ⟨r0, id, rp0, dig, data, hg0, hl, h⟩
    · rw [h]; exact Eff.refl H _ _
    · rw [h]; exact Eff.put H hg0 (RepoStep.uploads rp0 ups)
    · rw [h]
      exact Eff.put H hg0
        (RepoStep.insBlob rp0 dig ⟨octetStream, data, [], []⟩ rp0.uploads (fun _ => hsn (r0, id) dig data hl))
  cases a with
  | op o => exact step_eff H c.st o
  | commitCheck r id dig => exact hhalf _ trivial
  | commitStore r id => exact hhalf _ trivial

theorem inv_astep (c : CState) (a : AStep) (hinv : Inv H c.st) (hsn : SnapsOk H c.snaps) :
    Inv H (astep H c a).1.st :=
  Eff.inv H hinv (astep_eff H c a hsn)

theorem inv_arun (c : CState) (sched : List AStep) (hinv : Inv H c.st) (hsn : SnapsOk H c.snaps) :
    Inv H (arun H c sched).st :=
  (arun_induction H (P := fun c => Inv H c.st ∧ SnapsOk H c.snaps)
    (fun c a hc => ⟨inv_astep H c a hc.1 hc.2, snapsOk_astep H c a hc.2⟩) c ⟨hinv, hsn⟩ sched).1

end

end OciModel.MemConcImm
