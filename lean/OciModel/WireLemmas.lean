/-
Lemmas about the composed model (`OciModel/Wire.lean`, `OciModel/WireSpec.lean`). The property statements
are in `OciModel/Props/C03W.lean`.
-/
import OciModel.Wire
import OciModel.WireSpec
import OciModel.ReqCodecLemmas
import OciModel.RespCodecLemmas
import OciModel.B64UrlLemmas
import OciModel.UploadLemmas
import OciModel.Props.C03R
import OciModel.Props.C07

namespace OciModel.Wire
open OciModel OciModel.Ref OciModel.ReqCodec OciModel.RespCodec
open OciModel.ErrCodec (Err)
open OciModel.Props

/-! ### Requests: what the client builds, the server classifies -/

theorem classify_mkReq {r : Request} (hv : ValidReq B64Url.validUTF8 r) (hN : r.listN ≤ maxInt64) :
    classify (mkReq r) = .ok r := by
  have h := construct_parse_aux B64Url.encode B64Url.decode B64Url.validUTF8 B64Url.decode_encode
    B64Url.encode_ne_nil B64Url.encode_no_slash r hv hN
  unfold classify mkReq
  simpa using h

theorem mkReq?_of_classify {r r' : Request} (h : classify (mkReq r) = .ok r') : mkReq? r = some (mkReq r) := by
  unfold classify at h
  have hb : (mkReq r).badQuery = false := rfl
  simp only [hb, Bool.false_eq_true, if_false] at h
  unfold mkReq?
  rw [h]

theorem mkReq?_valid {r : Request} (hv : ValidReq B64Url.validUTF8 r) (hN : r.listN ≤ maxInt64) :
    mkReq? r = some (mkReq r) := mkReq?_of_classify (classify_mkReq hv hN)

theorem classify_congr {a b : HttpRequest} (hm : a.method = b.method) (hp : a.path = b.path) (hq : a.query = b.query)
    (hb : a.badQuery = b.badQuery) : classify a = classify b := by
  unfold classify
  rw [hm, hp, hq, hb]

theorem classify_headers (rq : HttpRequest) (rg ct cr : Bytes) (cl : Int) (b : Bytes) :
    classify { rq with range := rg, contentType := ct, contentRange := cr, contentLength := cl, body := b } =
      classify rq := rfl

theorem classify_ofTarget (m t : Bytes) : classify (ofTarget m t) = classifyTarget m t := by
  unfold ofTarget classifyTarget classify
  cases h : parseQuery (splitTarget t).2 <;> simp [h]

theorem listN_default : (({ kind := .ping } : Request).listN) ≤ maxInt64 := by decide

/-! ### The server on a classified request -/

theorem serveS_call {σ : Type} (cfg : Cfg) (B : SBackend σ) (st : σ × List Call) {rq : HttpRequest} {r : Request}
    {c : Call} (hc : classify rq = .ok r) (hp : plan cfg r rq = .ok (some c)) :
    serveS cfg B st rq = (((B st.1 c).1, st.2 ++ [c]), respOf cfg r rq (B st.1 c).2) := by
  simp [serveS, hc, hp]

theorem serveS_refuse {σ : Type} (cfg : Cfg) (B : SBackend σ) (st : σ × List Call) {rq : HttpRequest} {r : Request}
    {e : Err} (hc : classify rq = .ok r) (hp : plan cfg r rq = .error e) :
    serveS cfg B st rq = (st, errResp cfg e) := by
  simp [serveS, hc, hp]

/-! ### Error answers -/

theorem tableStatus_mem {table : List (Bytes × Nat)} {c : Bytes} {s : Nat}
    (h : ErrCodec.tableStatus table c = some s) : ∃ p ∈ table, p.2 = s := by
  unfold ErrCodec.tableStatus at h
  cases hf : table.find? (fun x => x.1 == c) with
  | none => rw [hf] at h; cases h
  | some p =>
    rw [hf] at h
    exact ⟨p, List.mem_of_find?_eq_some hf, by simpa using h⟩

/-- With the table's statuses all error statuses, so is every status `MarshalError` chooses (fix F29). -/
theorem wireStatus_error {table : List (Bytes × Nat)} (ht : TableOK table) (e : Err) :
    400 ≤ ErrCodec.wireStatus table e ∧ ErrCodec.wireStatus table e ≤ 599 := by
  unfold ErrCodec.wireStatus
  cases h : ErrCodec.tableStatus table (ErrCodec.wireCode e) with
  | some s =>
    obtain ⟨p, hp, rfl⟩ := tableStatus_mem h
    exact ht p hp
  | none => exact C07.ownStatus_error_status e

theorem gate_error {ok : List Nat} {st : Nat} (h4 : 400 ≤ st) (hok : ∀ x ∈ ok, x < 400) :
    gate ok st = some (.http st) := by
  unfold gate
  have h0 : st ≠ 0 := by omega
  have h200 : ¬ ((ok = [] ∧ st = 200) ∨ st ∈ ok) := by
    rintro (⟨_, h⟩ | h)
    · omega
    · have := hok st h; omega
  have h2 : st / 100 ≠ 2 := by omega
  simp [h0, h200, h2]

theorem clientDecode_error (H : Bytes → Bytes) (resolve : Bytes → Option Bytes) (c : RespCodec.Call) (r : Resp)
    (rest : List Resp) (h4 : 400 ≤ r.status) (hmt : ∀ own, c = .pushManifest own → own.mediaType ≠ []) :
    clientDecode H resolve c (r :: rest) = .err (.http r.status) := by
  -- every decoder starts at the gate, whatever statuses it lets through
  have g : ∀ ok : List Nat, (∀ x ∈ ok, x < 400) → gate ok r.status = some (.http r.status) := fun _ => gate_error h4
  cases c with
  | pushManifest own => simp [clientDecode, hmt own rfl, clientPushManifest, g]
  | getBlobRange dg o0 o1 => by_cases h : o0 = 0 ∧ o1 < 0 <;> simp [clientDecode, h, clientRead, clientGetBlobRange, g]
  | _ =>
    simp [clientDecode, clientRead, clientResolve, clientMount, clientPushBlob, clientPushBlobChunked, clientResumeAsk,
      clientFlush, clientCommit, clientDelete, g]

theorem requestsMade_error (resolve : Bytes → Option Bytes) (c : RespCodec.Call) (r : Resp) (h4 : 400 ≤ r.status) :
    requestsMade resolve c [r] ≠ 2 := by
  have g0 : gate [] r.status = some (.http r.status) := gate_error h4 (by simp)
  have g1 : gate [202] r.status = some (.http r.status) := gate_error h4 (by simp)
  cases c <;> simp [requestsMade, g0, g1]
  -- what is left is `PushManifest`: no request or one
  split <;> simp

theorem toResp_errResp_status (cfg : Cfg) (e : Err) :
    (toResp cfg (errResp cfg e)).status = ErrCodec.wireStatus cfg.table e := rfl

theorem makeErr_errResp (cfg : Cfg) (rq : HttpRequest) (e : Err) :
    makeErr cfg rq (errResp cfg e) = faultOf cfg (rq.method == mHEAD) (mar cfg e) := by
  unfold makeErr errResp faultOf mar
  by_cases h : rq.method = mHEAD <;> simp [h]

/-! ### One request, one backend call: the generic step -/

section hop
variable {σ : Type} (cfg : Cfg) (ht : TableOK cfg.table) (hdec : DecodersOK cfg) (fuel : Nat) (B : SBackend σ)
  (st : σ × List Call)

def Call.isListing : Call → Bool
  | .tags .. | .repositories .. | .referrers .. => true
  | _ => false

theorem clientCallS_simple (send : σ → HttpRequest → σ × HttpResponse) (s : σ)
    (c : Call) (h : c.isListing = false) : clientCallS cfg fuel send s c = simpleCallS cfg send s c := by
  unfold clientCallS
  split <;> first | cases h | rfl

theorem isListing_of_request1 {c : Call} {rq : HttpRequest} (h : c.request1 cfg = some rq) : c.isListing = false := by
  cases c <;> first | rfl | cases h

theorem hopS_simple {c : Call} {rq : HttpRequest} (hreq : c.request1 cfg = some rq) :
    hopS cfg fuel B st c = simpleCallS cfg (serveS cfg B) st c :=
  clientCallS_simple cfg fuel _ st c (isListing_of_request1 cfg hreq)

theorem hopS_one (c c' : Call)
    (rq : HttpRequest) (r : Request) (hreq : c.request1 cfg = some rq)
    (hcl : classify rq = .ok r) (hpl : plan cfg r rq = .ok (some c'))
    (hn : requestsMade resolveLocal (c.dec cfg) [toResp cfg (respOf cfg r rq (B st.1 c').2)] ≠ 2) :
    hopS cfg fuel B st c =
      (((B st.1 c').1, st.2 ++ [c']), finish cfg c [(rq, respOf cfg r rq (B st.1 c').2)]) := by
  rw [hopS_simple cfg fuel B st hreq]
  unfold simpleCallS
  simp only [hreq, serveS_call cfg B st hcl hpl]
  rw [if_neg hn]

include ht in
theorem finish_error (c : Call) (rq : HttpRequest) (e : Err)
    (hmt : ∀ own, c.dec cfg = .pushManifest own → own.mediaType ≠ []) :
    finish cfg c [(rq, errResp cfg e)] = .fail (faultOf cfg (rq.method == mHEAD) (mar cfg e)) := by
  have h4 : 400 ≤ (toResp cfg (errResp cfg e)).status := (wireStatus_error ht e).1
  unfold finish
  simp only [List.map_cons, List.map_nil]
  rw [clientDecode_error cfg.H resolveLocal (c.dec cfg) _ [] h4 hmt]
  simp [liftCRes, httpFault, makeErr_errResp]

theorem dec_mediaType {cfg : Cfg} {c : Call} (hwf : WF cfg c) (own : Desc) (h : c.dec cfg = .pushManifest own) :
    own.mediaType ≠ [] := by
  cases c <;> simp only [Call.dec] at h
  case pushManifest =>
    cases h
    exact hwf.2.2.1
  all_goals cases h

theorem respOf_ok (rq : HttpRequest) (r : Request) (b : BRes) {resp : Resp}
    (hs : serverResp cfg.H cfg.o (srvReqOf cfg r rq) b = .resp resp) :
    respOf cfg r rq (.ok b) = .ok resp := by simp [respOf, hs, wireOut]

theorem respOf_serr (rq : HttpRequest) (r : Request) (b : BRes) {e : SErr}
    (hs : serverResp cfg.H cfg.o (srvReqOf cfg r rq) b = .err e) :
    respOf cfg r rq (.ok b) = errResp cfg (serrErr e) := by simp [respOf, hs, wireOut]

theorem finish_single_ok (c : Call) (rq : HttpRequest) (resp : Resp) :
    finish cfg c [(rq, .ok resp)] =
      liftCRes cfg [(rq, .ok resp)] (clientDecode cfg.H resolveLocal (c.dec cfg) [resp]) := rfl

theorem toResp_ok (resp : Resp) : toResp cfg (.ok resp) = resp := rfl

/-- The handler's answer to a success, decoded: a round trip of the response codec (`Props/C03R.lean`) is
what it takes. -/
theorem finish_round_trip {c : Call} {rq : HttpRequest} {r : Request} {b : BRes} {cres : CRes}
    {res : Result}
    (h : ∃ resp, serverResp cfg.H cfg.o (srvReqOf cfg r rq) b = .resp resp ∧
      clientDecode cfg.H resolveLocal (c.dec cfg) [resp] = cres)
    (hl : ∀ xs, liftCRes cfg xs cres = res) : finish cfg c [(rq, respOf cfg r rq (.ok b))] = res := by
  obtain ⟨resp, hs, hd⟩ := h
  rw [respOf_ok cfg rq r b hs, finish_single_ok, hd, hl]

include ht in
theorem finish_serr {c : Call} (hwf : WF cfg c) {rq : HttpRequest} {r : Request}
    {b : BRes} {e : SErr} (hs : serverResp cfg.H cfg.o (srvReqOf cfg r rq) b = .err e) :
    finish cfg c [(rq, respOf cfg r rq (.ok b))] = .fail (faultOf cfg (rq.method == mHEAD) (mar cfg (serrErr e))) := by
  rw [respOf_serr cfg rq r b hs, finish_error cfg ht c rq _ (dec_mediaType hwf)]

theorem clientRead_of_two (H : Bytes → Bytes) (kind : Kind) (known : Bytes) (r : Resp) (r2 : Option Resp)
    (h : (match gate [] r.status, descriptorFromResponse r known true false with
      | none, .ok d => if d.digest = [] ∧ kind = .manifestGet ∧ d.size > inMemThreshold then 2 else 1
      | _, _ => 1) = 2) :
    clientRead H kind known r r2 =
      match r2 with
      | none => .err .transport
      | some r2 =>
        match gate [] r2.status with
        | some e => .err e
        | none =>
          match descriptorFromResponse r2 [] true true with
          | .error e => .err (.desc e)
          | .ok d2 => newBlobReader d2 true r.body := by
  unfold clientRead
  split at h
  · rename_i d hg hd
    split at h
    · rename_i hc
      have hbig : ¬ d.size ≤ inMemThreshold := by omega
      simp only [hg, hd, hc.1, hc.2.1, hbig, ne_eq, not_true_eq_false, if_false]
      rfl
    · cases h
  · cases h

/-- When a call needs a second request: decoding the first answer alone fails for want of it, and an error answer
to the second ends the call with `HTTPError` of that status. -/
theorem clientDecode_two (H : Bytes → Bytes) (resolve : Bytes → Option Bytes) (c : RespCodec.Call) (r : Resp)
    (h : requestsMade resolve c [r] = 2) :
    clientDecode H resolve c [r] = .err .transport ∧
      ∀ r2 : Resp, 400 ≤ r2.status → clientDecode H resolve c [r, r2] = .err (.http r2.status) := by
  -- a read: by `clientRead_of_two`, the second answer (or its absence) decides
  have hread : ∀ kind known, (match gate [] r.status, descriptorFromResponse r known true false with
      | none, .ok d => if d.digest = [] ∧ kind = Kind.manifestGet ∧ d.size > inMemThreshold then 2 else 1
      | _, _ => 1) = 2 →
      clientRead H kind known r none = .err .transport ∧
        ∀ r2 : Resp, 400 ≤ r2.status → clientRead H kind known r (some r2) = .err (.http r2.status) :=
    fun kind known h => ⟨clientRead_of_two H kind known r none h, fun r2 h4 =>
      (clientRead_of_two H kind known r (some r2) h).trans (by simp only [gate_error h4 (ok := []) (by simp)])⟩
  cases c with
  | getBlob dg => exact hread _ _ h
  | getManifest dg => exact hread _ _ h
  | getTag => exact hread _ _ h
  | getBlobRange dg o0 o1 =>
    simp only [requestsMade] at h
    split at h
    · rename_i hf
      simp only [clientDecode, hf, and_self, if_true]
      exact hread _ _ h
    · cases h
  | pushBlob own =>
    simp only [requestsMade] at h
    simp only [clientDecode, clientPushBlob, List.head?]
    split at h
    · rename_i hg hl
      exact ⟨by simp only [hg, hl], fun r2 h4 => by simp only [hg, hl, gate_error h4 (ok := [201]) (by simp)]⟩
    · cases h
  | pushManifest own =>
    simp only [requestsMade] at h
    split at h <;> cases h
  | _ => cases h

theorem faultOf_reg (head : Bool) (m : Nat × ErrCodec.Wire) : ∃ e, faultOf cfg head m = .reg e := by
  unfold faultOf
  split
  · exact ⟨_, rfl⟩
  · split <;> exact ⟨_, rfl⟩

theorem expectOk_ne_cli (c : Call) (b : BRes) (e : CErr) : expectOk cfg c b ≠ .fail (.cli e) := by
  intro h
  unfold expectOk at h
  split at h <;> try (cases h; done)
  split at h
  · cases h
  · split at h
    · cases h
    · obtain ⟨e', he⟩ := faultOf_reg cfg false (mar cfg (serrErr .range416))
      rw [he] at h
      cases h

/-- One request, answered with a success that the client decodes to `res`. That one request was enough need
not be supplied: had a second been needed, `res` would be the client's own failure for want of it. -/
theorem hopS_decoded {c c' : Call}
    {rq : HttpRequest} {r : Request} {b : BRes} {res : Result}
    (hreq : c.request1 cfg = some rq) (hcl : classify rq = .ok r) (hpl : plan cfg r rq = .ok (some c'))
    (ha : (B st.1 c').2 = .ok b) (hf : finish cfg c [(rq, respOf cfg r rq (.ok b))] = res)
    (hres : res ≠ .fail (.cli .transport)) :
    hopS cfg fuel B st c = (((B st.1 c').1, st.2 ++ [c']), res) := by
  rw [hopS_one cfg fuel B st c c' rq r hreq hcl hpl, ha, hf]
  rw [ha]
  intro h2
  refine hres (hf.symm.trans ?_)
  unfold finish
  simp only [List.map_cons, List.map_nil, (clientDecode_two cfg.H resolveLocal _ _ h2).1]
  rfl

include ht in
theorem hopS_error
    {c c' : Call} {rq : HttpRequest} {r : Request} {e : Err}
    (hreq : c.request1 cfg = some rq) (hcl : classify rq = .ok r) (hpl : plan cfg r rq = .ok (some c'))
    (hmt : ∀ own, c.dec cfg = .pushManifest own → own.mediaType ≠ []) (ha : (B st.1 c').2 = .err e) :
    hopS cfg fuel B st c = (((B st.1 c').1, st.2 ++ [c']), .fail (faultOf cfg (rq.method == mHEAD) (mar cfg e))) := by
  rw [hopS_one cfg fuel B st c c' rq r hreq hcl hpl
    (by rw [ha]; exact requestsMade_error _ _ _ (wireStatus_error ht e).1), ha]
  simp only [respOf]
  rw [finish_error cfg ht c rq e hmt]

/-- What a call has to supply to go through as one request and one backend call: the client sends `rq`, the
server classifies it as `r`, the handler of `r` calls `onWire c`, and every success the headers can carry
comes back as `expectOk`. -/
structure Carries (cfg : Cfg) (c : Call) (rq : HttpRequest) (r : Request) : Prop where
  request : c.request1 cfg = some rq
  classified : classify rq = .ok r
  planned : plan cfg r rq = .ok (some (onWire c))
  head : (rq.method == mHEAD) = c.isHead
  answer : ∀ b, Carriable cfg c (.ok b) → finish cfg c [(rq, respOf cfg r rq (.ok b))] = expectOk cfg c b

include ht in
theorem hopS_of_carries
    {c : Call} {rq : HttpRequest} {r : Request} (hwf : WF cfg c) (h : Carries cfg c rq r)
    (hcar : Carriable cfg c (B st.1 (onWire c)).2) :
    hopS cfg fuel B st c = (((B st.1 (onWire c)).1, st.2 ++ [onWire c]), expect cfg c (B st.1 (onWire c)).2) := by
  cases ha : (B st.1 (onWire c)).2 with
  | err e =>
    rw [hopS_error cfg ht fuel B st h.request h.classified h.planned (dec_mediaType hwf) ha, h.head]
    rfl
  | ok b =>
    rw [ha] at hcar
    exact hopS_decoded cfg fuel B st h.request h.classified h.planned ha (h.answer b hcar)
      (expectOk_ne_cli cfg c b .transport)

theorem mkReq_method (r : Request) : (mkReq r).method = kindMethod r.kind := construct_method B64Url.encode r

theorem Carries.of_mkReq {cfg : Cfg} {c : Call} {r : Request} (hv : ValidReq B64Url.validUTF8 r)
    (hN : r.listN ≤ maxInt64) (hreq : c.request1 cfg = mkReq? r)
    (hpl : plan cfg r (mkReq r) = .ok (some (onWire c))) (hhead : (kindMethod r.kind == mHEAD) = c.isHead)
    (hans : ∀ b, Carriable cfg c (.ok b) →
      finish cfg c [(mkReq r, respOf cfg r (mkReq r) (.ok b))] = expectOk cfg c b) :
    Carries cfg c (mkReq r) r :=
  ⟨hreq.trans (mkReq?_of_classify (classify_mkReq hv hN)), classify_mkReq hv hN, hpl,
    by rw [mkReq_method]; exact hhead, hans⟩

/-! ### The calls, one by one -/

theorem orOctet_eq (mt : Bytes) : C03R.orOctet mt = orOctetStream mt := rfl

theorem octetStream_ne_nil : octetStream ≠ [] := by decide

theorem orOctetStream_idem (mt : Bytes) : orOctetStream (orOctetStream mt) = orOctetStream mt := by
  unfold orOctetStream
  by_cases h : mt = []
  · simp [h, octetStream_ne_nil]
  · simp [h]

theorem carries_getBlob (repo dg : Bytes) (hwf : WF cfg (.getBlob repo dg)) :
    ∃ rq r, Carries cfg (.getBlob repo dg) rq r := by
  obtain ⟨hR, hD⟩ := hwf
  refine ⟨_, _, .of_mkReq (r := { kind := .blobGet, repo := repo, digest := dg }) ⟨hR, hD, rfl⟩ listN_default rfl rfl rfl
    fun b hb => ?_⟩
  cases b with
  | reader d content =>
    exact finish_round_trip cfg (C03R.blobGet_round_trip cfg.H resolveLocal cfg.o _ d content rfl rfl hD hb.1 hb.2)
      fun _ => rfl
  | _ => exact False.elim hb

theorem blobGet_ranged {repo dg : Bytes} (hR : isRepo repo = true) (hD : isDigest dg = true) (hdr : Bytes) :
    classify { mkReq { kind := .blobGet, repo := repo, digest := dg } with range := hdr } =
        .ok { kind := .blobGet, repo := repo, digest := dg } ∧
      (({ mkReq { kind := .blobGet, repo := repo, digest := dg } with range := hdr } : HttpRequest).method == mHEAD) =
        false :=
  ⟨(classify_headers ..).trans (classify_mkReq ⟨hR, hD, rfl⟩ listN_default), by dsimp only; rw [mkReq_method]; rfl⟩

include ht in
theorem carries_getBlobRange (repo dg : Bytes) (o0 o1 : Int)
    (hwf : WF cfg (.getBlobRange repo dg o0 o1)) : ∃ rq r, Carries cfg (.getBlobRange repo dg o0 o1) rq r := by
  let R : Request := { kind := .blobGet, repo := repo, digest := dg }
  have hwf' := hwf
  obtain ⟨hR, hD, ⟨h0, h0max⟩, h1max, hrange⟩ := hwf
  have hv : ValidReq B64Url.validUTF8 R := ⟨hR, hD, rfl⟩
  have hcl := fun hdr => (blobGet_ranged hR hD hdr).1
  have hm := fun hdr => (blobGet_ranged hR hD hdr).2
  by_cases hfull : o0 = 0 ∧ o1 < 0
  · -- a plain GET
    refine ⟨_, _, by simp [R, Call.request1, hfull, mkReq?_valid hv listN_default], hcl [],
      by simp [plan, onWire, hfull, show blobCall [] = some .full from rfl], hm [], fun b hb => ?_⟩
    cases b with
    | reader d content =>
      obtain ⟨resp, hs, hd⟩ := C03R.blobGet_round_trip cfg.H resolveLocal cfg.o
        (srvReqOf cfg R { mkReq R with range := [] }) d content rfl rfl hD hb.1 hb.2
      refine finish_round_trip cfg
        (cres := .reader { mediaType := orOctetStream d.mediaType, digest := dg, size := d.size } true content)
        ⟨resp, hs, ?_⟩ fun _ => by simp [liftCRes, expectOk, hfull]
      simp only [Call.dec, clientDecode, hfull, and_self, if_true]
      exact hd
    | _ => exact False.elim hb
  · have hreq : (Call.getBlobRange repo dg o0 o1).request1 cfg =
        some { mkReq R with range := cliRangeHdr o0 o1 } := by
      simp [R, Call.request1, hfull, mkReq?_valid hv listN_default]
    by_cases hopen : o1 < 0
    · -- open at the end
      have h0pos : 0 < o0 := by omega
      have hcall : blobCall (cliRangeHdr o0 o1) = some (.range o0 (-1)) := blobCall_cliRangeHdr_open h0 h0max hopen
      refine ⟨_, _, hreq, hcl _, by simp [plan, onWire, hopen, hcall, show ¬ o0 = 0 from by omega], hm _, fun b hb => ?_⟩
      cases b with
      | reader d content =>
        by_cases hin : o0 ≤ d.size
        · exact finish_round_trip cfg (C03R.blobGetRange_open_round_trip cfg.H resolveLocal cfg.o _ d content
            (o0 := o0) (o1 := o1) rfl hD h0pos h0max hopen rfl hb.1 hb.2 hin) fun _ => by
              simp [R, liftCRes, expectOk, hfull, hin, srvReqOf, orOctet_eq]
        · have hs : serverResp cfg.H cfg.o (srvReqOf cfg R { mkReq R with range := cliRangeHdr o0 o1 })
              (.reader d content) = .err .range416 := by
            simp only [serverResp, handleBlobGet, srvReqOf, hcall]
            simp only [true_or, if_true]
            have hlt : d.size < o0 := by omega
            rw [if_pos hlt]
          rw [finish_serr cfg ht hwf' hs, hm]
          simp [expectOk, hfull, hin]
      | _ => exact False.elim hb
    · -- closed, non-empty
      have h01 : o0 < o1 := by omega
      have hcall : blobCall (cliRangeHdr o0 o1) = some (.range o0 o1) := C03R.range_header_round_trip h0 h01 h1max
      refine ⟨_, _, hreq, hcl _, by simp [plan, onWire, hopen, hcall], hm _, fun b hb => ?_⟩
      cases b with
      | reader d content =>
        have hrt := C03R.blobGetRange_round_trip cfg.H resolveLocal cfg.o
          (srvReqOf cfg R { mkReq R with range := cliRangeHdr o0 o1 })
          d content (o0 := o0) (o1 := o1) rfl hD h0 h01 h1max rfl hb.1 hb.2
        by_cases hin : o0 ≤ d.size
        · exact finish_round_trip cfg (hrt.1 hin) fun _ => by simp [R, liftCRes, expectOk, hfull, hin, srvReqOf, orOctet_eq]
        · rw [finish_serr cfg ht hwf' (hrt.2 (by omega)), hm]
          simp [expectOk, hfull, hin]
      | _ => exact False.elim hb

theorem carries_getManifest (repo dg : Bytes) (hwf : WF cfg (.getManifest repo dg)) :
    ∃ rq r, Carries cfg (.getManifest repo dg) rq r := by
  obtain ⟨hR, hD⟩ := hwf
  refine ⟨_, _, .of_mkReq (r := { kind := .manifestGet, repo := repo, digest := dg }) ⟨hR, Or.inl ⟨hD, rfl⟩⟩ listN_default
    rfl rfl rfl fun b hb => ?_⟩
  cases b with
  | reader d content =>
    obtain ⟨⟨h0, hmax⟩, hdig⟩ := hb
    by_cases ho : cfg.o.omitDigest = true
    · exact finish_round_trip cfg
        (C03R.manifestGet_omitted_by_digest cfg.H resolveLocal cfg.o _ d content rfl ho hD h0 hmax) fun _ => rfl
    · have ho' : cfg.o.omitDigest = false := by simpa using ho
      exact finish_round_trip cfg
        (C03R.manifestGet_reports_requested cfg.H resolveLocal cfg.o _ d content rfl ho' ⟨h0, hmax, hdig ho'⟩ dg hD)
        fun _ => rfl
  | _ => exact False.elim hb

theorem tag_ne_nil {tag : Bytes} (hT : isTag tag = true) : tag ≠ [] := by
  intro h
  rw [h] at hT
  exact absurd hT (by decide)

theorem carries_getTag (repo tag : Bytes) (hwf : WF cfg (.getTag repo tag)) (ho : cfg.o.omitDigest = false) :
    ∃ rq r, Carries cfg (.getTag repo tag) rq r := by
  obtain ⟨hR, hT⟩ := hwf
  have htne := tag_ne_nil hT
  refine ⟨_, _, .of_mkReq (r := { kind := .manifestGet, repo := repo, tag := tag }) ⟨hR, Or.inr ⟨hT, rfl⟩⟩ listN_default
    rfl (by simp [plan, htne, onWire]) rfl fun b hb => ?_⟩
  cases b with
  | reader d content =>
    obtain ⟨⟨h0, hmax⟩, hdig⟩ := hb
    exact finish_round_trip cfg
      (cres := .reader { mediaType := orOctetStream d.mediaType, digest := d.digest, size := d.size } true content)
      ((C03R.manifestGet_round_trip cfg.H resolveLocal cfg.o _ d content rfl ho ⟨h0, hmax, hdig ho⟩ []
        (fun h => absurd h htne)).imp fun _ h => ⟨h.1, by simpa [srvReqOf, htne, Call.dec, orOctet_eq] using h.2⟩) fun _ => rfl
  | _ => exact False.elim hb

theorem carries_resolveBlob (repo dg : Bytes) (hwf : WF cfg (.resolveBlob repo dg)) :
    ∃ rq r, Carries cfg (.resolveBlob repo dg) rq r := by
  obtain ⟨hR, hD⟩ := hwf
  refine ⟨_, _, .of_mkReq (r := { kind := .blobHead, repo := repo, digest := dg }) ⟨hR, hD, rfl⟩ listN_default rfl rfl rfl
    fun b hb => ?_⟩
  cases b with
  | desc d =>
    exact finish_round_trip cfg
      (C03R.blobHead_reports_requested cfg.H resolveLocal cfg.o _ d dg rfl ⟨hb.1.1, hb.1.2, hb.2⟩ hD) fun _ => rfl
  | _ => exact False.elim hb

theorem carries_resolveManifest (repo dg : Bytes) (hwf : WF cfg (.resolveManifest repo dg)) :
    ∃ rq r, Carries cfg (.resolveManifest repo dg) rq r := by
  obtain ⟨hR, hD⟩ := hwf
  refine ⟨_, _, .of_mkReq (r := { kind := .manifestHead, repo := repo, digest := dg }) ⟨hR, Or.inl ⟨hD, rfl⟩⟩ listN_default
    rfl rfl rfl fun b hb => ?_⟩
  cases b with
  | desc d =>
    exact finish_round_trip cfg
      (C03R.manifestHead_reports_requested cfg.H resolveLocal cfg.o _ d rfl rfl hD ⟨hb.1.1, hb.1.2, hb.2⟩) fun _ => rfl
  | _ => exact False.elim hb

theorem carries_resolveTag (repo tag : Bytes) (hwf : WF cfg (.resolveTag repo tag)) :
    ∃ rq r, Carries cfg (.resolveTag repo tag) rq r := by
  obtain ⟨hR, hT⟩ := hwf
  have htne := tag_ne_nil hT
  refine ⟨_, _, .of_mkReq (r := { kind := .manifestHead, repo := repo, tag := tag }) ⟨hR, Or.inr ⟨hT, rfl⟩⟩ listN_default
    rfl (by simp [plan, htne, onWire]) rfl fun b hb => ?_⟩
  cases b with
  | desc d =>
    exact finish_round_trip cfg
      (cres := .desc { mediaType := orOctetStream d.mediaType, digest := d.digest, size := d.size })
      ((C03R.manifestHead_round_trip cfg.H resolveLocal cfg.o _ d rfl (Or.inl htne) ⟨hb.1.1, hb.1.2, hb.2⟩
        (fun h => absurd h htne)).imp fun _ h => ⟨h.1, by simpa [srvReqOf, htne, Call.dec, orOctet_eq] using h.2⟩) fun _ => rfl
  | _ => exact False.elim hb

theorem carries_pushManifest (repo tag content mt : Bytes) (hwf : WF cfg (.pushManifest repo tag content mt)) :
    ∃ rq r, Carries cfg (.pushManifest repo tag content mt) rq r := by
  obtain ⟨hR, hT, hmt, hH⟩ := hwf
  have hv : ValidReq B64Url.validUTF8
      { kind := .manifestPut, repo := repo, tag := tag, digest := if tag = [] then cfg.H content else [] } := by
    by_cases h : tag = []
    · subst h
      exact ⟨hR, Or.inl ⟨by simpa using hH, by simp⟩⟩
    · exact ⟨hR, Or.inr ⟨hT.resolve_left h, by simp [h]⟩⟩
  have hreq : (Call.pushManifest repo tag content mt).request1 cfg = some
      { mkReq { kind := .manifestPut, repo := repo, tag := tag, digest := if tag = [] then cfg.H content else [] } with
        contentType := mt, contentLength := content.length, body := content } := by
    simp [Call.request1, hmt, mkReq?_valid hv listN_default]
  refine ⟨_, _, hreq, (classify_headers ..).trans (classify_mkReq hv listN_default),
    by by_cases h : tag = [] <;> simp [plan, onWire, h, orOctetStream, hmt],
    by dsimp only; rw [mkReq_method]; rfl, fun b hb => ?_⟩
  cases b with
  | desc d =>
    exact finish_round_trip cfg
      ((C03R.manifestPut_round_trip cfg.H resolveLocal cfg.o _ d _ rfl
        (by by_cases h : tag = [] <;> simp [srvReqOf, h]) hmt).imp fun _ h => ⟨h.1, h.2.2.2.2⟩) fun _ => rfl
  | _ => exact False.elim hb

theorem carries_mountBlob (fromRepo toRepo dg : Bytes) (hwf : WF cfg (.mountBlob fromRepo toRepo dg)) :
    ∃ rq r, Carries cfg (.mountBlob fromRepo toRepo dg) rq r := by
  obtain ⟨hF, hT, hD⟩ := hwf
  refine ⟨_, _, .of_mkReq (r := { kind := .blobMount, repo := toRepo, digest := dg, fromRepo := fromRepo })
    ⟨hT, hD, hF, rfl⟩ listN_default rfl rfl rfl fun b hb => ?_⟩
  cases b with
  | desc d =>
    exact finish_round_trip cfg (C03R.mount_reports_requested cfg.H resolveLocal cfg.o _ d dg rfl hb hD) fun _ => rfl
  | _ => exact False.elim hb

theorem carries_delete {c : Call} {r : Request} (hv : ValidReq B64Url.validUTF8 r)
    (hk : r.kind = .blobDelete ∨ r.kind = .manifestDelete) (hreq : c.request1 cfg = mkReq? r)
    (hN : r.listN ≤ maxInt64) (hpl : plan cfg r (mkReq r) = .ok (some (onWire c))) (hh : c.isHead = false)
    (hdec : c.dec cfg = .delete) (hcar : ∀ b, Carriable cfg c (.ok b) → b = .unit) (hex : expectOk cfg c .unit = .unit) :
    ∃ rq r, Carries cfg c rq r := by
  refine ⟨_, _, .of_mkReq hv hN hreq hpl (by rcases hk with hk | hk <;> rw [hk, hh] <;> rfl) fun b hb => ?_⟩
  cases hcar b hb
  rw [hex]
  exact finish_round_trip cfg (by rw [hdec]; exact C03R.delete_round_trip cfg.H resolveLocal cfg.o _ hk) fun _ => rfl

theorem carries_deleteBlob (repo dg : Bytes) (hwf : WF cfg (.deleteBlob repo dg)) :
    ∃ rq r, Carries cfg (.deleteBlob repo dg) rq r :=
  carries_delete cfg (r := { kind := .blobDelete, repo := repo, digest := dg }) ⟨hwf.1, hwf.2, rfl⟩ (Or.inl rfl) rfl
    listN_default rfl rfl rfl (fun b hb => by cases b with | unit => rfl | _ => exact False.elim hb) rfl

theorem carries_deleteManifest (repo dg : Bytes) (hwf : WF cfg (.deleteManifest repo dg)) :
    ∃ rq r, Carries cfg (.deleteManifest repo dg) rq r :=
  carries_delete cfg (r := { kind := .manifestDelete, repo := repo, digest := dg }) ⟨hwf.1, Or.inl ⟨hwf.2, rfl⟩⟩ (Or.inr rfl)
    rfl listN_default rfl rfl rfl (fun b hb => by cases b with | unit => rfl | _ => exact False.elim hb) rfl

theorem carries_deleteTag (repo tag : Bytes) (hwf : WF cfg (.deleteTag repo tag)) :
    ∃ rq r, Carries cfg (.deleteTag repo tag) rq r :=
  carries_delete cfg (r := { kind := .manifestDelete, repo := repo, tag := tag }) ⟨hwf.1, Or.inr ⟨hwf.2, rfl⟩⟩ (Or.inr rfl)
    rfl listN_default (by simp [plan, tag_ne_nil hwf.2, onWire]) rfl rfl
    (fun b hb => by cases b with | unit => rfl | _ => exact False.elim hb) rfl

/-! ### Uploads -/

theorem ofTarget_method (m t : Bytes) : (ofTarget m t).method = m := by
  unfold ofTarget; split <;> rfl

theorem resolveLocal_v2 (x : Bytes) : resolveLocal (sV2Slash ++ x) = some (sV2Slash ++ x) := by
  rw [sV2Slash_eq]; rfl

theorem uploadLoc_eq (repo id : Bytes) : uploadLoc repo id = sV2Slash ++ (repo ++ sUploadsSlash ++ B64Url.encode id) := by
  simp [uploadLoc]

theorem rawRange_rangeStringB {s e : Int} (hs : 0 ≤ s) (hsm : s ≤ maxI64) (hem : e ≤ maxI64) :
    rawRange (rangeStringB s e) = some (rangeString s e) := by
  unfold rangeStringB rangeString rawRange
  simp only
  have hz : (0 : Int) ≤ (if e - 1 < 0 then 0 else e - 1) := by split <;> omega
  have hzm : (if e - 1 < 0 then 0 else e - 1) ≤ maxI64 := by split <;> (unfold maxI64 at *; omega)
  rw [List.append_assoc, List.singleton_append, cutByte_append _ (itoa_no hs cDash (by decide))]
  simp only [atoi_itoa s hs hsm, atoi_itoa _ hz hzm]

theorem rangeStringB_ne_nil (s e : Int) : rangeStringB s e ≠ [] := by
  unfold rangeStringB
  simp

theorem chunkRangeOf_flush {rq : HttpRequest} {s n : Int} (hs : 0 ≤ s) (hn : 0 ≤ n) (hm : s + n ≤ maxI64)
    (hcr : rq.contentRange = rangeStringB s (s + n)) (hcl : rq.contentLength = n) :
    chunkRangeOf rq = some (s, s + n) := by
  unfold chunkRangeOf
  rw [hcr, if_neg (rangeStringB_ne_nil _ _), rawRange_rangeStringB hs (by omega) hm, hcl]
  exact Upload.chunkRange_exact hs hn

theorem location_uploadLoc {repo id loc : Bytes} (hR : isRepo repo = true) (hid : okID id)
    (h : locationForUploadID repo id = some loc) : loc = uploadLoc repo id ∧ resolveLocal loc = some loc := by
  rw [locationForUploadID_valid hR hid.1 hid.2] at h
  cases h
  exact ⟨rfl, by rw [List.append_assoc, List.append_assoc, resolveLocal_v2]⟩

theorem finish_location {c : Call} {rq : HttpRequest} {r : Request} {b : BRes} {id : Bytes} {P : Resp → Bytes → Prop}
    {res : Result} (hR : isRepo r.repo = true) (hid : okID id)
    (h : ∃ resp loc, locationForUploadID (srvReqOf cfg r rq).r.repo id = some loc ∧
      serverResp cfg.H cfg.o (srvReqOf cfg r rq) b = .resp resp ∧ P resp loc)
    (hP : ∀ resp, P resp (uploadLoc r.repo id) → resolveLocal (uploadLoc r.repo id) = some (uploadLoc r.repo id) →
      ∀ xs, liftCRes cfg xs (clientDecode cfg.H resolveLocal (c.dec cfg) [resp]) = res) :
    finish cfg c [(rq, respOf cfg r rq (.ok b))] = res := by
  obtain ⟨resp, loc, hloc, hs, hp⟩ := h
  obtain ⟨rfl, hres⟩ := location_uploadLoc hR hid hloc
  exact finish_round_trip cfg ⟨resp, hs, rfl⟩ (hP resp hp hres)

theorem classify_commit {repo id dg : Bytes} (hR : isRepo repo = true) (hid : okID id) (hD : isDigest dg = true)
    (rg ct cr : Bytes) (cl : Int) (b : Bytes) :
    classify { ofTarget mPUT (urlWithDigest (uploadLoc repo id) dg) with
        range := rg, contentType := ct, contentRange := cr, contentLength := cl, body := b } =
      .ok { kind := .blobCompleteUpload, repo := repo, uploadID := id, digest := dg } := by
  rw [classify_headers, classify_ofTarget, uploadLoc, classifyTarget_commit hR hid.1 hid.2 hD]

theorem plan_commit {r : Request} {rq : HttpRequest} {s n : Int} (hk : r.kind = .blobCompleteUpload)
    (h : chunkRangeOf rq = some (s, s + n)) :
    plan cfg r rq = .ok (some (.uploadCommit r.repo r.uploadID s n rq.body r.digest)) := by
  have hn : s + n - s = n := by omega
  simp only [plan, hk, h, hn]

theorem carries_startUpload (repo : Bytes) (cs : Int) (hwf : WF cfg (.startUpload repo cs)) :
    ∃ rq r, Carries cfg (.startUpload repo cs) rq r := by
  have hR : isRepo repo = true := hwf
  refine ⟨_, _, .of_mkReq (r := { kind := .blobStartUpload, repo := repo }) ⟨hR, rfl⟩ listN_default rfl rfl rfl
    fun b hb => ?_⟩
  cases b with
  | writer id size chunk =>
    obtain ⟨hid, hc0, hcmax⟩ := hb
    exact finish_location cfg hR hid
      (C03R.startUpload_round_trip cfg.H resolveLocal cfg.o _ size chunk cs rfl hR hid.1 hid.2 hc0 hcmax)
      fun _ hdec hres _ => by
        simp only [Call.dec]
        rw [hdec, hres]
        simp [liftCRes, expectOk, ownChunk, C03R.ownChunk]
  | _ => exact False.elim hb

theorem carries_uploadInfo (repo id : Bytes) (cs : Int) (hwf : WF cfg (.uploadInfo repo id cs)) :
    ∃ rq r, Carries cfg (.uploadInfo repo id cs) rq r := by
  obtain ⟨hR, hid0, hu0⟩ := hwf
  have hcl : classify (ofTarget mGET (uploadLoc repo id)) = .ok { kind := .blobUploadInfo, repo := repo, uploadID := id } := by
    rw [classify_ofTarget, uploadLoc, classifyTarget_location hR hid0 hu0, if_pos rfl]
  refine ⟨_, _, rfl, hcl, rfl, by rw [ofTarget_method]; rfl, fun b hb => ?_⟩
  cases b with
  | writer id' size chunk =>
    obtain ⟨hid, hs0, hsmax⟩ := hb
    exact finish_location cfg hR hid
      (C03R.uploadInfo_round_trip cfg.H resolveLocal cfg.o _ size chunk cs rfl hR hid.1 hid.2 hs0 hsmax)
      fun _ hdec hres _ => by
        simp only [Call.dec]
        rw [hdec, hres]
        simp [liftCRes, expectOk, ownChunk, C03R.ownChunk]
  | _ => exact False.elim hb

theorem carries_uploadChunk (repo id : Bytes) (start hint : Int) (data : Bytes)
    (hwf : WF cfg (.uploadChunk repo id start hint data)) : ∃ rq r, Carries cfg (.uploadChunk repo id start hint data) rq r := by
  obtain ⟨hR, ⟨hid0, hu0⟩, hst, hne, hmax⟩ := hwf
  have hreq : (Call.uploadChunk repo id start hint data).request1 cfg = some { ofTarget mPATCH (uploadLoc repo id) with
      contentRange := rangeStringB start (start + data.length), contentLength := data.length, body := data } := by
    simp [Call.request1, hne]
  have hcl : classify { ofTarget mPATCH (uploadLoc repo id) with
        contentRange := rangeStringB start (start + data.length), contentLength := data.length, body := data } =
      .ok { kind := .blobUploadChunk, repo := repo, uploadID := id } := by
    rw [classify_headers, classify_ofTarget, uploadLoc, classifyTarget_location hR hid0 hu0, if_neg (by decide), if_pos rfl]
  refine ⟨_, _, hreq, hcl, ?_, by dsimp only; rw [ofTarget_method]; rfl, fun b hb => ?_⟩
  · simp only [plan, onWire]
    rw [chunkRangeOf_flush hst (Int.natCast_nonneg _) hmax rfl rfl]
    have hn : start + (data.length : Int) - start = data.length := by omega
    simp only [hn]
  cases b with
  | writer id' size chunk =>
    exact finish_location cfg hR hb
      (C03R.uploadChunk_round_trip cfg.H resolveLocal cfg.o _ size chunk rfl hR hb.1 hb.2)
      fun _ hdec hres _ => by
        simp only [Call.dec]
        rw [hdec.2, hres]
        rfl
  | _ => exact False.elim hb

theorem carries_uploadCommit (repo id : Bytes) (start hint : Int) (data dg : Bytes)
    (hwf : WF cfg (.uploadCommit repo id start hint data dg)) :
    ∃ rq r, Carries cfg (.uploadCommit repo id start hint data dg) rq r := by
  obtain ⟨hR, hid, hst, hmax, hD⟩ := hwf
  have hreq : (Call.uploadCommit repo id start hint data dg).request1 cfg =
      some { ofTarget mPUT (urlWithDigest (uploadLoc repo id) dg) with
        contentRange := rangeStringB start (start + data.length), contentLength := data.length, body := data } := by
    simp [Call.request1, isDigest_ne_nil hD]
  refine ⟨_, _, hreq, classify_commit hR hid hD .., plan_commit cfg rfl (chunkRangeOf_flush hst (Int.natCast_nonneg _) hmax rfl rfl),
    by dsimp only; rw [ofTarget_method]; rfl, fun b hb => ?_⟩
  cases b with
  | commit id' d =>
    exact finish_round_trip cfg (cres := .desc { mediaType := octetStream, digest := dg, size := start + data.length })
      ((C03R.completeUpload_round_trip cfg.H resolveLocal cfg.o _ id' d _ dg rfl).imp fun _ h =>
        ⟨h.1, by simpa [srvReqOf, Call.dec, resolveLocal_v2] using h.2.2⟩) fun _ => rfl
  | _ => exact False.elim hb

/-! ### Referrers -/

include ht in
theorem hop_referrers (repo dg : Bytes) (hwf : WF cfg (.referrers repo dg))
    (ho : cfg.o.disableReferrers = false)
    (hcar : Carriable cfg (.referrers repo dg) (B st.1 (onWire (.referrers repo dg))).2) :
    hopS cfg fuel B st (.referrers repo dg) =
      (((B st.1 (onWire (.referrers repo dg))).1, st.2 ++ [onWire (.referrers repo dg)]),
        expect cfg (.referrers repo dg) (B st.1 (onWire (.referrers repo dg))).2) := by
  obtain ⟨hR, hD⟩ := hwf
  have hcl : classify (mkReq { kind := .referrersList, repo := repo, digest := dg, listN := -1 }) =
      .ok { kind := .referrersList, repo := repo, digest := dg, listN := -1 } :=
    classify_mkReq ⟨hR, hD, rfl⟩ (by show (-1 : Int) ≤ maxInt64; decide)
  have hpl : plan cfg { kind := .referrersList, repo := repo, digest := dg, listN := -1 }
      (mkReq { kind := .referrersList, repo := repo, digest := dg, listN := -1 }) = .ok (some (.referrers repo dg)) := by
    simp [plan, ho]
  have hm : ((mkReq { kind := .referrersList, repo := repo, digest := dg, listN := -1 }).method == mHEAD) = false := by
    rw [mkReq_method]; rfl
  show referrersCallS cfg (serveS cfg B) st repo dg = _
  unfold referrersCallS
  simp only [mkReq?_of_classify hcl, Option.isNone_some, Bool.false_eq_true, if_false]
  simp only [serveS_call cfg B st hcl hpl, onWire]
  cases ha : (B st.1 (.referrers repo dg)).2 with
  | err e =>
    have h4 : 400 ≤ (toResp cfg (errResp cfg e)).status := (wireStatus_error ht e).1
    simp only [respOf, clientReferrers, gate_error h4 (ok := []) (by simp), makeErr_errResp, hm, expect, Call.isHead]
  | ok b =>
    have hcar' : Carriable cfg (.referrers repo dg) (.ok b) := ha ▸ hcar
    cases b with
    | descs ds =>
      have hs : serverResp cfg.H cfg.o (srvReqOf cfg { kind := .referrersList, repo := repo, digest := dg, listN := -1 }
          (mkReq { kind := .referrersList, repo := repo, digest := dg, listN := -1 })) (.descs ds) =
          .resp (mkResp 200 [(hContentLength, itoa (encIndex ds).length), (hContentType, mtImageIndex)] (encIndex ds)) := by
        simp only [serverResp, handleReferrersList, srvReqOf, ho]
        rfl
      have hd : clientReferrers cfg.decIndex
          (mkResp 200 [(hContentLength, itoa (encIndex ds).length), (hContentType, mtImageIndex)] (encIndex ds)) = .ok ds := by
        have hc : cfg.decIndex (encIndex ds) = some ds := hcar'
        simp [clientReferrers, gate, mkResp, hc]
      rw [respOf_ok cfg _ _ _ hs, toResp_ok, hd]
      rfl
    | _ => exact False.elim hcar'

/-! ### Two requests -/

theorem finish_two_ok (c : Call) (rq1 rq2 : HttpRequest) (r1 r2 : Resp) :
    finish cfg c [(rq1, .ok r1), (rq2, .ok r2)] =
      liftCRes cfg [(rq1, .ok r1), (rq2, .ok r2)] (clientDecode cfg.H resolveLocal (c.dec cfg) [r1, r2]) := rfl

include ht in
theorem finish_two_error (c : Call) (rq1 rq2 : HttpRequest) (r1 : Resp) (e : Err)
    (h2 : requestsMade resolveLocal (c.dec cfg) [r1] = 2) :
    finish cfg c [(rq1, .ok r1), (rq2, errResp cfg e)] = .fail (faultOf cfg (rq2.method == mHEAD) (mar cfg e)) := by
  unfold finish
  simp only [List.map_cons, List.map_nil, toResp_ok]
  rw [(clientDecode_two cfg.H resolveLocal _ r1 h2).2 _ (wireStatus_error ht e).1]
  simp [liftCRes, httpFault, makeErr_errResp]

include ht in
/-- Two requests, each leading to one backend call, once the first answer `resp1` is known to make the client ask
again: an error of the second call ends the call, a success is left to be decoded. -/
theorem hopS_two {c c1 c2 : Call} {rq1 rq2 : HttpRequest} {r1 r2 : Request} {resp1 : Resp}
    (hreq : c.request1 cfg = some rq1) (hcl1 : classify rq1 = .ok r1) (hpl1 : plan cfg r1 rq1 = .ok (some c1))
    (hr1 : respOf cfg r1 rq1 (B st.1 c1).2 = .ok resp1) (hn : requestsMade resolveLocal (c.dec cfg) [resp1] = 2)
    (hreq2 : c.request2 rq1 resp1 = some rq2) (href : c.refuse2 = none)
    (hcl2 : classify rq2 = .ok r2) (hpl2 : plan cfg r2 rq2 = .ok (some c2)) :
    hopS cfg fuel B st c =
      (((B (B st.1 c1).1 c2).1, st.2 ++ [c1, c2]),
        match (B (B st.1 c1).1 c2).2 with
        | .err e => .fail (faultOf cfg (rq2.method == mHEAD) (mar cfg e))
        | .ok b2 => finish cfg c [(rq1, .ok resp1), (rq2, respOf cfg r2 rq2 (.ok b2))]) := by
  rw [hopS_simple cfg fuel B st hreq]
  unfold simpleCallS
  simp only [hreq, serveS_call cfg B st hcl1 hpl1, hr1, toResp_ok]
  rw [if_pos hn]
  simp only [hreq2, href, serveS_call cfg B _ hcl2 hpl2, List.append_assoc, List.singleton_append]
  cases (B (B st.1 c1).1 c2).2 with
  | err e =>
    simp only [respOf]
    rw [finish_two_error cfg ht _ _ _ _ e hn]
  | ok b2 => rfl

theorem startUpload_resp {repo id : Bytes} (size chunk : Int) (rq : HttpRequest)
    (hR : isRepo repo = true) (hid : okID id) :
    serverResp cfg.H cfg.o (srvReqOf cfg { kind := .blobStartUpload, repo := repo } rq) (.writer id size chunk) =
      .resp (mkResp 202 [(hLocation, uploadLoc repo id), (hRange, strBytes "0-0"), (hChunkMin, itoa chunk)]) := by
  simp only [serverResp, handleBlobStartUpload, srvReqOf, locationForUploadID_valid hR hid.1 hid.2]
  rfl

theorem uploadLoc_ne_nil (repo id : Bytes) : uploadLoc repo id ≠ [] := by
  rw [uploadLoc_eq, sV2Slash_eq]; simp

include ht in
theorem hop_pushBlob (repo : Bytes) (d : Desc) (content : Bytes) (hwf : WF cfg (.pushBlob repo d content))
    (hcar : pushBlobCarriable B st.1 repo d content) :
    hopS cfg fuel B st (.pushBlob repo d content) =
      (((pushBlobDirect cfg B st.1 repo d content).1, st.2 ++ (pushBlobDirect cfg B st.1 repo d content).2.1),
        (pushBlobDirect cfg B st.1 repo d content).2.2) := by
  let R : Request := { kind := .blobStartUpload, repo := repo }
  obtain ⟨hR, hD, hlen, hmax⟩ := hwf
  have hv : ValidReq B64Url.validUTF8 R := ⟨hR, rfl⟩
  have hreq : (Call.pushBlob repo d content).request1 cfg = some (mkReq R) :=
    mkReq?_valid hv listN_default
  have hcl1 := classify_mkReq hv listN_default
  have hpl1 : plan cfg R (mkReq R) =
      .ok (some (.startUpload repo 0)) := rfl
  unfold pushBlobDirect
  unfold pushBlobCarriable at hcar
  cases ha : (B st.1 (.startUpload repo 0)).2 with
  | err e =>
    rw [hopS_error cfg ht fuel B st hreq hcl1 hpl1 (fun _ h => nomatch h) ha, mkReq_method]
    rfl
  | ok b =>
    rw [ha] at hcar
    cases b with
    | writer id size chunk =>
      obtain ⟨hid, hchunk, hcar2⟩ := hcar
      obtain ⟨r1, hr1, hloc, hst202⟩ : ∃ r1, respOf cfg R (mkReq R) (B st.1 (.startUpload repo 0)).2 = .ok r1 ∧
          locationFromResponse resolveLocal r1 = .ok (uploadLoc repo id) ∧ r1.status = 202 := by
        refine ⟨_, by rw [ha]; exact respOf_ok cfg _ _ _ (startUpload_resp cfg size chunk _ hR hid), ?_, rfl⟩
        simp [locationFromResponse, mkResp, uploadLoc_ne_nil]
        rw [uploadLoc_eq, resolveLocal_v2]
      have hsz0 : (0 : Int) ≤ d.size := by rw [← hlen]; exact Int.natCast_nonneg _
      have hn : requestsMade resolveLocal ((Call.pushBlob repo d content).dec cfg) [r1] = 2 := by
        simp [Call.dec, requestsMade, gate, hst202, hloc]
      -- the PUT
      rw [hopS_two cfg ht fuel B st (c2 := .uploadCommit repo id 0 d.size content d.digest)
        (rq2 := { ofTarget mPUT (urlWithDigest (uploadLoc repo id) d.digest) with
          contentType := octetStream, contentRange := rangeStringB 0 d.size, contentLength := d.size, body := content })
        hreq hcl1 hpl1 hr1 hn (by simp only [Call.request2, hloc]) (by simp [Call.refuse2, hlen])
        (classify_commit hR hid hD ..)
        (plan_commit cfg rfl (chunkRangeOf_flush (s := 0) (n := d.size) (by omega) hsz0 (by omega) (by simp) rfl))]
      dsimp only
      cases ha2 : (B (B st.1 (.startUpload repo 0)).1 (.uploadCommit repo id 0 d.size content d.digest)).2 with
      | err e =>
        dsimp only
        rw [ofTarget_method]
        rfl
      | ok b2 =>
        dsimp only
        rw [ha2] at hcar2
        cases b2 with
        | commit id' d' =>
          have hs2 : serverResp cfg.H cfg.o (srvReqOf cfg
              { kind := .blobCompleteUpload, repo := repo, uploadID := id, digest := d.digest }
              { ofTarget mPUT (urlWithDigest (uploadLoc repo id) d.digest) with
                contentType := octetStream, contentRange := rangeStringB 0 d.size, contentLength := d.size, body := content })
              (.commit id' d') = .resp (mkResp 201 (locationHeaders (sV2Slash ++ repo ++ strBytes "/blobs/" ++ d'.digest) d')) := rfl
          rw [respOf_ok cfg _ _ _ hs2, finish_two_ok]
          simp [Call.dec, clientDecode, clientPushBlob, gate, hst202, mkResp, hloc, liftCRes]
        | _ => exact False.elim hcar2
    | _ => exact False.elim hcar

/-! ### Tag GET against a server that omits the digest -/

/-- manifest up to 128 KiB: one request, the client hashes the body itself -/
theorem hop_getTag_omitted_small (repo tag : Bytes) (hwf : WF cfg (.getTag repo tag)) (ho : cfg.o.omitDigest = true)
    (hH : ∀ x, digestHashable (cfg.H x) = true) (d : Desc) (content : Bytes)
    (ha : (B st.1 (.getTag repo tag)).2 = .ok (.reader d content)) (h0 : 0 ≤ d.size) (hsmall : d.size ≤ inMemThreshold) :
    hopS cfg fuel B st (.getTag repo tag) =
      (((B st.1 (.getTag repo tag)).1, st.2 ++ [.getTag repo tag]),
        if (content.length : Int) = d.size then
          .reader { mediaType := orOctetStream d.mediaType, digest := cfg.H content, size := d.size } true content
        else .fail (.cli .bodySizeMismatch)) := by
  obtain ⟨hR, hT⟩ := hwf
  have hv : ValidReq B64Url.validUTF8 { kind := .manifestGet, repo := repo, tag := tag } := ⟨hR, Or.inr ⟨hT, rfl⟩⟩
  refine hopS_decoded cfg fuel B st (mkReq?_valid hv listN_default) (classify_mkReq hv listN_default)
    (by simp [plan, tag_ne_nil hT]) ha
    (finish_round_trip cfg (C03R.tagGet_omitted_small cfg.H resolveLocal cfg.o _ d content rfl ho h0 hsmall hH)
      fun _ => ?_) ?_
  · by_cases hl : (content.length : Int) = d.size <;> simp [hl, liftCRes, orOctet_eq]
  · split <;> nofun

theorem classify_head_of_get {repo tag : Bytes} (hR : isRepo repo = true) (hT : isTag tag = true) :
    classify { mkReq { kind := .manifestGet, repo := repo, tag := tag } with method := mHEAD } =
      .ok { kind := .manifestHead, repo := repo, tag := tag } :=
  (classify_congr (b := mkReq { kind := .manifestHead, repo := repo, tag := tag })
    (mkReq_method { kind := .manifestHead, repo := repo, tag := tag }).symm rfl rfl rfl).trans
    (classify_mkReq ⟨hR, Or.inr ⟨hT, rfl⟩⟩ listN_default)

include ht in
/-- manifest over 128 KiB: GET, then HEAD -/
theorem hop_getTag_omitted_large (repo tag : Bytes) (hwf : WF cfg (.getTag repo tag)) (ho : cfg.o.omitDigest = true)
    (hcar : match (B st.1 (.getTag repo tag)).2 with
      | .err _ => True
      | .ok (.reader d _) => inMemThreshold < d.size ∧ d.size ≤ maxI64 ∧
          (match (B (B st.1 (.getTag repo tag)).1 (.resolveTag repo tag)).2 with
           | .err _ => True
           | .ok (.desc d2) => okSize d2.size ∧ isDigest d2.digest = true
           | .ok _ => False)
      | .ok _ => False) :
    hopS cfg fuel B st (.getTag repo tag) =
      (((getTagLargeDirect cfg B st.1 repo tag).1, st.2 ++ (getTagLargeDirect cfg B st.1 repo tag).2.1),
        (getTagLargeDirect cfg B st.1 repo tag).2.2) := by
  let R : Request := { kind := .manifestGet, repo := repo, tag := tag }
  obtain ⟨hR, hT⟩ := hwf
  have htne := tag_ne_nil hT
  have hv : ValidReq B64Url.validUTF8 R := ⟨hR, Or.inr ⟨hT, rfl⟩⟩
  have hreq : (Call.getTag repo tag).request1 cfg = some (mkReq R) :=
    mkReq?_valid hv listN_default
  have hcl := classify_mkReq hv listN_default
  have hpl : plan cfg R (mkReq R) = .ok (some (.getTag repo tag)) := by simp [R, plan, htne]
  unfold getTagLargeDirect
  cases ha : (B st.1 (.getTag repo tag)).2 with
  | err e =>
    rw [hopS_error cfg ht fuel B st hreq hcl hpl (fun _ h => nomatch h) ha, mkReq_method]
    rfl
  | ok b =>
    rw [ha] at hcar
    cases b with
    | reader d content =>
      obtain ⟨hlarge, hmax, hcar2⟩ := hcar
      have h0 : 0 ≤ d.size := by unfold inMemThreshold at hlarge; omega
      have hn : ¬ d.size < 0 := by omega
      have hbig : ¬ d.size ≤ inMemThreshold := by omega
      -- the first answer: no digest header and a size over the threshold, so the client asks again with HEAD
      obtain ⟨r1, hs1, hn2⟩ : ∃ r1, serverResp cfg.H cfg.o (srvReqOf cfg R (mkReq R)) (.reader d content) = .resp r1 ∧
          requestsMade resolveLocal ((Call.getTag repo tag).dec cfg) [r1] = 2 :=
        ⟨_, rfl, by simp [Call.dec, requestsMade, gate, descriptorFromResponse, mkResp, hget_cons_ne, ho,
          parseContentLength_itoa h0 hmax, hn, hbig]⟩
      have hr1 : respOf cfg R (mkReq R) (B st.1 (.getTag repo tag)).2 = .ok r1 := by
        rw [ha]; exact respOf_ok cfg _ _ _ hs1
      rw [hopS_two cfg ht fuel B st (c2 := .resolveTag repo tag)
        (rq2 := { mkReq R with method := mHEAD })
        hreq hcl hpl hr1 hn2 rfl rfl (classify_head_of_get hR hT) (by simp [R, plan, htne])]
      dsimp only
      cases ha2 : (B (B st.1 (.getTag repo tag)).1 (.resolveTag repo tag)).2 with
      | err e => rfl
      | ok b2 =>
        dsimp only
        rw [ha2] at hcar2
        cases b2 with
        | desc d2 =>
          obtain ⟨⟨h20, h2max⟩, h2d⟩ := hcar2
          obtain ⟨r1', r2, hq1, hq2, hdec⟩ := C03R.tagGet_omitted_large cfg.H resolveLocal cfg.o
            (srvReqOf cfg R (mkReq R))
            d d2 content rfl htne ho hlarge hmax ⟨h20, h2max, h2d⟩
          cases SOut.resp.inj (hq1.symm.trans hs1)
          have hs2 : serverResp cfg.H cfg.o (srvReqOf cfg { kind := .manifestHead, repo := repo, tag := tag }
              { mkReq R with method := mHEAD }) (.desc d2) = .resp r2 := hq2
          rw [respOf_ok cfg _ _ _ hs2, finish_two_ok]
          simp only [Call.dec]
          rw [hdec]
          simp [liftCRes, orOctet_eq]
        | _ => exact False.elim hcar2
    | _ => exact False.elim hcar

/-! ### Every call that is one request and one backend call -/

include ht in
/-- The wiring of every call that is one request and one backend call (`Referrers` has its own decoder:
`hop_referrers`). -/
theorem carries_single (c : Call) (hs : Single cfg c) (hwf : WF cfg c)
    (hl : c.isListing = false) : ∃ rq r, Carries cfg c rq r := by
  cases c with
  | getBlob repo dg => exact carries_getBlob cfg repo dg hwf
  | getBlobRange repo dg o0 o1 => exact carries_getBlobRange cfg ht repo dg o0 o1 hwf
  | getManifest repo dg => exact carries_getManifest cfg repo dg hwf
  | getTag repo tag => exact carries_getTag cfg repo tag hwf hs
  | resolveBlob repo dg => exact carries_resolveBlob cfg repo dg hwf
  | resolveManifest repo dg => exact carries_resolveManifest cfg repo dg hwf
  | resolveTag repo tag => exact carries_resolveTag cfg repo tag hwf
  | pushBlob repo d content => exact hs.elim
  | pushManifest repo tag content mt => exact carries_pushManifest cfg repo tag content mt hwf
  | mountBlob fromRepo toRepo dg => exact carries_mountBlob cfg fromRepo toRepo dg hwf
  | deleteBlob repo dg => exact carries_deleteBlob cfg repo dg hwf
  | deleteManifest repo dg => exact carries_deleteManifest cfg repo dg hwf
  | deleteTag repo tag => exact carries_deleteTag cfg repo tag hwf
  | startUpload repo cs => exact carries_startUpload cfg repo cs hwf
  | uploadInfo repo id cs => exact carries_uploadInfo cfg repo id cs hwf
  | uploadChunk repo id start hint data => exact carries_uploadChunk cfg repo id start hint data hwf
  | uploadCommit repo id start hint data dg => exact carries_uploadCommit cfg repo id start hint data dg hwf
  | tags repo start => cases hl
  | repositories start => cases hl
  | referrers repo dg => cases hl

include ht in
theorem hop_single (c : Call) (hs : Single cfg c) (hwf : WF cfg c)
    (hcar : Carriable cfg c (B st.1 (onWire c)).2) :
    hopS cfg fuel B st c = (((B st.1 (onWire c)).1, st.2 ++ [onWire c]), expect cfg c (B st.1 (onWire c)).2) := by
  cases c with
  | pushBlob repo d content => exact hs.elim
  | tags repo start => exact hs.elim
  | repositories start => exact hs.elim
  | referrers repo dg => exact hop_referrers cfg ht fuel B st repo dg hwf hs hcar
  | _ =>
    obtain ⟨rq, r, h⟩ := carries_single cfg ht _ hs hwf rfl
    exact hopS_of_carries cfg ht fuel B st hwf h hcar

/-! ### What arrives is what the property calls "the same" -/

theorem faultOf_equiv (head : Bool) (e : Err)
    (hsmall : head = false → (cfg.errBody (mar cfg e).2).length ≤ errorBodySizeLimit) :
    ErrEquiv cfg head (faultOf cfg head (mar cfg e)) e := by
  cases head with
  | true =>
    refine ⟨ErrCodec.unmarshal cfg.stdMsg true (mar cfg e), by simp [faultOf], ?_, by simp⟩
    exact C07.hop_head_status cfg.S cfg.C cfg.compact cfg.table cfg.stdMsg e
  | false =>
    have h := hsmall rfl
    refine ⟨ErrCodec.unmarshal cfg.stdMsg false (mar cfg e), ?_, ?_, ?_⟩
    · have : ¬ (cfg.errBody (mar cfg e).2).length > errorBodySizeLimit := by omega
      simp [faultOf, this]
    · exact C07.hop_status cfg.S cfg.C cfg.compact cfg.table cfg.stdMsg e
    · intro _
      show ErrCodec.codeOf (ErrCodec.hop cfg.S cfg.C cfg.compact cfg.table cfg.stdMsg false e) = _
      rw [C07.hop_code]
      rfl

theorem reader_ite (p : Prop) [Decidable p] (d : Desc) (content : Bytes) :
    (if p then Result.reader d true content else .reader d false content) = .reader d (decide p) content := by
  split <;> simp [*]

theorem expect_equiv (c : Call) (a : Answer) (hs : Single cfg c) (hcar : Carriable cfg c a)
    (hf : Faithful cfg c a)
    (hsmall : ∀ e, a = .err e → c.isHead = false → (cfg.errBody (mar cfg e).2).length ≤ errorBodySizeLimit) :
    Equiv cfg c (expect cfg c a) a := by
  cases a with
  | err e => exact ⟨_, rfl, faultOf_equiv cfg c.isHead e (hsmall e rfl)⟩
  | ok b =>
    clear hsmall
    -- by the lines of `Carriable`: the pairs of a call and an answer of its type
    unfold Carriable at hcar
    split at hcar
    all_goals first
      | exact hcar.elim                    -- the last line: an answer of another type is not carriable
      | (rename_i heq; cases heq; done)    -- the first line: an error, but the answer is a success
      | (rename_i heq; cases heq           -- a call and a success of its type: both sides computed
         simp only [Equiv, expect, expectOk, DescEquiv, Faithful, Call.carriesMediaType] at *)
    all_goals first
      | exact hs.elim                      -- `Tags`, `Repositories`: not single
      | simp [hf, reader_ite]              -- the same descriptor up to what `hf` says of the digest

/-! ### Listings: one backend call per page -/

end hop

section listing
/- A listing, with what tells `Tags` from `Repositories` as parameters: the kind `k`, the repository `R`, the
path, the server's encoder `enc` of a page, the backend call `mk last` of a page, the client's first request `r0`. -/
variable {σ : Type} (cfg : Cfg) (ht : TableOK cfg.table) (B : SBackend σ)
    (dec : Bytes → Option (List Bytes)) {n : Int} (hn : 0 < n)
    (hpage : ¬ (cfg.o.maxListPageSize > 0 ∧ n > cfg.o.maxListPageSize))
    (k : Kind) (R path : Bytes) (enc : List Bytes → Bytes) (mk : Bytes → Call) (r0 : Request)
    (hdec : ∀ l, dec (enc l) = some l) (h62 : (62 : UInt8) ∉ path) (h63 : (63 : UInt8) ∉ path)
    (hsrv : ∀ q : SrvReq, q.r.kind = k → q.r.repo = R → ∀ items,
      serverResp cfg.H cfg.o q (.items items) =
        match nextListResults cfg.o q.r.listN items with
        | .error e => .err e
        | .ok (page, t) => .resp (listResp cfg.o q page t (enc page)))
    (hcls : ∀ qs last, QueryOK n qs →
      classifyTarget mGET (path ++ [63] ++ encodeQuery (querySet qs qLast last)) =
        .ok { kind := k, repo := R, listN := n, listLast := last })
    (hplan : ∀ r rq, r.kind = k → r.repo = R → r.listN = n → plan cfg r rq = .ok (some (mk r.listLast)))
    (hr0 : ∀ l, classify (mkReq { r0 with listLast := l }) = .ok { kind := k, repo := R, listN := n, listLast := l } ∧
      (mkReq { r0 with listLast := l }).path = path ∧ QueryOK n (mkReq { r0 with listLast := l }).query ∧
      (mkReq { r0 with listLast := l }).method = mGET)
include ht hn hpage hdec h62 h63 hsrv hcls hplan hr0

theorem listLoopS_exact :
    ∀ (fuel : Nat) (s : σ) (log : List Call) (rq : HttpRequest) (r : Request),
      classify rq = .ok r → r.kind = k → r.repo = R → r.listN = n → rq.path = path → QueryOK n rq.query →
      rq.method = mGET → pagesCarriable B mk n fuel s r.listLast →
      listLoopS cfg dec n (serveS cfg B) r0 fuel (s, log) rq =
        (((pagesDirect cfg B mk n fuel s r.listLast).1, log ++ (pagesDirect cfg B mk n fuel s r.listLast).2.1),
          (pagesDirect cfg B mk n fuel s r.listLast).2.2.1, (pagesDirect cfg B mk n fuel s r.listLast).2.2.2) := by
  intro fuel
  induction fuel with
  | zero => intro s log rq r _ _ _ _ _ _ _ _; simp [listLoopS, pagesDirect]
  | succ fuel ih =>
    intro s log rq r hcl hk hR hN hp hq hm hcar
    have hsend := serveS_call cfg B (s, log) hcl (hplan r rq hk hR hN)
    have hmh : (rq.method == mHEAD) = false := by rw [hm]; rfl
    unfold listLoopS pagesDirect
    unfold pagesCarriable at hcar
    simp only [hsend]
    cases ha : (B s (mk r.listLast)).2 with
    | err e =>
      have h4 : 400 ≤ (toResp cfg (errResp cfg e)).status := (wireStatus_error ht e).1
      simp only [respOf, clientListPage, gate_error h4 (ok := []) (by simp), makeErr_errResp, hmh]
    | ok b =>
      rw [ha] at hcar
      cases b with
      | items l =>
        simp only at hcar
        have h62' : (62 : UInt8) ∉ (srvReqOf cfg r rq).path := by
          show (62 : UInt8) ∉ rq.path
          rw [hp]
          exact h62
        have hs : serverResp cfg.H cfg.o (srvReqOf cfg r rq) (.items l) =
            .resp (listResp cfg.o (srvReqOf cfg r rq) (l.take n.toNat) (decide (n.toNat < l.length)) (enc (l.take n.toNat))) := by
          rw [hsrv (srvReqOf cfg r rq) hk hR]
          show (match nextListResults cfg.o r.listN l with | .error e => _ | .ok (page, t) => _) = _
          rw [hN, nextListResults_page cfg.o hn hpage]
        rw [respOf_ok cfg _ _ _ hs, toResp_ok,
          clientListPage_listResp dec (fun _ => true) cfg.o (srvReqOf cfg r rq) _ _ _ n (hdec _) h62']
        by_cases hshort : ((l.take n.toNat).length : Int) < n
        · simp only [hshort, if_true]
        · simp only [hshort, if_false] at hcar ⊢
          cases hl : (l.take n.toNat).getLast? with
          | none => simp only
          | some x =>
            rw [hl] at hcar
            simp only at hcar ⊢
            -- the next request, by the `Link` or by `last`, is again a request for (`k`, `R`, `n`), after `x`
            have hnext : ∀ rq', classify rq' = .ok { kind := k, repo := R, listN := n, listLast := x } →
                rq'.path = path → QueryOK n rq'.query → rq'.method = mGET →
                listLoopS cfg dec n (serveS cfg B) r0 fuel ((B s (mk r.listLast)).1, log ++ [mk r.listLast]) rq' = _ :=
              fun rq' h1 h2 h3 h4 => ih _ _ rq' _ h1 rfl rfl rfl h2 h3 h4 hcar
            by_cases htl : (decide (n.toNat < l.length) && !cfg.o.omitLink) = true
            · simp only [htl, if_true]
              have hrq' : ofTarget mGET (rq.path ++ [63] ++ encodeQuery (querySet rq.query qLast x)) =
                  { method := mGET, path := rq.path, query := [(qLast, x), (qN, itoa n)] } := by
                unfold ofTarget
                rw [List.append_assoc, List.singleton_append, splitTarget_query _ (hp ▸ h63)]
                simp only [parseQuery_link hq x]
              show (_, _, _) = _
              simp only [srvReqOf]
              rw [hnext _ (by rw [classify_ofTarget, hp]; exact hcls rq.query x hq) (by rw [hrq']; exact hp)
                (by rw [hrq']; exact queryOK_sorted n x) (ofTarget_method _ _)]
              simp only [List.append_assoc, List.singleton_append]
            · simp only [htl]
              obtain ⟨h1, h2, h3, h4⟩ := hr0 x
              show (_, _, _) = _
              rw [hnext _ h1 h2 h3 h4]
              simp only [List.append_assoc, List.singleton_append]
      | _ => exact False.elim hcar

theorem listCallS_exact (hnp : n = Pager.effectivePageSize cfg.pageSize) (fuel : Nat) (st : σ × List Call)
    (hcar : pagesCarriable B mk n fuel st.1 r0.listLast) :
    listCallS cfg dec (serveS cfg B) fuel st r0 =
      (((pagesDirect cfg B mk n fuel st.1 r0.listLast).1, st.2 ++ (pagesDirect cfg B mk n fuel st.1 r0.listLast).2.1),
        .items (pagesDirect cfg B mk n fuel st.1 r0.listLast).2.2.1 (pagesDirect cfg B mk n fuel st.1 r0.listLast).2.2.2) := by
  obtain ⟨h1, h2, h3, h4⟩ := hr0 r0.listLast
  have h1 : classify (mkReq r0) = .ok { kind := k, repo := R, listN := n, listLast := r0.listLast } := h1
  have := listLoopS_exact cfg ht B dec hn hpage k R path enc mk r0 hdec h62 h63 hsrv hcls hplan hr0
    fuel st.1 st.2 _ _ h1 rfl rfl rfl h2 h3 h4 hcar
  unfold listCallS
  rw [mkReq?_of_classify h1]
  simp only [Option.isNone_some, Bool.false_eq_true, if_false]
  rw [← hnp, show st = (st.1, st.2) from rfl, this]

end listing

section hop
variable {σ : Type} (cfg : Cfg) (ht : TableOK cfg.table) (hdec : DecodersOK cfg) (fuel : Nat) (B : SBackend σ)
  (st : σ × List Call)

theorem effectivePageSize_pos (n : Int) : 0 < Pager.effectivePageSize n := by
  unfold Pager.effectivePageSize
  split <;> omega

theorem listReq_ok {r : Request} (hv : ValidReq B64Url.validUTF8 r) (hq : (mkReq r).query = listQuery r)
    (hm : kindMethod r.kind = mGET) (h0 : 0 < r.listN) (hmax : r.listN ≤ maxInt64) :
    classify (mkReq r) = .ok r ∧ QueryOK r.listN (mkReq r).query ∧ (mkReq r).method = mGET :=
  ⟨classify_mkReq hv hmax, hq ▸ queryOK_listQuery r (by omega), by rw [mkReq_method, hm]⟩

include ht hdec in
theorem hop_tags (repo start : Bytes) (hok : StepOK cfg fuel B st.1 (.tags repo start)) :
    hopS cfg fuel B st (.tags repo start) =
      (((direct cfg fuel B st.1 (.tags repo start)).1, st.2 ++ (direct cfg fuel B st.1 (.tags repo start)).2.1),
        (direct cfg fuel B st.1 (.tags repo start)).2.2) := by
  obtain ⟨hR, hpage, hmax, hcar⟩ := hok
  have hR : isRepo repo = true := hR
  have hn := effectivePageSize_pos cfg.pageSize
  refine listCallS_exact cfg ht B cfg.decTags hn hpage .tagsList repo (tagsPath repo) (encTags repo) (.tags repo)
    { kind := .tagsList, repo := repo, listN := Pager.effectivePageSize cfg.pageSize, listLast := start }
    (hdec := hdec.1 repo) (h62 := tagsPath_no hR (by decide)) (h63 := tagsPath_no hR (by decide))
    (hcls := fun qs last hq => classifyTarget_tagsLink hR (by omega) hmax hq last)
    (hsrv := ?_) (hplan := ?_) (hr0 := fun l => ?_) rfl fuel st hcar
  · intro q hk hq items
    simp only [serverResp, hk, handleTagsList, hq]
    cases nextListResults cfg.o q.r.listN items <;> rfl
  · intro r rq hk hR' hN'
    simp only [plan, hk, hR', hN']
    rw [if_neg hpage]
  · have h := listReq_ok
      (r := { kind := .tagsList, repo := repo, listN := Pager.effectivePageSize cfg.pageSize, listLast := l })
      ⟨hR, by show Pager.effectivePageSize cfg.pageSize ≥ -1; omega, rfl⟩ rfl rfl hn hmax
    exact ⟨h.1, rfl, h.2.1, h.2.2⟩

include ht hdec in
theorem hop_repositories (start : Bytes) (hok : StepOK cfg fuel B st.1 (.repositories start)) :
    hopS cfg fuel B st (.repositories start) =
      (((direct cfg fuel B st.1 (.repositories start)).1, st.2 ++ (direct cfg fuel B st.1 (.repositories start)).2.1),
        (direct cfg fuel B st.1 (.repositories start)).2.2) := by
  obtain ⟨_, hpage, hmax, hcar⟩ := hok
  have hn := effectivePageSize_pos cfg.pageSize
  refine listCallS_exact cfg ht B cfg.decCatalog hn hpage .catalogList [] catalogPath encCatalog .repositories
    { kind := .catalogList, listN := Pager.effectivePageSize cfg.pageSize, listLast := start }
    (hdec := hdec.2) (h62 := catalogPath_no (by decide)) (h63 := catalogPath_no (by decide))
    (hcls := fun qs last hq => classifyTarget_catalogLink (by omega) hmax hq last)
    (hsrv := ?_) (hplan := ?_) (hr0 := fun l => ?_) rfl fuel st hcar
  · intro q hk hq items
    simp only [serverResp, hk, handleCatalogList]
    cases nextListResults cfg.o q.r.listN items <;> rfl
  · intro r rq hk hR' hN'
    simp only [plan, hk, hN']
    rw [if_neg hpage]
  · have h := listReq_ok (r := { kind := .catalogList, listN := Pager.effectivePageSize cfg.pageSize, listLast := l })
      ⟨by show Pager.effectivePageSize cfg.pageSize ≥ -1; omega, rfl⟩ rfl rfl hn hmax
    exact ⟨h.1, rfl, h.2.1, h.2.2⟩

/-! ### Every call -/

include ht in
theorem hop_getTag_any (repo tag : Bytes) (hok : StepOK cfg fuel B st.1 (.getTag repo tag)) :
    hopS cfg fuel B st (.getTag repo tag) =
      (((direct cfg fuel B st.1 (.getTag repo tag)).1, st.2 ++ (direct cfg fuel B st.1 (.getTag repo tag)).2.1),
        (direct cfg fuel B st.1 (.getTag repo tag)).2.2) := by
  obtain ⟨hwf, hcar⟩ := hok
  by_cases ho : cfg.o.omitDigest = true
  · simp only [ho, if_true] at hcar
    obtain ⟨hH, hcar⟩ := hcar
    simp only [direct, ho, if_true]
    cases ha : (B st.1 (.getTag repo tag)).2 with
    | err e =>
      rw [hop_getTag_omitted_large cfg ht fuel B st repo tag hwf ho (by rw [ha]; trivial)]
    | ok b =>
      rw [ha] at hcar
      cases b with
      | reader d content =>
        obtain ⟨h0, hmax, h2⟩ := hcar
        by_cases hsmall : d.size ≤ inMemThreshold
        · simp only [hsmall, if_true]
          exact hop_getTag_omitted_small cfg fuel B st repo tag hwf ho hH d content ha h0 hsmall
        · simp only [hsmall, if_false]
          rw [hop_getTag_omitted_large cfg ht fuel B st repo tag hwf ho
            (by rw [ha]; exact ⟨by omega, hmax, h2 (by omega)⟩)]
      | _ => exact False.elim hcar
  · have ho' : cfg.o.omitDigest = false := by simpa using ho
    simp only [ho', Bool.false_eq_true, if_false] at hcar
    simp only [direct, ho', Bool.false_eq_true, if_false]
    exact hop_single cfg ht fuel B st _ ho' hwf hcar

include ht hdec in
theorem hop_exact (c : Call) (hok : StepOK cfg fuel B st.1 c) :
    hopS cfg fuel B st c =
      (((direct cfg fuel B st.1 c).1, st.2 ++ (direct cfg fuel B st.1 c).2.1), (direct cfg fuel B st.1 c).2.2) := by
  cases c with
  | pushBlob repo d content => exact hop_pushBlob cfg ht fuel B st repo d content hok.1 hok.2
  | getTag repo tag => exact hop_getTag_any cfg ht fuel B st repo tag hok
  | tags repo start => exact hop_tags cfg ht hdec fuel B st repo start hok
  | repositories start => exact hop_repositories cfg ht hdec fuel B st start hok
  | referrers repo dg => exact hop_single cfg ht fuel B st _ hok.2.1 hok.1 hok.2.2
  | _ => exact hop_single cfg ht fuel B st _ trivial hok.1 hok.2

include ht hdec in
theorem hopHistory_exact : ∀ (cs : List Call) (st : σ × List Call), HistOK cfg fuel B st.1 cs →
    hopHistory cfg fuel B st cs =
      (((directHist cfg fuel B st.1 cs).1, st.2 ++ (directHist cfg fuel B st.1 cs).2.1), (directHist cfg fuel B st.1 cs).2.2) := by
  intro cs
  induction cs with
  | nil => intro st _; simp [hopHistory, directHist]
  | cons c cs ih =>
    intro st hok
    obtain ⟨h1, h2⟩ := hok
    have hstep := hop_exact cfg ht hdec fuel B st c h1
    unfold hopHistory directHist
    rw [hstep]
    have := ih ((direct cfg fuel B st.1 c).1, st.2 ++ (direct cfg fuel B st.1 c).2.1) h2
    rw [this]
    simp only [List.append_assoc]

/-! ### Histories of single calls: the property's equivalence, call by call -/

theorem direct_single (s : σ) (c : Call) (hs : Single cfg c) :
    direct cfg fuel B s c = ((B s (onWire c)).1, [onWire c], expect cfg c (B s (onWire c)).2) := by
  cases c with
  | pushBlob repo d content => exact hs.elim
  | tags repo start => exact hs.elim
  | repositories start => exact hs.elim
  | getTag repo tag =>
    have ho : cfg.o.omitDigest = false := hs
    simp [direct, ho, onWire]
  | _ => rfl

theorem stepOK_carriable (s : σ) (c : Call) (hs : Single cfg c)
    (hok : StepOK cfg fuel B s c) : Carriable cfg c (B s (onWire c)).2 := by
  cases c with
  | pushBlob repo d content => exact hs.elim
  | tags repo start => exact hs.elim
  | repositories start => exact hs.elim
  | getTag repo tag =>
    have ho : cfg.o.omitDigest = false := hs
    have := hok.2
    simpa [ho, onWire] using this
  | referrers repo dg => exact hok.2.2
  | _ => exact hok.2

include ht hdec in
theorem hopHistory_transparent : ∀ (cs : List Call) (st : σ × List Call), (∀ c ∈ cs, Single cfg c) →
    HistOK cfg fuel B st.1 cs → HistFaithful cfg B st.1 cs →
    (hopHistory cfg fuel B st cs).1 = ((directHistory B st.1 (cs.map onWire)).1, st.2 ++ cs.map onWire) ∧
    EquivAll cfg cs (hopHistory cfg fuel B st cs).2 (directHistory B st.1 (cs.map onWire)).2 := by
  intro cs
  induction cs with
  | nil => intro st _ _ _; simp [hopHistory, directHistory, EquivAll]
  | cons c cs ih =>
    intro st hs hok hf
    obtain ⟨h1, h2⟩ := hok
    obtain ⟨f1, f2, f3⟩ := hf
    have hsc := hs c (by simp)
    have hstep := hop_exact cfg ht hdec fuel B st c h1
    rw [direct_single cfg fuel B st.1 c hsc] at hstep h2
    have ih' := ih ((B st.1 (onWire c)).1, st.2 ++ [onWire c]) (fun c' hc' => hs c' (by simp [hc'])) h2 f3
    simp only [hopHistory, hstep, List.map_cons, directHistory]
    refine ⟨?_, ?_, ih'.2⟩
    · rw [ih'.1]; simp
    · exact expect_equiv cfg c _ hsc (stepOK_carriable cfg fuel B st.1 c hsc h1) f1 f2

/-! ### The exceptions -/

include ht in
/-- F3: the empty range never reaches the backend. -/
theorem hop_getBlobRange_empty (repo dg : Bytes) (o : Int) (hR : isRepo repo = true) (hD : isDigest dg = true)
    (h0 : 0 ≤ o) (hmax : o ≤ maxI64) :
    hopS cfg fuel B st (.getBlobRange repo dg o o) =
      (st, .fail (faultOf cfg false (mar cfg (serrErr .range416)))) := by
  have hfull : ¬ (o = 0 ∧ o < 0) := by omega
  obtain ⟨hcl, hm⟩ := blobGet_ranged hR hD (cliRangeHdr o o)
  have hcall : blobCall (cliRangeHdr o o) = none := (C03R.range_header_empty_refused h0 hmax h0 hmax).mpr (by omega)
  have hsend := serveS_refuse cfg B st hcl (e := serrErr .range416) (by simp [plan, hcall])
  have hreq : (Call.getBlobRange repo dg o o).request1 cfg =
      some { mkReq { kind := .blobGet, repo := repo, digest := dg } with range := cliRangeHdr o o } := by
    simp [Call.request1, hfull, mkReq?_valid (r := { kind := .blobGet, repo := repo, digest := dg }) ⟨hR, hD, rfl⟩ listN_default]
  rw [hopS_simple cfg fuel B st hreq]
  unfold simpleCallS
  simp only [hreq, hsend]
  rw [if_neg (requestsMade_error _ _ _ (wireStatus_error ht _).1), finish_error cfg ht _ _ _ (by intro own h; cases h), hm]

theorem onWire_full {repo dg : Bytes} {o0 o1 : Int} (h : o0 = 0 ∧ o1 < 0) :
    onWire (.getBlobRange repo dg o0 o1) = .getBlob repo dg := by
  simp [onWire, h]

/-- A range that is not the whole blob arrives as a range that is not the whole blob, and that one arrives as it is. -/
theorem onWire_range {repo dg : Bytes} {o0 o1 : Int} (h : ¬ (o0 = 0 ∧ o1 < 0)) :
    ∃ o1', onWire (.getBlobRange repo dg o0 o1) = .getBlobRange repo dg o0 o1' ∧ ¬ (o0 = 0 ∧ o1' < 0) ∧
      onWire (.getBlobRange repo dg o0 o1') = .getBlobRange repo dg o0 o1' := by
  by_cases hopen : o1 < 0
  · have h0 : ¬ o0 = 0 := fun e => h ⟨e, hopen⟩
    exact ⟨-1, by simp [onWire, hopen, h0], fun e => h0 e.1, by simp [onWire, h0]⟩
  · exact ⟨o1, by simp [onWire, hopen], h, by simp [onWire, hopen]⟩

theorem onWire_idem (c : Call) : onWire (onWire c) = onWire c := by
  cases c with
  | getBlobRange repo dg o0 o1 =>
    by_cases h : o0 = 0 ∧ o1 < 0
    · rw [onWire_full h]
      rfl
    · obtain ⟨o1', he, _, hfix⟩ := onWire_range (repo := repo) (dg := dg) h
      rw [he, hfix]
  | _ => simp [onWire]

theorem onWire_plain (c : Call) (h : c.plain = true) : onWire c = c := by
  cases c <;> first | rfl | cases h

theorem serveS_stateless (B : Backend) (log : List Call) (rq : HttpRequest) :
    (serveS cfg (fun (_ : Unit) c => ((), B c)) ((), log) rq).2 = (serverHandle cfg B rq).1 ∧
    (serveS cfg (fun (_ : Unit) c => ((), B c)) ((), log) rq).1.2 = log ++ (serverHandle cfg B rq).2 := by
  unfold serverHandle serveS
  cases hc : classify rq with
  | error pe => simp
  | ok r =>
    cases hp : plan cfg r rq with
    | error e => simp [hp]
    | ok oc => cases oc <;> simp [hp]

end hop

/-! ### The client's result depends on the answers only -/

section sim
/- Two transports whose answers do not depend on their state (as a server in front of a backend that is a
function of the call: `serveS_stateless`). -/
variable {σ₁ σ₂ : Type} (cfg : Cfg) (send₁ : σ₁ → HttpRequest → σ₁ × HttpResponse)
  (send₂ : σ₂ → HttpRequest → σ₂ × HttpResponse) (hsend : ∀ s₁ s₂ rq, (send₁ s₁ rq).2 = (send₂ s₂ rq).2)
include hsend

theorem simpleCallS_sim (s₁ : σ₁) (s₂ : σ₂) (c : Call) :
    (simpleCallS cfg send₁ s₁ c).2 = (simpleCallS cfg send₂ s₂ c).2 := by
  unfold simpleCallS
  cases c.request1 cfg with
  | none => rfl
  | some rq1 =>
    simp only [hsend s₁ s₂ rq1]
    split
    · cases c.refuse2 with
      | some f => rfl
      | none =>
        cases c.request2 rq1 (toResp cfg (send₂ s₂ rq1).2) with
        | none => rfl
        | some rq2 => simp only [hsend _ (send₂ s₂ rq1).1 rq2]
    · rfl

theorem listLoopS_sim (dec : Bytes → Option (List Bytes)) (n : Int) (r0 : Request) :
    ∀ (fuel : Nat) (s₁ : σ₁) (s₂ : σ₂) (rq : HttpRequest),
      (listLoopS cfg dec n send₁ r0 fuel s₁ rq).2 = (listLoopS cfg dec n send₂ r0 fuel s₂ rq).2 := by
  intro fuel
  induction fuel with
  | zero => intro s₁ s₂ rq; rfl
  | succ fuel ih =>
    intro s₁ s₂ rq
    unfold listLoopS
    rw [hsend s₁ s₂ rq]
    cases hp : clientListPage dec (fun _ => true) n (toResp cfg (send₂ s₂ rq).2) with
    | error e => cases e <;> rfl
    | ok p =>
      obtain ⟨items, nx⟩ := p
      cases nx with
      | none => rfl
      | some nx =>
        cases nx with
        | viaLast l =>
          have := ih (send₁ s₁ rq).1 (send₂ s₂ rq).1 (mkReq { r0 with listLast := l })
          rw [Prod.ext_iff] at this
          simp only [this.1, this.2]
        | viaLink t =>
          have := ih (send₁ s₁ rq).1 (send₂ s₂ rq).1 (ofTarget mGET t)
          rw [Prod.ext_iff] at this
          simp only [this.1, this.2]
        | bad => rfl

theorem listCallS_sim (dec : Bytes → Option (List Bytes)) (fuel : Nat) (s₁ : σ₁) (s₂ : σ₂) (r0 : Request) :
    (listCallS cfg dec send₁ fuel s₁ r0).2 = (listCallS cfg dec send₂ fuel s₂ r0).2 := by
  unfold listCallS
  split
  · rfl
  · have := listLoopS_sim cfg send₁ send₂ hsend dec (Pager.effectivePageSize cfg.pageSize) r0 fuel s₁ s₂ (mkReq r0)
    rw [Prod.ext_iff] at this
    simp only [this.1, this.2]

theorem clientCallS_sim (fuel : Nat) (s₁ : σ₁) (s₂ : σ₂) (c : Call) :
    (clientCallS cfg fuel send₁ s₁ c).2 = (clientCallS cfg fuel send₂ s₂ c).2 := by
  unfold clientCallS
  split
  · exact listCallS_sim cfg send₁ send₂ hsend _ fuel s₁ s₂ _
  · exact listCallS_sim cfg send₁ send₂ hsend _ fuel s₁ s₂ _
  · simp only [referrersCallS, hsend s₁ s₂]
    split <;> rfl
  · exact simpleCallS_sim cfg send₁ send₂ hsend s₁ s₂ _

end sim

theorem clientCall_serverHandle (cfg : Cfg) (fuel : Nat) (B : Backend) (log : List Call) (c : Call) :
    clientCall cfg fuel (fun rq => (serverHandle cfg B rq).1) c =
      (hopS cfg fuel (fun (_ : Unit) c => ((), B c)) ((), log) c).2 := by
  unfold clientCall hopS
  exact clientCallS_sim cfg (fun (_ : Unit) rq => ((), (serverHandle cfg B rq).1)) (serveS cfg (fun (_ : Unit) c => ((), B c)))
    (fun _ s₂ rq => ((serveS_stateless cfg B s₂.2 rq).1).symm) fuel () ((), log) c

/-! ### F31: a call by digest reports the digest asked for, over ANY transport -/

theorem liftCRes_desc? (cfg : Cfg) (xs : List (HttpRequest × HttpResponse)) (r : CRes) :
    (liftCRes cfg xs r).desc? = r.desc? := by
  cases r with
  | err e => cases e <;> rfl
  | _ => rfl

theorem dec_requested (cfg : Cfg) (c : Call) {dg : Bytes} (h : c.requested = some dg) :
    (c.dec cfg).requested = some dg := by
  cases c <;> simp only [Call.requested] at h <;> first | exact h | cases h

theorem finish_requested (cfg : Cfg) (c : Call) {dg : Bytes} (hc : c.requested = some dg) (hne : dg ≠ [])
    (xs : List (HttpRequest × HttpResponse)) {d : Desc} (h : (finish cfg c xs).desc? = some d) : d.digest = dg := by
  unfold finish at h
  rw [liftCRes_desc?] at h
  exact clientDecode_requested cfg.H resolveLocal _ (dec_requested cfg c hc) hne _ h

theorem clientCallS_requested {σ : Type} (cfg : Cfg) (fuel : Nat) (send : σ → HttpRequest → σ × HttpResponse) (s : σ)
    (c : Call) {dg : Bytes} (hc : c.requested = some dg) (hne : dg ≠ []) {d : Desc}
    (h : (clientCallS cfg fuel send s c).2.desc? = some d) : d.digest = dg := by
  -- a call that names a digest is no listing, is not refused half way, and sends a request
  obtain ⟨hl, hr, hnr⟩ : c.isListing = false ∧ c.refuse2 = none ∧ c.noRequest cfg = finish cfg c [] := by
    cases c <;> first | exact ⟨rfl, rfl, rfl⟩ | cases hc
  rw [clientCallS_simple cfg fuel send s c hl] at h
  unfold simpleCallS at h
  split at h
  · rw [hnr] at h; exact finish_requested cfg c hc hne _ h
  · split at h
    · rw [hr] at h
      split at h
      · rename_i hh; cases hh
      · exact finish_requested cfg c hc hne _ h
      · exact finish_requested cfg c hc hne _ h
    · exact finish_requested cfg c hc hne _ h

/-! ### The size of the marshalled error body -/

theorem one_le_length_ite {p : Prop} [Decidable p] {a b : Bytes} (ha : 1 ≤ a.length) (hb : 1 ≤ b.length) :
    1 ≤ (if p then a else b).length := by
  by_cases h : p
  · rwa [if_pos h]
  · rwa [if_neg h]

/-- every branch of `jsonChar` is a non-empty literal -/
theorem jsonChar_ne_nil (c : UInt8) : 1 ≤ (jsonChar c).length := by
  unfold jsonChar
  repeat' apply one_le_length_ite
  all_goals exact Nat.le_add_left 1 _

theorem jsonStr_length_ge (s : Bytes) : s.length ≤ (jsonStr s).length := by
  have h : ∀ s : Bytes, s.length ≤ (s.flatMap jsonChar).length := by
    intro s
    induction s with
    | nil => simp
    | cons c s ih =>
      have := jsonChar_ne_nil c
      simp only [List.flatMap_cons, List.length_append, List.length_cons]
      omega
  have := h s
  simp only [jsonStr, List.length_append, List.length_cons, List.length_nil]
  omega

/-- the marshalled error body is at least as long as the message in it -/
theorem errBodyJSON_length_ge (w : ErrCodec.Wire) (h : w.2.1 ≠ []) : w.2.1.length ≤ (errBodyJSON w).length := by
  have := jsonStr_length_ge w.2.1
  simp only [errBodyJSON, h, if_false, List.length_append]
  omega

end OciModel.Wire
