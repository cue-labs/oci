/-
General facts about `OciModel.Regex`: the derivative matcher decides the language
(`matches_iff_lang`), plus the characterisations of the language of the usual shapes
(star/plus of a byte class, concatenation with one byte, associativity, …) that the proofs
about ociref's three patterns use (RefReLemmas.lean).
Core Lean only.
-/
import OciModel.Regex

namespace OciModel.Regex

/-! ### Star and plus, inductively -/

theorem lang_star_nil (a : Re) : lang (.star a) [] :=
  ⟨[], rfl, by simp⟩

theorem lang_star_append {a : Re} {x y : Bytes} (hx : lang a x) (hy : lang (.star a) y) :
    lang (.star a) (x ++ y) := by
  obtain ⟨parts, rfl, hp⟩ := hy
  refine ⟨x :: parts, by simp, ?_⟩
  intro p hp'
  rcases List.mem_cons.mp hp' with h | h
  · subst h; exact hx
  · exact hp p h

theorem lang_star_induction {a : Re} {P : Bytes → Prop} (nil : P [])
    (app : ∀ x y, lang a x → lang (.star a) y → P y → P (x ++ y)) :
    ∀ s, lang (.star a) s → P s := by
  intro s ⟨parts, hs, hp⟩
  subst hs
  induction parts with
  | nil => exact nil
  | cons p ps ih =>
    have hps : ∀ q ∈ ps, lang a q := fun q hq => hp q (List.mem_cons_of_mem _ hq)
    simpa using app p ps.flatten (hp p List.mem_cons_self) ⟨ps, rfl, hps⟩ (ih hps)

theorem lang_star_cons_iff {a : Re} {c : UInt8} {s : Bytes} :
    lang (.star a) (c :: s) ↔ ∃ x y, s = x ++ y ∧ lang a (c :: x) ∧ lang (.star a) y := by
  constructor
  · intro h
    suffices H : ∀ t, lang (.star a) t → ∀ c s, t = c :: s →
        ∃ x y, s = x ++ y ∧ lang a (c :: x) ∧ lang (.star a) y from H _ h c s rfl
    refine lang_star_induction ?_ ?_
    · intro c s e; cases e
    · intro x y hx hy ih c s e
      cases x with
      | nil => exact ih c s (by simpa using e)
      | cons b x' =>
        simp only [List.cons_append, List.cons.injEq] at e
        obtain ⟨rfl, rfl⟩ := e
        exact ⟨x', y, rfl, hx, hy⟩
  · rintro ⟨x, y, rfl, hx, hy⟩
    exact lang_star_append (x := c :: x) hx hy

theorem lang_plus_iff {a : Re} {s : Bytes} :
    lang (.plus a) s ↔ ∃ x y, s = x ++ y ∧ lang a x ∧ lang (.star a) y := by
  constructor
  · rintro ⟨parts, hne, rfl, hp⟩
    cases parts with
    | nil => exact absurd rfl hne
    | cons p ps =>
      exact ⟨p, ps.flatten, by simp, hp p List.mem_cons_self,
        ps, rfl, fun q hq => hp q (List.mem_cons_of_mem _ hq)⟩
  · rintro ⟨x, y, rfl, hx, parts, rfl, hp⟩
    refine ⟨x :: parts, by simp, by simp, ?_⟩
    intro p hp'
    rcases List.mem_cons.mp hp' with h | h
    · subst h; exact hx
    · exact hp p h

theorem lang_star_of_plus {a : Re} {s : Bytes} (h : lang (.plus a) s) : lang (.star a) s := by
  obtain ⟨x, y, rfl, hx, hy⟩ := lang_plus_iff.mp h
  exact lang_star_append hx hy

theorem lang_star_iff_nil_or_plus {a : Re} {s : Bytes} :
    lang (.star a) s ↔ s = [] ∨ lang (.plus a) s := by
  constructor
  · intro h
    cases s with
    | nil => exact Or.inl rfl
    | cons c s =>
      obtain ⟨x, y, rfl, hx, hy⟩ := lang_star_cons_iff.mp h
      exact Or.inr (lang_plus_iff.mpr ⟨c :: x, y, rfl, hx, hy⟩)
  · rintro (rfl | h)
    · exact lang_star_nil a
    · exact lang_star_of_plus h

theorem lang_plus_cons_iff {a : Re} {c : UInt8} {s : Bytes} :
    lang (.plus a) (c :: s) ↔ ∃ x y, s = x ++ y ∧ lang a (c :: x) ∧ lang (.star a) y := by
  rw [← lang_star_cons_iff]
  constructor
  · exact lang_star_of_plus
  · intro h
    rcases lang_star_iff_nil_or_plus.mp h with h | h
    · cases h
    · exact h

/-! ### The matcher decides the language -/

theorem nullable_iff (r : Re) : nullable r = true ↔ lang r [] := by
  induction r with
  | eps => simp [nullable, lang]
  | cls rs => simp [nullable, lang]
  | cat a b iha ihb =>
    simp only [nullable, Bool.and_eq_true, iha, ihb, lang]
    constructor
    · rintro ⟨ha, hb⟩; exact ⟨[], [], rfl, ha, hb⟩
    · rintro ⟨x, y, e, ha, hb⟩
      obtain ⟨rfl, rfl⟩ := List.append_eq_nil_iff.mp e.symm
      exact ⟨ha, hb⟩
  | alt a b iha ihb => simp [nullable, lang, iha, ihb]
  | star a _ => simp only [nullable, true_iff]; exact lang_star_nil a
  | plus a iha =>
    simp only [nullable, iha]
    constructor
    · intro h; exact lang_plus_iff.mpr ⟨[], [], rfl, h, lang_star_nil a⟩
    · intro h
      obtain ⟨x, y, e, hx, _⟩ := lang_plus_iff.mp h
      obtain ⟨rfl, rfl⟩ := List.append_eq_nil_iff.mp e.symm
      exact hx
  | opt a _ => simp [nullable, lang]
  | grp n a iha => simpa [nullable, lang] using iha

theorem lang_none (s : Bytes) : ¬ lang none s := by
  simp [none, lang, inClass]

theorem lang_cat_cons_iff {a b : Re} {c : UInt8} {s : Bytes} :
    lang (.cat a b) (c :: s) ↔
      (∃ x y, s = x ++ y ∧ lang a (c :: x) ∧ lang b y) ∨ (lang a [] ∧ lang b (c :: s)) := by
  simp only [lang]
  constructor
  · rintro ⟨x, y, e, ha, hb⟩
    cases x with
    | nil => right; simp only [List.nil_append] at e; subst e; exact ⟨ha, hb⟩
    | cons d x' =>
      simp only [List.cons_append, List.cons.injEq] at e
      obtain ⟨rfl, rfl⟩ := e
      exact Or.inl ⟨x', y, rfl, ha, hb⟩
  · rintro (⟨x, y, rfl, ha, hb⟩ | ⟨ha, hb⟩)
    · exact ⟨c :: x, y, rfl, ha, hb⟩
    · exact ⟨[], c :: s, rfl, ha, hb⟩

theorem lang_cls_cons_iff {rs : List (Nat × Nat)} {c : UInt8} {s : Bytes} :
    lang (.cls rs) (c :: s) ↔ s = [] ∧ inClass rs c = true := by
  simp only [lang, List.cons.injEq]
  constructor
  · rintro ⟨b, ⟨rfl, rfl⟩, h⟩; exact ⟨rfl, h⟩
  · rintro ⟨rfl, h⟩; exact ⟨c, ⟨rfl, rfl⟩, h⟩

theorem deriv_iff (c : UInt8) (r : Re) : ∀ s : Bytes, lang (deriv c r) s ↔ lang r (c :: s) := by
  induction r with
  | eps => intro s; simp [deriv, lang_none, lang]
  | cls rs =>
    intro s
    rw [lang_cls_cons_iff, deriv]
    split
    · rename_i h; simp only [lang, h, and_true]
    · rename_i h; simp only [lang_none, h, Bool.false_eq_true, and_false]
  | cat a b iha ihb =>
    intro s
    rw [lang_cat_cons_iff]
    simp only [deriv]
    split
    · rename_i hn
      simp only [lang, iha, ihb, (nullable_iff a).mp hn, true_and]
    · rename_i hn
      simp only [lang, iha, ← nullable_iff, hn, Bool.false_eq_true, false_and, or_false]
  | alt a b iha ihb => intro s; simp [deriv, lang, iha, ihb]
  | star a iha =>
    intro s
    rw [lang_star_cons_iff]
    simp only [deriv, lang, iha]
  | plus a iha =>
    intro s
    rw [lang_plus_cons_iff]
    simp only [deriv, lang, iha]
  | opt a iha => intro s; simp [deriv, lang, iha]
  | grp n a iha => intro s; simp [deriv, lang, iha]

theorem matches_iff_lang (r : Re) (s : Bytes) : r.matches s = true ↔ lang r s := by
  induction s generalizing r with
  | nil => simpa [Re.matches] using nullable_iff r
  | cons c s ih => simp only [Re.matches, ih, deriv_iff]

/-- Membership is decided by running the matcher: this is what `decide` evaluates on the goals
`lang …` and `¬ lang …` in RefReLemmas.lean and Props/C17R.lean. -/
instance (r : Re) (s : Bytes) : Decidable (lang r s) :=
  decidable_of_iff _ (matches_iff_lang r s)

/-! ### Byte classes

`inClass` range by range, as conditions on `b.toNat`. -/

theorem inClass_nil (b : UInt8) : inClass [] b = false := rfl

theorem inClass_cons (r : Nat × Nat) (rs : List (Nat × Nat)) (b : UInt8) :
    inClass (r :: rs) b = ((r.1 ≤ b.toNat && b.toNat ≤ r.2) || inClass rs b) := rfl

theorem inClass_one (r : Nat × Nat) (b : UInt8) :
    inClass [r] b = (decide (r.1 ≤ b.toNat) && decide (b.toNat ≤ r.2)) := Bool.or_false _

/-- Membership in a single-byte class. -/
theorem inClass_single {n : Nat} {b : UInt8} : inClass [(n, n)] b = true ↔ b.toNat = n := by
  simp only [inClass_one, Bool.and_eq_true, decide_eq_true_eq]
  omega

theorem inClass_byte {n : Nat} (c : UInt8) (hc : c.toNat = n) (b : UInt8) :
    inClass [(n, n)] b = (b == c) := by
  rw [Bool.eq_iff_iff, inClass_single, ← hc, UInt8.toNat_inj, beq_iff_eq]

/-- Every byte but one. -/
theorem inClass_compl {n : Nat} (c : UInt8) (hc : c.toNat = n + 1) (b : UInt8) :
    inClass [(0, n), (n + 2, 255)] b = (b != c) := by
  have := b.toNat_lt
  rw [Bool.eq_iff_iff, inClass_cons, inClass_one, bne_iff_ne, ne_eq, ← UInt8.toNat_inj, hc]
  simp only [Bool.or_eq_true, Bool.and_eq_true, decide_eq_true_eq]
  omega

/-! ### Languages of the usual shapes -/

/-- Two expressions with the same language. -/
def Equiv (a b : Re) : Prop := ∀ s, lang a s ↔ lang b s

theorem Equiv.refl (a : Re) : Equiv a a := fun _ => Iff.rfl
theorem Equiv.symm {a b : Re} (h : Equiv a b) : Equiv b a := fun s => (h s).symm
theorem Equiv.trans {a b c : Re} (h₁ : Equiv a b) (h₂ : Equiv b c) : Equiv a c :=
  fun s => (h₁ s).trans (h₂ s)

theorem Equiv.cat {a a' b b' : Re} (ha : Equiv a a') (hb : Equiv b b') :
    Equiv (.cat a b) (.cat a' b') := by
  intro s; simp only [lang]
  constructor
  · rintro ⟨x, y, e, h1, h2⟩; exact ⟨x, y, e, (ha x).mp h1, (hb y).mp h2⟩
  · rintro ⟨x, y, e, h1, h2⟩; exact ⟨x, y, e, (ha x).mpr h1, (hb y).mpr h2⟩

theorem Equiv.alt {a a' b b' : Re} (ha : Equiv a a') (hb : Equiv b b') :
    Equiv (.alt a b) (.alt a' b') := by
  intro s; simp only [lang, ha s, hb s]

theorem Equiv.opt {a a' : Re} (ha : Equiv a a') : Equiv (.opt a) (.opt a') := by
  intro s; simp only [lang, ha s]

theorem Equiv.grp (n : Nat) (a : Re) : Equiv (.grp n a) a := fun _ => Iff.rfl

theorem Equiv.star {a a' : Re} (ha : Equiv a a') : Equiv (.star a) (.star a') := by
  intro s; simp only [lang]
  constructor
  · rintro ⟨parts, e, h⟩; exact ⟨parts, e, fun p hp => (ha p).mp (h p hp)⟩
  · rintro ⟨parts, e, h⟩; exact ⟨parts, e, fun p hp => (ha p).mpr (h p hp)⟩

theorem Equiv.plus {a a' : Re} (ha : Equiv a a') : Equiv (.plus a) (.plus a') := by
  intro s; simp only [lang]
  constructor
  · rintro ⟨parts, n, e, h⟩; exact ⟨parts, n, e, fun p hp => (ha p).mp (h p hp)⟩
  · rintro ⟨parts, n, e, h⟩; exact ⟨parts, n, e, fun p hp => (ha p).mpr (h p hp)⟩

theorem Equiv.cat_assoc (a b c : Re) : Equiv (.cat a (.cat b c)) (.cat (.cat a b) c) := by
  intro s; simp only [lang]
  constructor
  · rintro ⟨x, _, rfl, ha, y, z, rfl, hb, hc⟩
    exact ⟨x ++ y, z, by simp, ⟨x, y, rfl, ha, hb⟩, hc⟩
  · rintro ⟨_, z, rfl, ⟨x, y, rfl, ha, hb⟩, hc⟩
    exact ⟨x, y ++ z, by simp, ha, y, z, rfl, hb, hc⟩

theorem lang_cat_intro {a b : Re} {x y : Bytes} (hx : lang a x) (hy : lang b y) :
    lang (.cat a b) (x ++ y) := ⟨x, y, rfl, hx, hy⟩

theorem lang_cls_iff {rs : List (Nat × Nat)} {s : Bytes} :
    lang (.cls rs) s ↔ ∃ b, s = [b] ∧ inClass rs b = true := Iff.rfl

theorem not_lang_cls_nil {rs : List (Nat × Nat)} : ¬ lang (.cls rs) [] := by
  simp [lang]

theorem lang_star_cls_iff {rs : List (Nat × Nat)} {s : Bytes} :
    lang (.star (.cls rs)) s ↔ ∀ b ∈ s, inClass rs b = true := by
  induction s with
  | nil => simp [lang_star_nil]
  | cons c s ih =>
    rw [lang_star_cons_iff]
    simp only [lang_cls_cons_iff, List.mem_cons, forall_eq_or_imp]
    constructor
    · rintro ⟨x, y, rfl, ⟨rfl, hc⟩, hy⟩
      exact ⟨hc, by simpa using ih.mp (by simpa using hy)⟩
    · rintro ⟨hc, hs⟩
      exact ⟨[], s, rfl, ⟨rfl, hc⟩, ih.mpr hs⟩

theorem lang_plus_cls_iff {rs : List (Nat × Nat)} {s : Bytes} :
    lang (.plus (.cls rs)) s ↔ s ≠ [] ∧ ∀ b ∈ s, inClass rs b = true := by
  rw [← lang_star_cls_iff, lang_star_iff_nil_or_plus]
  constructor
  · intro h
    refine ⟨?_, Or.inr h⟩
    rintro rfl
    exact absurd ((nullable_iff _).mpr h) (by simp [nullable])
  · rintro ⟨hne, h⟩
    exact h.resolve_left hne

theorem lang_cat_cls_iff {rs : List (Nat × Nat)} {b : Re} {s : Bytes} :
    lang (.cat (.cls rs) b) s ↔ ∃ c t, s = c :: t ∧ inClass rs c = true ∧ lang b t := by
  simp only [lang]
  constructor
  · rintro ⟨_, y, rfl, ⟨c, rfl, hc⟩, hy⟩; exact ⟨c, y, rfl, hc, hy⟩
  · rintro ⟨c, t, rfl, hc, ht⟩; exact ⟨[c], t, rfl, ⟨c, rfl, hc⟩, ht⟩

theorem lang_cat_cls_cons_iff {rs : List (Nat × Nat)} {b : Re} {c : UInt8} {t : Bytes} :
    lang (.cat (.cls rs) b) (c :: t) ↔ inClass rs c = true ∧ lang b t := by
  rw [lang_cat_cls_iff]
  constructor
  · rintro ⟨c', t', e, hc, ht⟩
    simp only [List.cons.injEq] at e
    obtain ⟨rfl, rfl⟩ := e
    exact ⟨hc, ht⟩
  · rintro ⟨hc, ht⟩; exact ⟨c, t, rfl, hc, ht⟩

theorem lang_cat_cls_right_iff {a : Re} {rs : List (Nat × Nat)} {s : Bytes} :
    lang (.cat a (.cls rs)) s ↔ ∃ x c, s = x ++ [c] ∧ lang a x ∧ inClass rs c = true := by
  simp only [lang]
  constructor
  · rintro ⟨x, _, rfl, hx, c, rfl, hc⟩; exact ⟨x, c, rfl, hx, hc⟩
  · rintro ⟨x, c, rfl, hx, hc⟩; exact ⟨x, [c], rfl, hx, c, rfl, hc⟩

theorem lang_opt_iff {a : Re} {s : Bytes} : lang (.opt a) s ↔ s = [] ∨ lang a s := Iff.rfl

theorem lang_alt_iff {a b : Re} {s : Bytes} : lang (.alt a b) s ↔ lang a s ∨ lang b s := Iff.rfl

theorem lang_cat_iff {a b : Re} {s : Bytes} :
    lang (.cat a b) s ↔ ∃ x y, s = x ++ y ∧ lang a x ∧ lang b y := Iff.rfl

theorem lang_grp_iff {n : Nat} {a : Re} {s : Bytes} : lang (.grp n a) s ↔ lang a s := Iff.rfl

theorem lang_cls_byte {n : Nat} (c : UInt8) (hc : c.toNat = n) (s : Bytes) :
    lang (.cls [(n, n)]) s ↔ s = [c] := by
  simp only [lang, inClass_byte c hc, beq_iff_eq]
  constructor
  · rintro ⟨b, rfl, rfl⟩; rfl
  · rintro rfl; exact ⟨c, rfl, rfl⟩

theorem lang_cat_star_cases {r q : Re} {s : Bytes} (h : lang (.cat r (.star q)) s) :
    lang r s ∨ lang (.cat r (.plus q)) s := by
  obtain ⟨x, y, rfl, hx, hy⟩ := h
  rcases lang_star_iff_nil_or_plus.mp hy with rfl | hy
  · left; simpa using hx
  · right; exact ⟨x, y, rfl, hx, hy⟩

/-- An optional group behind a separator byte; `[]` stands for an absent group. -/
theorem lang_opt_sep {n : Nat} {c : UInt8} (hc : c.toNat = n) {r : Re} (hr : ¬ lang r [])
    (y : Bytes) : lang (.opt (.cat (.cls [(n, n)]) r)) y ↔
      ∃ t, (t = [] ∨ lang r t) ∧ y = if t ≠ [] then c :: t else [] := by
  rw [lang_opt_iff, lang_cat_cls_iff]
  constructor
  · rintro (rfl | ⟨c', t, rfl, hc', ht⟩)
    · exact ⟨[], Or.inl rfl, by simp⟩
    · have hne : t ≠ [] := fun e => hr (e ▸ ht)
      obtain rfl : c' = c := UInt8.toNat_inj.mp ((inClass_single.mp hc').trans hc.symm)
      exact ⟨t, Or.inr ht, by simp [hne]⟩
  · rintro ⟨t, ht, rfl⟩
    by_cases h : t = []
    · left; simp [h]
    · right; exact ⟨c, t, by simp [h], inClass_single.mpr hc, ht.resolve_left h⟩

theorem Equiv.plus_unfold (a : Re) : Equiv (.plus a) (.cat a (.star a)) :=
  fun _ => lang_plus_iff

/-! ### Bytes an expression never uses -/

/-- No byte class of the expression contains `c`. -/
def avoids (c : UInt8) : Re → Bool
  | .eps => true
  | .cls rs => !inClass rs c
  | .cat a b => avoids c a && avoids c b
  | .alt a b => avoids c a && avoids c b
  | .star a => avoids c a
  | .plus a => avoids c a
  | .opt a => avoids c a
  | .grp _ a => avoids c a

theorem not_mem_of_avoids {c : UInt8} {r : Re} (h : avoids c r = true) :
    ∀ {s : Bytes}, lang r s → c ∉ s := by
  induction r with
  | eps => intro s hs; simp only [lang] at hs; subst hs; simp
  | cls rs =>
    rintro s ⟨b, rfl, hb⟩
    simp only [avoids, Bool.not_eq_true'] at h
    simp only [List.mem_singleton]
    rintro rfl
    rw [h] at hb; cases hb
  | cat a b iha ihb =>
    simp only [avoids, Bool.and_eq_true] at h
    rintro s ⟨x, y, rfl, hx, hy⟩
    simp only [List.mem_append, not_or]
    exact ⟨iha h.1 hx, ihb h.2 hy⟩
  | alt a b iha ihb =>
    simp only [avoids, Bool.and_eq_true] at h
    rintro s (hs | hs)
    · exact iha h.1 hs
    · exact ihb h.2 hs
  | star a iha =>
    rintro s ⟨parts, rfl, hp⟩
    simp only [List.mem_flatten, not_exists, not_and]
    intro p hpm
    exact iha h (hp p hpm)
  | plus a iha =>
    rintro s ⟨parts, _, rfl, hp⟩
    simp only [List.mem_flatten, not_exists, not_and]
    intro p hpm
    exact iha h (hp p hpm)
  | opt a iha =>
    rintro s (rfl | hs)
    · simp
    · exact iha h hs
  | grp n a iha => intro s hs; exact iha h hs

theorem lang_cat_alt_left {a b c : Re} {s : Bytes} :
    lang (.cat (.alt a b) c) s ↔ lang (.cat a c) s ∨ lang (.cat b c) s := by
  simp only [lang]
  constructor
  · rintro ⟨x, y, e, h | h, hc⟩
    · exact Or.inl ⟨x, y, e, h, hc⟩
    · exact Or.inr ⟨x, y, e, h, hc⟩
  · rintro (⟨x, y, e, h, hc⟩ | ⟨x, y, e, h, hc⟩)
    · exact ⟨x, y, e, Or.inl h, hc⟩
    · exact ⟨x, y, e, Or.inr h, hc⟩

theorem lang_cat_opt_left {a b : Re} {s : Bytes} :
    lang (.cat (.opt a) b) s ↔ lang b s ∨ lang (.cat a b) s := by
  simp only [lang]
  constructor
  · rintro ⟨x, y, e, rfl | h, hb⟩
    · left; simpa [e] using hb
    · exact Or.inr ⟨x, y, e, h, hb⟩
  · rintro (hb | ⟨x, y, e, h, hb⟩)
    · exact ⟨[], s, rfl, Or.inl rfl, hb⟩
    · exact ⟨x, y, e, Or.inr h, hb⟩

end OciModel.Regex
