/-
Lemmas about the concurrent view `MemConc` of the in-memory registry, for `Props/C08`: the digest
invariant over every interleaving of atomic steps, repositories are never removed, the snapshot of
a commit survives until its second half, outputs and predicates along a schedule, the commit lock
(`CommitSerial`), positions in a schedule, and positions in event traces.

`H` stays a parameter; nothing is assumed about it.
-/
import OciModel.MemConcStep
import OciModel.MemLemmas

namespace OciModel.MemConc
open OciModel OciModel.Mem

section
variable (H : Bytes → Bytes)

theorem astep_op_snaps (c : CState) (o : Op) : (astep H c (.op o)).1.snaps = c.snaps := rfl

theorem arun_nil (c : CState) : arun H c [] = c := rfl

/-! ### The digest invariant over interleavings -/

/-- The invariant of the concurrent state: the sequential digest invariant, and every pending
snapshot hashes to the digest it will be stored under. -/
def CInv (c : CState) : Prop := Mem.Inv H c.st ∧ SnapsOk H c.snaps

theorem cinv_init (imm : Bool) : CInv H ⟨Mem.init imm, []⟩ := ⟨inv_init H imm, snapsOk_nil H⟩

theorem cinv_astep (c : CState) (a : AStep) (hc : CInv H c) : CInv H (astep H c a).1 := by
  obtain ⟨hs, hsn⟩ := hc
  refine ⟨?_, snapsOk_astep H c a hsn⟩
  cases a with
  | op o => exact inv_step H c.st o hs
  | commitCheck r id dig =>
    rcases commitCheck_spec H c r id dig with ⟨_, h⟩ | ⟨_, _, _, _, _, h⟩ | ⟨rp, b, hb, _, _, h⟩ | ⟨rp, b, hb, _, _, h⟩
    · rw [h]; exact hs
    · rw [h]; exact hs
    · rw [h]; exact inv_putBuffer H hs (inv_getBuffer H hs hb)
    · rw [h]; exact inv_putBuffer H hs (inv_getBuffer H hs hb)
  | commitStore r id =>
    rcases commitStore_spec H c r id with ⟨_, h⟩ | ⟨_, _, _, _, h⟩ | ⟨dig, data, rp, hl, hg, h⟩
    · rw [h]; exact hs
    · rw [h]; exact hs
    · rw [h]
      have hrp := hs r rp hg
      exact inv_putRepo H hs ⟨mapOK_ainsert H (hsn (r, id) dig data hl) hrp.1, hrp.2⟩

theorem cinv_arun (c : CState) (sched : List AStep) (hc : CInv H c) : CInv H (arun H c sched) :=
  arun_induction H (cinv_astep H) c hc sched

/-! ### Repositories are never removed -/

/-- every repository of `s` is still a repository of `s'` -/
def Keeps (s s' : State) : Prop := ∀ r, (getRepo s r).isSome = true → (getRepo s' r).isSome = true

theorem Keeps.refl (s : State) : Keeps s s := fun _ h => h

theorem Keeps.trans {s s1 s2 : State} (h1 : Keeps s s1) (h2 : Keeps s1 s2) : Keeps s s2 :=
  fun r h => h2 r (h1 r h)

theorem Keeps.put {s s1 : State} (h : Keeps s s1) (r : Bytes) (rp : Repo) : Keeps s (putRepo s1 r rp) := by
  intro r' hr
  rw [getRepo_putRepo]
  by_cases e : r = r'
  · simp [e]
  · simp [e]; exact h r' hr

theorem Keeps.putBuf {s s1 : State} (h : Keeps s s1) (r : Bytes) (rp : Repo) (id : Bytes) (b : Buffer) :
    Keeps s (putBuffer s1 r rp id b) := h.put r _

theorem keeps_step (s : State) (op : Op) : Keeps s (step H s op).1 := by
  rcases step_touch H s op with h | ⟨rp', n, h, _⟩
  · rw [h]; exact Keeps.refl s
  · rw [h]; exact (Keeps.refl s).put _ rp'

theorem keeps_astep (c : CState) (a : AStep) : Keeps c.st (astep H c a).1.st := by
  cases a with
  | op o => exact keeps_step H c.st o
  | commitCheck r id dig =>
    rcases commitCheck_spec H c r id dig with ⟨_, h⟩ | ⟨_, _, _, _, _, h⟩ | ⟨rp, b, _, _, _, h⟩ | ⟨rp, b, _, _, _, h⟩
    · rw [h]; exact Keeps.refl _
    · rw [h]; exact Keeps.refl _
    · rw [h]; exact (Keeps.refl _).putBuf _ _ _ _
    · rw [h]; exact (Keeps.refl _).putBuf _ _ _ _
  | commitStore r id =>
    rcases commitStore_spec H c r id with ⟨_, h⟩ | ⟨_, _, _, _, h⟩ | ⟨dig, data, rp, _, _, h⟩
    · rw [h]; exact Keeps.refl _
    · rw [h]; exact Keeps.refl _
    · rw [h]; exact (Keeps.refl _).put _ _

theorem keeps_arun (c : CState) (sched : List AStep) : Keeps c.st (arun H c sched).st := by
  induction sched generalizing c with
  | nil => exact Keeps.refl _
  | cons a rest ih => exact (keeps_astep H c a).trans (ih _)

theorem Keeps.some {s s' : State} (h : Keeps s s') {r : Bytes} {rp : Repo} (hg : getRepo s r = some rp) :
    ∃ rp', getRepo s' r = some rp' := by
  have := h r (by simp [hg])
  cases hg' : getRepo s' r with
  | none => simp [hg'] at this
  | some rp' => exact ⟨rp', rfl⟩

/-! ### The snapshot survives everything but a commit of the same session -/

/-- `a` is one of the two critical sections of a commit of session `(r, id)`. Such a step takes the
session's commit lock (`TakesCommitMu r id`; so do `wCommit` and `wCancel`, which are not commit halves). -/
def IsCommitOf (r id : Bytes) : AStep → Prop
  | .op _ => False
  | .commitCheck r' id' _ => r' = r ∧ id' = id
  | .commitStore r' id' => r' = r ∧ id' = id

/-- no step of `mid` is a critical section of a commit of session `(r, id)`; anything else —
writes to that very session included — is allowed -/
def NoCommitOf (r id : Bytes) (mid : List AStep) : Prop := ∀ a ∈ mid, ¬ IsCommitOf r id a

theorem snap_astep (c : CState) (a : AStep) {r id : Bytes} (ha : ¬ IsCommitOf r id a) :
    lookupSnap (r, id) (astep H c a).1.snaps = lookupSnap (r, id) c.snaps := by
  cases a with
  | op o => rfl
  | commitCheck r' id' dig =>
    have hne : (r', id') ≠ (r, id) := by
      intro e; cases e; exact ha ⟨rfl, rfl⟩
    rcases commitCheck_spec H c r' id' dig with ⟨_, h⟩ | ⟨_, _, _, _, _, h⟩ | ⟨rp, b, _, _, _, h⟩ | ⟨rp, b, _, _, _, h⟩
    · rw [h]
    · rw [h]
    · rw [h]
    · rw [h]
      show lookupSnap (r, id) (((r', id'), (dig, b.buf)) :: eraseSnap (r', id') c.snaps) = _
      rw [lookupSnap_cons_ne hne, lookupSnap_eraseSnap_ne hne]
  | commitStore r' id' =>
    have hne : (r', id') ≠ (r, id) := by
      intro e; cases e; exact ha ⟨rfl, rfl⟩
    rcases commitStore_spec H c r' id' with ⟨_, h⟩ | ⟨_, _, _, _, h⟩ | ⟨dig, data, rp, _, _, h⟩
    · rw [h]
    · rw [h]
    · rw [h]
      show lookupSnap (r, id) (eraseSnap (r', id') c.snaps) = _
      rw [lookupSnap_eraseSnap_ne hne]

theorem snap_arun (c : CState) (mid : List AStep) {r id : Bytes} (hmid : NoCommitOf r id mid) :
    lookupSnap (r, id) (arun H c mid).snaps = lookupSnap (r, id) c.snaps := by
  induction mid generalizing c with
  | nil => rfl
  | cons a rest ih =>
    rw [arun_cons, ih _ (fun x hx => hmid x (List.mem_cons_of_mem _ hx))]
    exact snap_astep H c a (hmid a (List.mem_cons_self ..))

/-! ### Schedules: outputs, and predicates along a schedule -/

/-- the outputs of the steps of a schedule, in order -/
def aouts (c : CState) : List AStep → List Out
  | [] => []
  | a :: rest => (astep H c a).2 :: aouts (astep H c a).1 rest

/-- `P` holds in every state the schedule goes through (the first and the last included) -/
def Along (P : CState → Prop) (c : CState) : List AStep → Prop
  | [] => P c
  | a :: rest => P c ∧ Along P (astep H c a).1 rest

theorem along_prefix {P : CState → Prop} {c : CState} {sched : List AStep} (h : Along H P c sched)
    (pre post : List AStep) (e : sched = pre ++ post) : P (arun H c pre) := by
  induction pre generalizing c sched with
  | nil =>
    cases sched with
    | nil => exact h
    | cons a rest => exact h.1
  | cons a rest ih =>
    subst e
    exact ih h.2 rfl

theorem along_of_prefix {P : CState → Prop} {c : CState} {sched : List AStep}
    (h : ∀ pre post, sched = pre ++ post → P (arun H c pre)) : Along H P c sched := by
  induction sched generalizing c with
  | nil => exact h [] [] rfl
  | cons a rest ih =>
    refine ⟨h [] (a :: rest) rfl, ih ?_⟩
    intro pre post e
    exact h (a :: pre) post (by rw [e]; rfl)

/-- `t` points at an existing manifest of repository `r` -/
def TagOK (r t : Bytes) (c : CState) : Prop :=
  ∃ rp d b, getRepo c.st r = some rp ∧ alookup t rp.tags = some d ∧ alookup d.digest rp.manifests = some b

def tagOKb (r t : Bytes) (s : State) : Bool :=
  match getRepo s r with
  | none => false
  | some rp =>
    match alookup t rp.tags with
    | none => false
    | some d => (alookup d.digest rp.manifests).isSome

theorem tagOK_of_b {r t : Bytes} {c : CState} (h : tagOKb r t c.st = true) : TagOK r t c := by
  unfold tagOKb at h
  cases hg : getRepo c.st r with
  | none => simp [hg] at h
  | some rp =>
    cases ht : alookup t rp.tags with
    | none => simp [hg, ht] at h
    | some d =>
      cases hb : alookup d.digest rp.manifests with
      | none => simp [hg, ht, hb] at h
      | some b => exact ⟨rp, d, b, hg, ht, hb⟩

/-- `Along` for a decidable state predicate, as a `Bool` (for `decide`) -/
def alongb (P : State → Bool) (c : CState) : List AStep → Bool
  | [] => P c.st
  | a :: rest => P c.st && alongb P (astep H c a).1 rest

theorem along_of_b {P : State → Bool} {Q : CState → Prop} (hPQ : ∀ c, P c.st = true → Q c)
    {c : CState} {sched : List AStep} (h : alongb H P c sched = true) : Along H Q c sched := by
  induction sched generalizing c with
  | nil => exact hPQ c h
  | cons a rest ih =>
    simp only [alongb, Bool.and_eq_true] at h
    exact ⟨hPQ c h.1, ih h.2⟩

theorem commitCheck_ok {c c1 : CState} {r id dig : Bytes} {rp : Repo} {b : Buffer}
    (hb : getBuffer c.st r id = some (rp, b))
    (hc : astep H c (.commitCheck r id dig) = (c1, .okUnit)) :
    b.commitErr = none ∧ H b.buf = dig ∧
    c1 = { st := putBuffer c.st r rp id { b with committed := true },
           snaps := ((r, id), (dig, b.buf)) :: eraseSnap (r, id) c.snaps } := by
  rcases commitCheck_spec H c r id dig with ⟨hn, _⟩ | ⟨_, _, _, _, _, h⟩ | ⟨_, _, _, _, _, h⟩ | ⟨rp', b', hb', he, hd, h⟩
  · rw [hn] at hb; cases hb
  · rw [h] at hc; cases hc
  · rw [h] at hc; cases hc
  · rw [hb] at hb'; cases hb'
    rw [h] at hc; cases hc
    exact ⟨he, hd, rfl⟩

end

/-! ### The commit lock: what `CommitSerial` says, and what it gives -/

theorem not_isCommitOf_of_not_takes {r id : Bytes} {a : AStep} (h : ¬ TakesCommitMu r id a) :
    ¬ IsCommitOf r id a := by
  cases a with
  | op o => exact fun h' => h'
  | commitCheck r' id' dig => exact h
  | commitStore r' id' => exact h

theorem held_contains_cons_self (k : Bytes × Bytes) (held : Held) : (k :: held).contains k = true := by
  simp

theorem held_contains_cons_of {k k' : Bytes × Bytes} {held : Held} (h : held.contains k = true) :
    (k' :: held).contains k = true :=
  List.contains_iff_mem.mpr (List.mem_cons_of_mem _ (List.contains_iff_mem.mp h))

theorem held_contains_release_ne {k k' : Bytes × Bytes} {held : Held} (hne : k' ≠ k)
    (h : held.contains k = true) : (held.filter fun x => !(x == k')).contains k = true :=
  List.contains_iff_mem.mpr (List.mem_filter.mpr ⟨List.contains_iff_mem.mp h, by simpa using fun e => hne e.symm⟩)

/-- While a `Commit` of session `(r, id)` holds the lock, a step that the locks allow and that is
not the `commitStore` of that session does not take that session's `commitMu`, and leaves the
lock held. -/
theorem lockStep_held {held held' : Held} {a : AStep} {out : Out} {r id : Bytes}
    (hl : lockStep held a out = some held') (hh : held.contains (r, id) = true)
    (ha : a ≠ .commitStore r id) : ¬ TakesCommitMu r id a ∧ held'.contains (r, id) = true := by
  -- a step that needs the lock of `(r', id')` and is allowed: another session, and it ends up with `X`
  have free : ∀ {r' id' : Bytes} {X : Held},
      (if held.contains (r', id') then none else some X) = some held' →
      ¬ (r' = r ∧ id' = id) ∧ held' = X := by
    intro r' id' X h
    split at h
    · cases h
    · next hc => cases h; exact ⟨fun ⟨e1, e2⟩ => hc (e1 ▸ e2 ▸ hh), rfl⟩
  cases a with
  | commitCheck r' id' dig =>
    obtain ⟨hne, rfl⟩ := free hl
    refine ⟨hne, ?_⟩
    split
    · exact held_contains_cons_of hh
    · exact hh
  | commitStore r' id' =>
    have e : (r', id') ≠ (r, id) := fun e => by cases e; exact ha rfl
    cases hl
    exact ⟨fun ⟨e1, e2⟩ => e (by rw [e1, e2]), held_contains_release_ne e hh⟩
  | op o =>
    cases o
    case wCommit r' id' dig => obtain ⟨hne, rfl⟩ := free hl; exact ⟨hne, hh⟩
    case wCancel r' id' => obtain ⟨hne, rfl⟩ := free hl; exact ⟨hne, hh⟩
    all_goals
      cases hl
      exact ⟨fun h => h, hh⟩

section
variable (H : Bytes → Bytes)

theorem commitSerialFrom_cons {c : CState} {held : Held} {a : AStep} {rest : List AStep}
    (h : commitSerialFrom H c held (a :: rest) = true) :
    ∃ held', lockStep held a (astep H c a).2 = some held' ∧
      commitSerialFrom H (astep H c a).1 held' rest = true := by
  simp only [commitSerialFrom] at h
  cases hl : lockStep held a (astep H c a).2 with
  | none => rw [hl] at h; cases h
  | some held' => rw [hl] at h; exact ⟨held', rfl, h⟩

theorem commitSerialFrom_append {c : CState} {held : Held} (l1 l2 : List AStep)
    (h : commitSerialFrom H c held (l1 ++ l2) = true) :
    ∃ held', commitSerialFrom H (arun H c l1) held' l2 = true := by
  induction l1 generalizing c held with
  | nil => exact ⟨held, h⟩
  | cons a rest ih =>
    obtain ⟨held', _, h'⟩ := commitSerialFrom_cons H h
    exact ih h'

theorem commitSerialFrom_window {c : CState} {held : Held} {r id : Bytes} (mid post : List AStep)
    (h : commitSerialFrom H c held (mid ++ .commitStore r id :: post) = true)
    (hh : held.contains (r, id) = true) (hmid : ∀ a ∈ mid, a ≠ .commitStore r id) :
    ∀ a ∈ mid, ¬ TakesCommitMu r id a := by
  induction mid generalizing c held with
  | nil => intro a ha; cases ha
  | cons x rest ih =>
    obtain ⟨held', hl, h'⟩ := commitSerialFrom_cons H h
    obtain ⟨hx, hh'⟩ := lockStep_held hl hh (hmid x (List.mem_cons_self ..))
    intro a ha
    rcases List.mem_cons.1 ha with rfl | ha
    · exact hx
    · exact ih h' hh' (fun a ha => hmid a (List.mem_cons_of_mem _ ha)) a ha

/-- What `CommitSerial` says, spelled out: if a `commitCheck r id dig` of the schedule succeeds,
then from there to the `commitStore r id` that belongs to it (the next one) there is no section
of another `Commit` of that session, no one-step `wCommit` of it and no `wCancel` of it. -/
theorem commitSerial_window {c : CState} {r id dig : Bytes} (pre mid post : List AStep)
    (hs : CommitSerial H c (pre ++ .commitCheck r id dig :: (mid ++ .commitStore r id :: post)))
    (hok : (astep H (arun H c pre) (.commitCheck r id dig)).2 = .okUnit)
    (hmid : ∀ a ∈ mid, a ≠ .commitStore r id) :
    ∀ a ∈ mid, ¬ TakesCommitMu r id a := by
  obtain ⟨held, h⟩ := commitSerialFrom_append H pre _ hs
  obtain ⟨held', hl, h'⟩ := commitSerialFrom_cons H h
  have hh : held'.contains (r, id) = true := by
    by_cases hc : held.contains (r, id) = true
    · simp only [lockStep, hc, if_true] at hl; cases hl
    · simp only [lockStep, hc, hok] at hl
      cases hl
      exact held_contains_cons_self _ _
  exact commitSerialFrom_window H mid post h' hh hmid

theorem aouts_append (c : CState) (l1 l2 : List AStep) :
    aouts H c (l1 ++ l2) = aouts H c l1 ++ aouts H (arun H c l1) l2 := by
  induction l1 generalizing c with
  | nil => rfl
  | cons a rest ih => simp only [List.cons_append, aouts, arun_cons, ih]

theorem aouts_length (c : CState) (l : List AStep) : (aouts H c l).length = l.length := by
  induction l generalizing c with
  | nil => rfl
  | cons a rest ih => simp [aouts, ih]

theorem aouts_at (c : CState) (pre : List AStep) (a : AStep) (post : List AStep) :
    (aouts H c (pre ++ a :: post))[pre.length]? = some (astep H (arun H c pre) a).2 := by
  rw [aouts_append, List.getElem?_append_right (by rw [aouts_length]; exact Nat.le_refl _), aouts_length]
  simp [aouts]

theorem commitCheck_ok_buffer {c : CState} {r id dig : Bytes}
    (hok : (astep H c (.commitCheck r id dig)).2 = .okUnit) :
    ∃ rp b, getBuffer c.st r id = some (rp, b) ∧
      astep H c (.commitCheck r id dig) = ((astep H c (.commitCheck r id dig)).1, .okUnit) := by
  rcases commitCheck_spec H c r id dig with ⟨_, h⟩ | ⟨_, _, _, _, _, h⟩ | ⟨_, _, _, _, _, h⟩ | ⟨rp, b, hb, _, _, h⟩
  · rw [h] at hok; cases hok
  · rw [h] at hok; cases hok
  · rw [h] at hok; cases hok
  · exact ⟨rp, b, hb, by rw [h]⟩

end

/-! ### Positions in a schedule -/

theorem split_at_getElem? {α} {l : List α} {i : Nat} {a : α} (h : l[i]? = some a) :
    l = l.take i ++ a :: l.drop (i + 1) ∧ (l.take i).length = i := by
  induction l generalizing i with
  | nil => simp at h
  | cons x xs ih =>
    cases i with
    | zero => simp at h; subst h; simp
    | succ k =>
      simp only [List.getElem?_cons_succ] at h
      obtain ⟨h1, h2⟩ := ih h
      refine ⟨?_, by simp [h2]⟩
      simp only [List.take_succ_cons, List.drop_succ_cons, List.cons_append]
      rw [← h1]

theorem mem_take_getElem? {α} {l : List α} {n : Nat} {a : α} (h : a ∈ l.take n) :
    ∃ k, k < n ∧ l[k]? = some a := by
  induction l generalizing n with
  | nil => simp at h
  | cons x xs ih =>
    cases n with
    | zero => simp at h
    | succ m =>
      simp only [List.take_succ_cons, List.mem_cons] at h
      rcases h with rfl | h
      · exact ⟨0, Nat.succ_pos _, rfl⟩
      · obtain ⟨k, hk, hg⟩ := ih h
        exact ⟨k + 1, Nat.succ_lt_succ hk, by simpa using hg⟩

theorem take_length_succ_append {α} (l1 : List α) (a : α) (l2 : List α) :
    (l1 ++ a :: l2).take (l1.length + 1) = l1 ++ [a] := by
  induction l1 with
  | nil => simp
  | cons x xs ih => simp only [List.cons_append, List.length_cons, List.take_succ_cons, ih]

/-! ### Positions in event traces -/

theorem pos_lt_length {e : Ev} {tr : List Ev} {i : Nat} (h : pos e tr = some i) : i < tr.length := by
  induction tr generalizing i with
  | nil => cases h
  | cons x xs ih =>
    unfold pos at h
    by_cases hx : x = e
    · simp [hx] at h; subst h; simp
    · simp only [hx, if_false] at h
      cases hp : pos e xs with
      | none => simp [hp] at h
      | some j =>
        simp [hp] at h; subst h
        have := ih hp
        simp; omega

theorem pos_get {e : Ev} {tr : List Ev} {i : Nat} (h : pos e tr = some i) : tr[i]? = some e := by
  induction tr generalizing i with
  | nil => cases h
  | cons x xs ih =>
    unfold pos at h
    by_cases hx : x = e
    · simp [hx] at h; subst h; simp [hx]
    · simp only [hx, if_false] at h
      cases hp : pos e xs with
      | none => simp [hp] at h
      | some j =>
        simp [hp] at h; subst h
        simpa using ih hp

end OciModel.MemConc
