/-
Lemmas about the `ocimem` model (`OciModel/Mem.lean`) on top of the footprint of a step
(`MemStep.lean`): key uniqueness of association lists, sorting lemmas, the two invariants
(`Inv`: stored content hashes to its key; `KeysUnique`: the association lists really are maps),
the frame theorems, and what reads and pushes return.

Nothing here assumes anything about the hash parameter `H`.
-/
import OciModel.MemStep

namespace OciModel.Mem

/-! ### Association lists -/

section AList
variable {β : Type}

@[simp] theorem alookup_nil (k : Bytes) : alookup k ([] : List (Bytes × β)) = none := rfl

@[simp] theorem aerase_nil (k : Bytes) : aerase k ([] : List (Bytes × β)) = [] := rfl

theorem alookup_isSome_iff {k : Bytes} {m : List (Bytes × β)} :
    (alookup k m).isSome ↔ k ∈ m.map (·.1) := by
  induction m with
  | nil => simp
  | cons p m ih =>
    obtain ⟨k', v'⟩ := p
    rw [alookup_cons]
    by_cases hk : k' = k
    · simp [hk]
    · have : ¬ k = k' := fun h => hk h.symm
      simp [hk, this, ih]

theorem alookup_eq_none_iff {k : Bytes} {m : List (Bytes × β)} :
    alookup k m = none ↔ k ∉ m.map (·.1) := by
  rw [← alookup_isSome_iff]; cases alookup k m <;> simp

theorem mem_aerase {p : Bytes × β} {k : Bytes} {m : List (Bytes × β)} :
    p ∈ aerase k m ↔ p ∈ m ∧ p.1 ≠ k := by
  induction m with
  | nil => simp
  | cons q m ih =>
    obtain ⟨k', v'⟩ := q
    rw [aerase_cons]
    by_cases hk : k' = k
    · simp only [hk, if_true, ih, List.mem_cons]
      constructor
      · rintro ⟨h1, h2⟩; exact ⟨Or.inr h1, h2⟩
      · rintro ⟨h1 | h1, h2⟩
        · subst h1; exact absurd rfl h2
        · exact ⟨h1, h2⟩
    · simp only [hk, if_false, List.mem_cons, ih]
      constructor
      · rintro (h1 | ⟨h1, h2⟩)
        · subst h1; exact ⟨Or.inl rfl, hk⟩
        · exact ⟨Or.inr h1, h2⟩
      · rintro ⟨h1 | h1, h2⟩
        · exact Or.inl h1
        · exact Or.inr ⟨h1, h2⟩

theorem aerase_sublist (k : Bytes) (m : List (Bytes × β)) : (aerase k m).Sublist m := by
  induction m with
  | nil => exact List.Sublist.refl _
  | cons q m ih =>
    obtain ⟨k', v'⟩ := q
    rw [aerase_cons]
    by_cases hk : k' = k
    · simp only [hk, if_true]; exact List.Sublist.cons _ ih
    · simp only [hk, if_false]; exact List.Sublist.cons_cons _ ih

theorem mem_keys_aerase {k k' : Bytes} {m : List (Bytes × β)} :
    k' ∈ (aerase k m).map (·.1) ↔ k' ∈ m.map (·.1) ∧ k' ≠ k := by
  simp only [List.mem_map, mem_aerase]
  constructor
  · rintro ⟨p, ⟨hp, hne⟩, rfl⟩; exact ⟨⟨p, hp, rfl⟩, hne⟩
  · rintro ⟨⟨p, hp, rfl⟩, hne⟩; exact ⟨p, ⟨hp, hne⟩, rfl⟩

theorem mem_keys_ainsert {k k' : Bytes} {v : β} {m : List (Bytes × β)} :
    k' ∈ (ainsert k v m).map (·.1) ↔ k' = k ∨ k' ∈ m.map (·.1) := by
  simp only [ainsert, List.map_cons, List.mem_cons, mem_keys_aerase]
  by_cases h : k' = k <;> simp [h]

/-- Key uniqueness: the association list is a map. -/
def KU (m : List (Bytes × β)) : Prop := (m.map (·.1)).Nodup

theorem KU_nil : KU ([] : List (Bytes × β)) := List.nodup_nil

theorem KU_aerase {m : List (Bytes × β)} (k : Bytes) (h : KU m) : KU (aerase k m) :=
  List.Nodup.sublist ((aerase_sublist k m).map _) h

theorem KU_ainsert {m : List (Bytes × β)} (k : Bytes) (v : β) (h : KU m) : KU (ainsert k v m) := by
  unfold KU ainsert
  rw [List.map_cons, List.nodup_cons]
  refine ⟨?_, KU_aerase k h⟩
  intro hm
  exact (mem_keys_aerase.mp hm).2 rfl

theorem alookup_of_mem {k : Bytes} {v : β} {m : List (Bytes × β)} (hu : KU m) (h : (k, v) ∈ m) :
    alookup k m = some v := by
  induction m with
  | nil => simp at h
  | cons p m ih =>
    obtain ⟨k', v'⟩ := p
    unfold KU at hu
    rw [List.map_cons, List.nodup_cons] at hu
    rw [alookup_cons]
    rcases List.mem_cons.mp h with h | h
    · cases h; simp
    · have hk : k ∈ m.map (·.1) := List.mem_map.mpr ⟨(k, v), h, rfl⟩
      have : ¬ k' = k := fun e => hu.1 (by simpa [e] using hk)
      simp [this, ih hu.2 h]

theorem mem_iff_alookup {k : Bytes} {v : β} {m : List (Bytes × β)} (hu : KU m) :
    (k, v) ∈ m ↔ alookup k m = some v :=
  ⟨alookup_of_mem hu, mem_of_alookup⟩

end AList

/-! ### `getRepo` / `putRepo` / `makeRepo` -/

@[simp] theorem putRepo_immutableTags (s : State) (r : Bytes) (rp : Repo) :
    (putRepo s r rp).immutableTags = s.immutableTags := rfl

@[simp] theorem putRepo_nextID (s : State) (r : Bytes) (rp : Repo) :
    (putRepo s r rp).nextID = s.nextID := rfl

@[simp] theorem getRepo_setNextID (s : State) (n : Nat) (r : Bytes) :
    getRepo { s with nextID := n } r = getRepo s r := rfl

theorem getRepo_init (imm : Bool) (r : Bytes) : getRepo (init imm) r = none := rfl

/-- Other repositories are untouched by `makeRepo`. -/
theorem makeRepo_getRepo_ne {s s1 : State} {r r' : Bytes} {rp : Repo}
    (h : makeRepo s r = some (s1, rp)) (hne : r ≠ r') : getRepo s1 r' = getRepo s r' := by
  rcases (makeRepo_spec h).2.2 with ⟨h1, _⟩ | ⟨_, _, h1⟩ <;> subst h1
  · rfl
  · exact getRepo_putRepo_ne _ hne _

theorem getBuffer_eq_some {s : State} {r id : Bytes} {rp : Repo} {b : Buffer}
    (h1 : getRepo s r = some rp) (h2 : alookup id rp.uploads = some b) :
    getBuffer s r id = some (rp, b) := by
  simp [getBuffer, h1, h2]

theorem manifestFor_ok {s : State} {r d : Bytes} {b : Blob} :
    manifestFor s r d = .ok b ↔ ∃ rp, getRepo s r = some rp ∧ alookup d rp.manifests = some b := by
  unfold manifestFor
  cases hg : getRepo s r with
  | none => simp
  | some rp => cases hl : alookup d rp.manifests <;> simp [hl]

/-! ### `checkDescData` -/

variable (H : Bytes → Bytes)

theorem checkDescData_mismatch {d : Desc} {data : Bytes}
    (h : H data ≠ d.digest ∨ d.size ≠ data.length) : ∃ e, checkDescData H d data = some e := by
  cases hc : checkDescData H d data with
  | some e => exact ⟨e, rfl⟩
  | none =>
    have := checkDescData_none H hc
    rcases h with h | h
    · exact absurd this.2.1 h
    · exact absurd this.2.2.1 h

/-! ### The digest invariant -/

/-- The digest invariant of C01. Unfolds to: for every repository, every blob
and every manifest is stored under `H` of its data. -/
def Inv (s : State) : Prop := ∀ r rp, getRepo s r = some rp → RepoOK H rp

theorem inv_putRepo {s : State} {r : Bytes} {rp : Repo} (hs : Inv H s) (hrp : RepoOK H rp) :
    Inv H (putRepo s r rp) := by
  intro r' rp' h
  rw [getRepo_putRepo] at h
  by_cases hr : r = r'
  · simp [hr] at h; subst h; exact hrp
  · simp [hr] at h; exact hs r' rp' h

theorem inv_putBuffer {s : State} {r id : Bytes} {rp : Repo} {b : Buffer} (hs : Inv H s) (hrp : RepoOK H rp) :
    Inv H (putBuffer s r rp id b) :=
  inv_putRepo H hs ⟨hrp.1, hrp.2⟩

theorem inv_getBuffer {s : State} {r id : Bytes} {rp : Repo} {b : Buffer} (hs : Inv H s)
    (h : getBuffer s r id = some (rp, b)) : RepoOK H rp :=
  hs r rp (getBuffer_spec h).1

theorem inv_init (imm : Bool) : Inv H (init imm) := by
  intro r rp h; simp [getRepo_init] at h

theorem inv_blobFor {s : State} {r d : Bytes} {b : Blob} (hs : Inv H s) (h : blobFor s r d = .ok b) :
    H b.data = d := by
  obtain ⟨rp, hg, hl⟩ := blobFor_ok.mp h
  exact (hs r rp hg).1 d b hl

theorem inv_manifestFor {s : State} {r d : Bytes} {b : Blob} (hs : Inv H s) (h : manifestFor s r d = .ok b) :
    H b.data = d := by
  obtain ⟨rp, hg, hl⟩ := manifestFor_ok.mp h
  exact (hs r rp hg).2 d b hl

theorem inv_getD {s : State} (hs : Inv H s) (r : Bytes) : RepoOK H ((getRepo s r).getD emptyRepo) := by
  cases hg : getRepo s r with
  | none => exact repoOK_empty H
  | some rp => exact hs r rp hg

/-- Whatever is stored is stored under its hash: a pushed blob and a pushed manifest were checked,
a commit compared the digest, a mounted blob satisfied the invariant where it came from. -/
theorem Change.repoOK {s : State} {op : Op} {out : Out} {rp rp' : Repo} (hs : Inv H s)
    (hrp : RepoOK H rp) (hc : Change H s op out rp rp') : RepoOK H rp' := by
  cases hc with
  | same => exact hrp
  | buffer => exact hrp
  | pushBlob hc => exact ⟨mapOK_ainsert H (checkDescData_none H hc).2.1 hrp.1, hrp.2⟩
  | commit hb hd => exact ⟨mapOK_ainsert H hd hrp.1, hrp.2⟩
  | mount hb => exact ⟨mapOK_ainsert H (inv_blobFor H hs hb) hrp.1, hrp.2⟩
  | pushManifest => exact ⟨hrp.1, mapOK_ainsert H rfl hrp.2⟩
  | deleteBlob => exact ⟨mapOK_aerase H _ hrp.1, hrp.2⟩
  | deleteManifest => exact ⟨hrp.1, mapOK_aerase H _ hrp.2⟩
  | deleteTag => exact hrp

theorem Touch.inv {s s' : State} {op : Op} {out : Out} (hs : Inv H s) (ht : Touch H s op out s') :
    Inv H s' := by
  rcases ht with rfl | ⟨rp', n, rfl, hc⟩
  · exact hs
  · exact inv_putRepo H hs (hc.repoOK H hs (inv_getD H hs _))

/-- Every operation preserves the digest invariant. -/
theorem inv_step (s : State) (op : Op) (hs : Inv H s) : Inv H (step H s op).1 :=
  Touch.inv H hs (step_touch H s op)

theorem inv_run (s : State) (ops : List Op) (hs : Inv H s) : Inv H (run H s ops).1 :=
  run_induction H (inv_step H) s hs ops

/-! ### Key uniqueness -/

def RepoKU (rp : Repo) : Prop := KU rp.tags ∧ KU rp.manifests ∧ KU rp.blobs ∧ KU rp.uploads

/-- All association lists of the state are maps. -/
def KeysUnique (s : State) : Prop := KU s.repos ∧ ∀ p ∈ s.repos, RepoKU p.2

theorem repoKU_empty : RepoKU emptyRepo := ⟨KU_nil, KU_nil, KU_nil, KU_nil⟩

theorem ku_init (imm : Bool) : KeysUnique (init imm) := ⟨KU_nil, by intro p hp; simp [init] at hp⟩

theorem ku_getRepo {s : State} {r : Bytes} {rp : Repo} (hs : KeysUnique s) (h : getRepo s r = some rp) :
    RepoKU rp := hs.2 (r, rp) (mem_of_alookup h)

theorem ku_putRepo {s : State} {r : Bytes} {rp : Repo} (hs : KeysUnique s) (hrp : RepoKU rp) :
    KeysUnique (putRepo s r rp) := by
  refine ⟨KU_ainsert r rp hs.1, ?_⟩
  intro p hp
  simp only [putRepo, ainsert, List.mem_cons] at hp
  rcases hp with hp | hp
  · subst hp; exact hrp
  · exact hs.2 p (mem_aerase.mp hp).1

theorem ku_makeRepo {s s1 : State} {r : Bytes} {rp : Repo} (hs : KeysUnique s)
    (h : makeRepo s r = some (s1, rp)) : KeysUnique s1 ∧ RepoKU rp := by
  rcases (makeRepo_spec h).2.2 with ⟨h1, h2⟩ | ⟨_, h2, h1⟩
  · subst h1; exact ⟨hs, ku_getRepo hs h2⟩
  · subst h1; subst h2; exact ⟨ku_putRepo hs repoKU_empty, repoKU_empty⟩

theorem ku_getD {s : State} (hs : KeysUnique s) (r : Bytes) : RepoKU ((getRepo s r).getD emptyRepo) := by
  cases hg : getRepo s r with
  | none => exact repoKU_empty
  | some rp => exact ku_getRepo hs hg

theorem Change.repoKU {s : State} {op : Op} {out : Out} {rp rp' : Repo}
    (hrp : RepoKU rp) (hc : Change H s op out rp rp') : RepoKU rp' := by
  obtain ⟨ht, hm, hb, hu⟩ := hrp
  cases hc with
  | same => exact ⟨ht, hm, hb, hu⟩
  | buffer => exact ⟨ht, hm, hb, KU_ainsert _ _ hu⟩
  | pushBlob => exact ⟨ht, hm, KU_ainsert _ _ hb, hu⟩
  | commit => exact ⟨ht, hm, KU_ainsert _ _ hb, KU_ainsert _ _ hu⟩
  | mount => exact ⟨ht, hm, KU_ainsert _ _ hb, hu⟩
  | pushManifest =>
    refine ⟨?_, KU_ainsert _ _ hm, hb, hu⟩
    rw [storeManifest_tags]
    split
    · exact KU_ainsert _ _ ht
    · exact ht
  | deleteBlob => exact ⟨ht, hm, KU_aerase _ hb, hu⟩
  | deleteManifest => exact ⟨ht, KU_aerase _ hm, hb, hu⟩
  | deleteTag => exact ⟨KU_aerase _ ht, hm, hb, hu⟩

theorem Touch.ku {s s' : State} {op : Op} {out : Out} (hs : KeysUnique s) (ht : Touch H s op out s') :
    KeysUnique s' := by
  rcases ht with rfl | ⟨rp', n, rfl, hc⟩
  · exact hs
  · exact ku_putRepo hs (hc.repoKU H (ku_getD hs _))

theorem ku_step (s : State) (op : Op) (hs : KeysUnique s) : KeysUnique (step H s op).1 :=
  Touch.ku H hs (step_touch H s op)

theorem ku_run (s : State) (ops : List Op) (hs : KeysUnique s) : KeysUnique (run H s ops).1 :=
  run_induction H (ku_step H) s hs ops

/-! ### Sorting

`insertSorted` (keys of a listing) and `insertDesc` (referrers, by digest) are the same insertion
into an ascending list, by a key; its three properties are proved once, for `insertBy`. -/

/-- Insert `x` behind the elements whose key is smaller. -/
def insertBy {α : Type} (key : α → Bytes) (x : α) : List α → List α
  | [] => [x]
  | y :: ys => if compare (key x) (key y) == .gt then y :: insertBy key x ys else x :: y :: ys

theorem insertSorted_eq : insertSorted = insertBy id := by
  funext k l
  induction l with
  | nil => rfl
  | cons y ys ih => rw [insertSorted, insertBy, ih]; rfl

theorem insertDesc_eq : insertDesc = insertBy (·.digest) := by
  funext d l
  induction l with
  | nil => rfl
  | cons y ys ih => rw [insertDesc, insertBy, ih]

theorem cmp_le_trans {a b c : Bytes} (h1 : compare a b ≠ .gt) (h2 : compare b c ≠ .gt) :
    compare a c ≠ .gt := by
  have e1 : (compare a b).isLE = true := by cases h : compare a b <;> simp_all [Ordering.isLE]
  have e2 : (compare b c).isLE = true := by cases h : compare b c <;> simp_all [Ordering.isLE]
  have e3 := Std.TransCmp.isLE_trans e1 e2
  intro h; rw [h] at e3; cases e3

section InsertBy
variable {α : Type} (key : α → Bytes)

theorem mem_insertBy {x a : α} {l : List α} : a ∈ insertBy key x l ↔ a = x ∨ a ∈ l := by
  induction l with
  | nil => rw [insertBy, List.mem_singleton]; simp
  | cons y ys ih =>
    rw [insertBy]
    split
    · rw [List.mem_cons, ih, List.mem_cons]; exact or_left_comm
    · rw [List.mem_cons]

theorem mem_foldr_insertBy {a : α} {l : List α} : a ∈ l.foldr (insertBy key) [] ↔ a ∈ l := by
  induction l with
  | nil => rfl
  | cons y ys ih => rw [List.foldr_cons, mem_insertBy, ih, List.mem_cons]

theorem asc_insertBy (x : α) {l : List α} (hl : l.Pairwise fun a b => compare (key a) (key b) ≠ .gt) :
    (insertBy key x l).Pairwise fun a b => compare (key a) (key b) ≠ .gt := by
  induction l with
  | nil => exact List.pairwise_singleton _ _
  | cons y ys ih =>
    rw [List.pairwise_cons] at hl
    rw [insertBy]
    split
    · next hgt =>
      -- `x` goes behind `y`, and `y` is below it
      have hyx : compare (key y) (key x) = .lt := Std.OrientedCmp.gt_iff_lt.mp (by simpa using hgt)
      refine List.pairwise_cons.mpr ⟨fun a ha => ?_, ih hl.2⟩
      rcases (mem_insertBy key).mp ha with rfl | ha
      · rw [hyx]; exact Ordering.noConfusion
      · exact hl.1 a ha
    · next hgt =>
      have hle : compare (key x) (key y) ≠ .gt := by simpa using hgt
      refine List.pairwise_cons.mpr ⟨fun a ha => ?_, List.pairwise_cons.mpr hl⟩
      rcases List.mem_cons.mp ha with rfl | ha
      · exact hle
      · exact cmp_le_trans hle (hl.1 a ha)

theorem strict_insertBy {x : α} {l : List α} (hx : key x ∉ l.map key)
    (hl : l.Pairwise fun a b => compare (key a) (key b) = .lt) :
    (insertBy key x l).Pairwise fun a b => compare (key a) (key b) = .lt := by
  induction l with
  | nil => exact List.pairwise_singleton _ _
  | cons y ys ih =>
    rw [List.pairwise_cons] at hl
    rw [List.map_cons, List.mem_cons, not_or] at hx
    rw [insertBy]
    split
    · next hgt =>
      have hyx : compare (key y) (key x) = .lt := Std.OrientedCmp.gt_iff_lt.mp (by simpa using hgt)
      refine List.pairwise_cons.mpr ⟨fun a ha => ?_, ih hx.2 hl.2⟩
      rcases (mem_insertBy key).mp ha with rfl | ha
      · exact hyx
      · exact hl.1 a ha
    · next hgt =>
      -- not above `y` and not equal to it: below it, hence below everything behind it
      have hlt : compare (key x) (key y) = .lt := by
        cases hc : compare (key x) (key y) with
        | lt => rfl
        | eq => exact absurd (Std.LawfulEqCmp.compare_eq_iff_eq.mp hc) hx.1
        | gt => rw [hc] at hgt; exact absurd rfl hgt
      refine List.pairwise_cons.mpr ⟨fun a ha => ?_, List.pairwise_cons.mpr hl⟩
      rcases List.mem_cons.mp ha with rfl | ha
      · exact hlt
      · exact Std.TransCmp.lt_trans hlt (hl.1 a ha)

theorem asc_foldr_insertBy (l : List α) :
    (l.foldr (insertBy key) []).Pairwise fun a b => compare (key a) (key b) ≠ .gt := by
  induction l with
  | nil => exact List.Pairwise.nil
  | cons y ys ih => exact asc_insertBy key y ih

theorem strict_foldr_insertBy {l : List α} (hl : (l.map key).Nodup) :
    (l.foldr (insertBy key) []).Pairwise fun a b => compare (key a) (key b) = .lt := by
  induction l with
  | nil => exact List.Pairwise.nil
  | cons y ys ih =>
    rw [List.map_cons, List.nodup_cons] at hl
    refine strict_insertBy key (fun h => hl.1 ?_) (ih hl.2)
    obtain ⟨a, ha, hae⟩ := List.mem_map.mp h
    exact List.mem_map.mpr ⟨a, (mem_foldr_insertBy key).mp ha, hae⟩

end InsertBy

/-- Strictly ascending w.r.t. `compare` on byte strings. -/
def StrictAscB (l : List Bytes) : Prop := l.Pairwise (fun a b => compare a b = .lt)

theorem mem_insertSorted {k x : Bytes} {l : List Bytes} : x ∈ insertSorted k l ↔ x = k ∨ x ∈ l := by
  rw [insertSorted_eq]; exact mem_insertBy id

theorem mem_sortBytes {x : Bytes} {l : List Bytes} : x ∈ sortBytes l ↔ x ∈ l := by
  rw [sortBytes, insertSorted_eq]; exact mem_foldr_insertBy id

theorem strictAsc_sortBytes {l : List Bytes} (hl : l.Nodup) : StrictAscB (sortBytes l) := by
  rw [sortBytes, insertSorted_eq]
  exact strict_foldr_insertBy id (by rwa [List.map_id])

theorem strictAsc_nodup {l : List Bytes} (h : StrictAscB l) : l.Nodup := by
  unfold StrictAscB at h
  refine List.Pairwise.imp ?_ h
  intro a b hab heq
  subst heq
  rw [Std.ReflOrd.compare_self] at hab
  cases hab

/-- Membership: the listing contains exactly the keys strictly after `start`. -/
theorem mem_keysAfter {β} {m : List (Bytes × β)} {start k : Bytes} :
    k ∈ keysAfter m start ↔ (k ∈ m.map (·.1) ∧ compare start k = .lt) := by
  unfold keysAfter
  rw [mem_sortBytes, List.mem_filter]
  simp

/-- Order: under key uniqueness the listing is strictly ascending. -/
theorem keysAfter_sorted {β} {m : List (Bytes × β)} (hm : KU m) (start : Bytes) :
    StrictAscB (keysAfter m start) :=
  strictAsc_sortBytes (List.Nodup.sublist List.filter_sublist hm)

/-! ### Referrers -/

/-- Ascending by digest (non-strictly). -/
def AscDesc (l : List Desc) : Prop := l.Pairwise (fun a b => compare a.digest b.digest ≠ .gt)
/-- Strictly ascending by digest. -/
def StrictAscDesc (l : List Desc) : Prop := l.Pairwise (fun a b => compare a.digest b.digest = .lt)

theorem mem_insertDesc {d x : Desc} {l : List Desc} : x ∈ insertDesc d l ↔ x = d ∨ x ∈ l := by
  rw [insertDesc_eq]; exact mem_insertBy _

theorem mem_foldr_insertDesc {x : Desc} {l : List Desc} : x ∈ l.foldr insertDesc [] ↔ x ∈ l := by
  rw [insertDesc_eq]; exact mem_foldr_insertBy _

theorem asc_foldr_insertDesc (l : List Desc) : AscDesc (l.foldr insertDesc []) := by
  rw [insertDesc_eq]; exact asc_foldr_insertBy _ l

theorem strict_foldr_insertDesc {l : List Desc} (hl : (l.map (·.digest)).Nodup) :
    StrictAscDesc (l.foldr insertDesc []) := by
  rw [insertDesc_eq]; exact strict_foldr_insertBy _ hl

/-- The list `.referrers r d` returns for a repository `rp`. -/
def referrersOf (rp : Repo) (d : Bytes) : List Desc :=
  ((rp.manifests.filter fun (_, b) => b.subject = d).map fun (_, b) => descOf H b).foldr insertDesc []

theorem step_referrers {s : State} {r : Bytes} {rp : Repo} (hg : getRepo s r = some rp) (d : Bytes) :
    step H s (.referrers r d) = (s, .okDescs (referrersOf H rp d)) := by
  simp only [step, hg, referrersOf]

theorem mem_referrersOf {rp : Repo} {d : Bytes} {x : Desc} :
    x ∈ referrersOf H rp d ↔ ∃ k b, (k, b) ∈ rp.manifests ∧ b.subject = d ∧ x = descOf H b := by
  unfold referrersOf
  rw [mem_foldr_insertDesc, List.mem_map]
  constructor
  · rintro ⟨⟨k, b⟩, hp, rfl⟩
    rw [List.mem_filter] at hp
    exact ⟨k, b, hp.1, by simpa using hp.2, rfl⟩
  · rintro ⟨k, b, hm, hs, rfl⟩
    exact ⟨(k, b), List.mem_filter.mpr ⟨hm, by simpa using hs⟩, rfl⟩

theorem referrersOf_asc (rp : Repo) (d : Bytes) : AscDesc (referrersOf H rp d) :=
  asc_foldr_insertDesc _

theorem referrersOf_strict {rp : Repo} (d : Bytes) (hok : MapOK H rp.manifests) (hku : KU rp.manifests) :
    StrictAscDesc (referrersOf H rp d) := by
  unfold referrersOf
  apply strict_foldr_insertDesc
  rw [List.map_map]
  have : List.map ((fun x : Desc => x.digest) ∘ fun x : Bytes × Blob => match x with | (_, b) => descOf H b)
      (rp.manifests.filter fun (_, b) => b.subject = d)
      = List.map (·.1) (rp.manifests.filter fun (_, b) => b.subject = d) := by
    apply List.map_congr_left
    rintro ⟨k, b⟩ hp
    have hm : (k, b) ∈ rp.manifests := (List.mem_filter.mp hp).1
    exact hok k b (alookup_of_mem hku hm)
  rw [this]
  exact List.Nodup.sublist (List.Sublist.map _ List.filter_sublist) hku

/-! ### Field lookups through the state, and how operations change them -/

/-- Look a key up in one of the maps of repository `r` (absent repository: `none`). -/
def look {β} (f : Repo → List (Bytes × β)) (s : State) (r k : Bytes) : Option β :=
  (getRepo s r).bind (fun rp => alookup k (f rp))

section Look
variable {β : Type} (f : Repo → List (Bytes × β))

theorem look_putRepo (s : State) (r r' : Bytes) (rp : Repo) (k : Bytes) :
    look f (putRepo s r rp) r' k = if r = r' then alookup k (f rp) else look f s r' k := by
  unfold look
  rw [getRepo_putRepo]
  by_cases h : r = r' <;> simp [h]

theorem look_of_getRepo {s : State} {r : Bytes} {rp : Repo} (h : getRepo s r = some rp) (k : Bytes) :
    look f s r k = alookup k (f rp) := by
  simp [look, h]

theorem look_of_getRepo_none {s : State} {r : Bytes} (h : getRepo s r = none) (k : Bytes) :
    look f s r k = none := by
  simp [look, h]

@[simp] theorem look_setNextID (s : State) (n : Nat) (r k : Bytes) :
    look f { s with nextID := n } r k = look f s r k := rfl

theorem look_getD (hf0 : f emptyRepo = []) (s : State) (r k : Bytes) :
    look f s r k = alookup k (f ((getRepo s r).getD emptyRepo)) := by
  unfold look
  cases getRepo s r with
  | none => rw [Option.getD_none, hf0]; rfl
  | some rp => rfl

variable {f} in
theorem Touch.look {H : Bytes → Bytes} {s s' : State} {op : Op} {out : Out} (hf0 : f emptyRepo = [])
    (ht : Touch H s op out s') (r k : Bytes) :
    look f s' r k = look f s r k ∨
    ∃ rp', op.target = r ∧ Change H s op out ((getRepo s r).getD emptyRepo) rp' ∧
      look f s r k = alookup k (f ((getRepo s r).getD emptyRepo)) ∧ look f s' r k = alookup k (f rp') := by
  rcases ht with rfl | ⟨rp', n, rfl, hc⟩
  · exact .inl rfl
  · by_cases hr : op.target = r
    · subst hr
      exact .inr ⟨rp', rfl, hc, look_getD f hf0 s _ k, by rw [look_setNextID, look_putRepo, if_pos rfl]⟩
    · exact .inl (by rw [look_setNextID, look_putRepo, if_neg hr])

end Look

/-! ### Frames: which operation, with which answer, changes a lookup -/

theorem blob_frame (s : State) (op : Op) (r d : Bytes) :
    look (·.blobs) (step H s op).1 r d = look (·.blobs) s r d
    ∨ (∃ desc data, op = .pushBlob r desc data ∧ desc.digest = d ∧ (step H s op).2 = .okDesc desc
        ∧ look (·.blobs) (step H s op).1 r d = some ⟨desc.mediaType, data, [], []⟩)
    ∨ (∃ id rp b, op = .wCommit r id d ∧ getBuffer s r id = some (rp, b)
        ∧ (step H s op).2 = .okDesc ⟨octetStream, d, b.buf.length⟩
        ∧ look (·.blobs) (step H s op).1 r d = some ⟨octetStream, b.buf, [], []⟩)
    ∨ (∃ fromR b, op = .mount fromR r d ∧ blobFor s fromR d = .ok b
        ∧ (step H s op).2 = .okDesc (descOf H b)
        ∧ look (·.blobs) (step H s op).1 r d = some b)
    ∨ (op = .deleteBlob r d ∧ (step H s op).2 = .okUnit ∧ look (·.blobs) (step H s op).1 r d = none) := by
  obtain h | ⟨rp', rfl, hc, h0, h1⟩ := (step_touch H s op).look (f := (·.blobs)) rfl r d
  · exact .inl h
  · rw [h0, h1]
    generalize (step H s op).2 = out at hc ⊢
    generalize (getRepo s op.target).getD emptyRepo = rp at hc ⊢
    cases hc with
    | same | buffer | pushManifest | deleteManifest | deleteTag => exact .inl rfl
    | @pushBlob _ desc data _ hc =>
      by_cases hd : desc.digest = d
      · subst hd; exact .inr (.inl ⟨desc, data, rfl, rfl, rfl, alookup_ainsert_eq ..⟩)
      · exact .inl (alookup_ainsert_ne hd ..)
    | @commit _ id dig _ b hb hd =>
      by_cases hd : dig = d
      · subst hd; exact .inr (.inr (.inl ⟨id, rp, b, rfl, hb, rfl, alookup_ainsert_eq ..⟩))
      · exact .inl (alookup_ainsert_ne hd ..)
    | @mount fromR _ d0 _ b hb =>
      by_cases hd : d0 = d
      · subst hd; exact .inr (.inr (.inr (.inl ⟨fromR, b, rfl, hb, rfl, alookup_ainsert_eq ..⟩)))
      · exact .inl (alookup_ainsert_ne hd ..)
    | @deleteBlob _ d0 _ _ =>
      by_cases hd : d0 = d
      · subst hd; exact .inr (.inr (.inr (.inr ⟨rfl, rfl, alookup_aerase_eq ..⟩)))
      · exact .inl (alookup_aerase_ne hd ..)

theorem manifest_frame (s : State) (op : Op) (r d : Bytes) :
    look (·.manifests) (step H s op).1 r d = look (·.manifests) s r d
    ∨ (∃ t data mt dec rs subj, op = .pushManifest r t data mt dec ∧ H data = d
        ∧ (step H s op).2 = .okDesc ⟨mt, d, data.length⟩
        ∧ decRefs dec = some rs ∧ checkRefs ((getRepo s r).getD emptyRepo) rs [] = some subj
        ∧ look (·.manifests) (step H s op).1 r d = some ⟨mt, data, subj, rs⟩)
    ∨ (op = .deleteManifest r d ∧ (step H s op).2 = .okUnit
        ∧ look (·.manifests) (step H s op).1 r d = none) := by
  obtain h | ⟨rp', rfl, hc, h0, h1⟩ := (step_touch H s op).look (f := (·.manifests)) rfl r d
  · exact .inl h
  · rw [h0, h1]
    generalize (step H s op).2 = out at hc ⊢
    generalize (getRepo s op.target).getD emptyRepo = rp at hc ⊢
    cases hc with
    | same | buffer | pushBlob | commit | mount | deleteBlob | deleteTag => exact .inl rfl
    | @pushManifest _ t data mt dec _ rs subj _ _ _ hdec hchk =>
      by_cases hd : H data = d
      · subst hd
        exact .inr (.inl ⟨t, data, mt, dec, rs, subj, rfl, rfl, rfl, hdec, hchk, alookup_ainsert_eq ..⟩)
      · exact .inl (alookup_ainsert_ne hd ..)
    | @deleteManifest _ d0 _ _ =>
      by_cases hd : d0 = d
      · subst hd; exact .inr (.inr ⟨rfl, rfl, alookup_aerase_eq ..⟩)
      · exact .inl (alookup_aerase_ne hd ..)

theorem tag_frame (s : State) (op : Op) (r d : Bytes) :
    look (·.tags) (step H s op).1 r d = look (·.tags) s r d
    ∨ (∃ data mt dec, op = .pushManifest r d data mt dec ∧ d ≠ []
        ∧ (step H s op).2 = .okDesc ⟨mt, H data, data.length⟩
        ∧ look (·.tags) (step H s op).1 r d = some ⟨mt, H data, data.length⟩)
    ∨ (op = .deleteTag r d ∧ (step H s op).2 = .okUnit
        ∧ look (·.tags) (step H s op).1 r d = none) := by
  obtain h | ⟨rp', rfl, hc, h0, h1⟩ := (step_touch H s op).look (f := (·.tags)) rfl r d
  · exact .inl h
  · rw [h0, h1]
    generalize (step H s op).2 = out at hc ⊢
    generalize (getRepo s op.target).getD emptyRepo = rp at hc ⊢
    cases hc with
    | same | buffer | pushBlob | commit | mount | deleteBlob | deleteManifest => exact .inl rfl
    | @pushManifest _ t data mt dec _ _ _ =>
      rw [storeManifest_tags]
      by_cases ht : t = []
      · exact .inl (by rw [if_neg (not_not_intro ht)])
      · rw [if_pos ht]
        by_cases hd : t = d
        · subst hd; exact .inr (.inl ⟨data, mt, dec, rfl, ht, rfl, alookup_ainsert_eq ..⟩)
        · exact .inl (alookup_ainsert_ne hd ..)
    | @deleteTag _ t _ _ =>
      by_cases hd : t = d
      · subst hd; exact .inr (.inr ⟨rfl, rfl, alookup_aerase_eq ..⟩)
      · exact .inl (alookup_aerase_ne hd ..)


/-! ### Push then read -/

theorem push_then_get {s s1 : State} {r : Bytes} {desc dd : Desc} {data : Bytes}
    (h : step H s (.pushBlob r desc data) = (s1, .okDesc dd)) :
    step H s1 (.getBlob r desc.digest) = (s1, .okRead ⟨desc.mediaType, H data, data.length⟩ data) := by
  simp only [step] at h
  split at h
  · cases h
  · split at h
    · cases h
    · cases h
      simp [step, blobFor, getRepo_putRepo_eq, alookup_ainsert_eq, descOf]

theorem push_mismatch_rejected (s : State) (r : Bytes) {desc : Desc} {data : Bytes}
    (h : H data ≠ desc.digest ∨ desc.size ≠ data.length) :
    ∃ e, step H s (.pushBlob r desc data) = (s, .err e) := by
  obtain ⟨e, he⟩ := checkDescData_mismatch H h
  exact ⟨e, by simp [step, he]⟩

theorem getRepo_putRepo_map {γ} (f : Repo → γ) {s : State} {r : Bytes} {rp rp' : Repo}
    (hg : getRepo s r = some rp) (hf : f rp' = f rp) (r' : Bytes) :
    (getRepo (putRepo s r rp') r').map f = (getRepo s r').map f := by
  rw [getRepo_putRepo]
  by_cases h : r = r'
  · subst h; simp [hg, hf]
  · simp [h]

theorem commit_mismatch_stores_nothing {s : State} {r id dig : Bytes} {rp : Repo} {b : Buffer}
    (hb : getBuffer s r id = some (rp, b)) (hne : H b.buf ≠ dig) :
    (∃ e, (step H s (.wCommit r id dig)).2 = .err e) ∧
    ∀ r', (getRepo (step H s (.wCommit r id dig)).1 r').map (·.blobs) = (getRepo s r').map (·.blobs) ∧
          (getRepo (step H s (.wCommit r id dig)).1 r').map (·.manifests) = (getRepo s r').map (·.manifests) ∧
          (getRepo (step H s (.wCommit r id dig)).1 r').map (·.tags) = (getRepo s r').map (·.tags) := by
  have hg := (getBuffer_spec hb).1
  simp only [step, hb]
  split
  · exact ⟨⟨_, rfl⟩, fun r' => ⟨rfl, rfl, rfl⟩⟩
  · rw [if_pos hne]
    refine ⟨⟨_, rfl⟩, fun r' => ⟨?_, ?_, ?_⟩⟩
    · exact getRepo_putRepo_map (·.blobs) hg (by rfl) r'
    · exact getRepo_putRepo_map (·.manifests) hg (by rfl) r'
    · exact getRepo_putRepo_map (·.tags) hg (by rfl) r'

/-! ### Manifest push: what acceptance implies, and what the tag then resolves to -/

theorem checkRefs_some {rp : Repo} {rs : List RefInfo} {subj0 subj : Bytes}
    (h : checkRefs rp rs subj0 = some subj) :
    ∀ ref ∈ rs, checkDescNil ref.desc = true ∧
      (ref.kind = 0 → (alookup ref.desc.digest rp.blobs).isSome = true) ∧
      (ref.kind = 1 → (alookup ref.desc.digest rp.manifests).isSome = true) := by
  induction rs generalizing subj0 with
  | nil => intro ref hr; cases hr
  | cons x xs ih =>
    -- the head passes its checks, and the walk goes on over the tail with some subject
    have hx : (checkDescNil x.desc = true ∧
        (x.kind = 0 → (alookup x.desc.digest rp.blobs).isSome = true) ∧
        (x.kind = 1 → (alookup x.desc.digest rp.manifests).isSome = true)) ∧
        ∃ s1, checkRefs rp xs s1 = some subj := by
      unfold checkRefs at h
      cases hc : checkDescNil x.desc
      · simp [hc] at h
      · simp only [hc, Bool.not_true, Bool.false_eq_true, if_false] at h
        by_cases h0 : x.kind = 0
        · simp only [h0, if_true] at h
          cases hb : (alookup x.desc.digest rp.blobs).isSome
          · simp [hb] at h
          · simp only [hb, if_true] at h
            exact ⟨⟨rfl, fun _ => rfl, fun h1 => by omega⟩, _, h⟩
        · simp only [h0, if_false] at h
          by_cases h1 : x.kind = 1
          · simp only [h1, if_true] at h
            cases hb : (alookup x.desc.digest rp.manifests).isSome
            · simp [hb] at h
            · simp only [hb, if_true] at h
              exact ⟨⟨rfl, fun h => absurd h h0, fun _ => rfl⟩, _, h⟩
          · simp only [h1, if_false] at h
            exact ⟨⟨rfl, fun h => absurd h h0, fun h => absurd h h1⟩, _, h⟩
    obtain ⟨hhead, s1, htail⟩ := hx
    intro ref hr
    rcases List.mem_cons.mp hr with rfl | hr
    · exact hhead
    · exact ih htail ref hr

theorem tag_resolves_last_push {s s1 : State} {r t data mt : Bytes} {dec : Decoded} {dd : Desc}
    (h : step H s (.pushManifest r t data mt dec) = (s1, .okDesc dd)) (ht : t ≠ []) :
    step H s1 (.resolveTag r t) = (s1, .okDesc dd) ∧ dd.digest = H data := by
  rcases pushManifest_cases H h with ⟨e, he, _⟩ | ⟨rp, cur, _, _, _, _, hg, hl, hd, _, rfl, hdd⟩ |
    ⟨s2, rp, rs, subj, hm, _, _, _, _, _, _, rfl, hdd⟩
  · cases he
  · cases hdd; exact ⟨step_resolveTag_of H hg hl, hd⟩
  · cases hdd
    refine ⟨step_resolveTag_of H (getRepo_putRepo_eq _ _ _) ?_, rfl⟩
    rw [storeManifest_tags, if_pos ht, alookup_ainsert_eq]

theorem tag_gets_last_push {s s1 : State} {r t data mt : Bytes} {dec : Decoded} {dd : Desc}
    (h : step H s (.pushManifest r t data mt dec) = (s1, .okDesc dd)) (ht : t ≠ [])
    (hfresh : s.immutableTags = false ∨ ∀ rp, getRepo s r = some rp → alookup t rp.tags = none) :
    step H s1 (.getTag r t) = (s1, .okRead ⟨mt, H data, data.length⟩ data) := by
  rcases pushManifest_cases H h with ⟨e, he, _⟩ | ⟨rp, cur, _, hi, _, _, hg, hl, _⟩ |
    ⟨s2, rp, rs, subj, hm, _, _, _, _, _, _, rfl, _⟩
  · cases he
  · rcases hfresh with hf | hf
    · rw [hi] at hf; cases hf
    · rw [hf rp hg] at hl; cases hl
  · exact step_getTag_of H (td := ⟨mt, H data, data.length⟩) (b := ⟨mt, data, subj, rs⟩)
      (getRepo_putRepo_eq _ _ _) (by rw [storeManifest_tags, if_pos ht, alookup_ainsert_eq])
      (alookup_ainsert_eq ..)

theorem manifest_accepted_only_if {s s1 : State} {r t data mt : Bytes} {dec : Decoded} {dd : Desc}
    (h : step H s (.pushManifest r t data mt dec) = (s1, .okDesc dd)) :
    Ref.isRepo r = true ∧ (t = [] ∨ Ref.isTag t = true) ∧
    ((s1 = s ∧ t ≠ [] ∧ s.immutableTags = true ∧
        ∃ rp, getRepo s r = some rp ∧ alookup t rp.tags = some dd ∧ dd.digest = H data ∧ dd.mediaType = mt)
     ∨ (dd = ⟨mt, H data, data.length⟩ ∧ Ref.isDigest (H data) = true ∧ mt ≠ [] ∧ dec ≠ .malformed ∧
        retyped s.immutableTags ((getRepo s r).getD emptyRepo) (H data) mt = false ∧
        ∃ rs, decRefs dec = some rs ∧
          ∀ ref ∈ rs, checkDescNil ref.desc = true ∧
            (ref.kind = 0 → (alookup ref.desc.digest ((getRepo s r).getD emptyRepo).blobs).isSome = true) ∧
            (ref.kind = 1 → (alookup ref.desc.digest ((getRepo s r).getD emptyRepo).manifests).isSome = true))) := by
  rcases pushManifest_cases H h with ⟨e, he, _⟩ | ⟨rp, cur, ht, hi, hrepo, htag, hg, hl, hd, hmt, rfl, hdd⟩ |
    ⟨s2, rp, rs, subj, hm, htag, _, hre, hcd, hdec, hchk, _, hdd⟩
  · cases he
  · cases hdd
    exact ⟨hrepo, Or.inr htag, Or.inl ⟨rfl, ht, hi, rp, hg, hl, hd, hmt⟩⟩
  · cases hdd
    have hc := checkDescData_none H hcd
    rw [makeRepo_rp hm] at hre hchk
    refine ⟨(makeRepo_spec hm).1, htag, Or.inr ⟨rfl, hc.1, hc.2.2.2, ?_, hre, rs, hdec, checkRefs_some hchk⟩⟩
    rintro rfl; cases hdec

end OciModel.Mem
