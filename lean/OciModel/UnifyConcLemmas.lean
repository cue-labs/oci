/-
Lemmas about the transition system of `UnifyConc.lean`: implication on `Bool`s, and schedules written
down by their choices.
-/
import OciModel.UnifyConc

namespace OciModel.UnifyConc

theorem imp_eq_true {a b : Bool} : imp a b = true ↔ (a = true → b = true) := by
  cases a <;> simp [imp]

/-- The state after taking, from `s`, the transitions at positions `p` of the successive `step cfg ·` lists:
a schedule written down by its choices. -/
def follow (cfg : Cfg) (s : St) : List Nat → Option St
  | [] => some s
  | k :: p => (step cfg s)[k]?.bind (follow cfg · p)

theorem reach_follow {cfg : Cfg} {s s' : St} (h : Reach cfg s) (p : List Nat) (hp : follow cfg s p = some s') :
    Reach cfg s' := by
  induction p generalizing s with
  | nil => cases hp; exact h
  | cons k p ih =>
    obtain ⟨t, ht, hp⟩ := Option.bind_eq_some_iff.1 hp
    exact ih (Reach.step h (List.mem_of_getElem? ht)) hp

end OciModel.UnifyConc
